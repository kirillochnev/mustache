import Mustache.Proofs.LifeCheck
import Mustache.Proofs.LifeCount
import Mustache.Driver.World
/-!
# C03 — every component instance is constructed once and destroyed once: the lifecycle event log

Model: `Model/Lifecycle.lean`. `WM.events info w op` lists, in the order of the C++, the constructor / copy- /
move-constructor / move-assignment / destructor calls of one API call on state `w` (slots = (archetype, component,
row) and (thread, command number) for temporaries parked in command buffers); `accepts` is the per-slot automaton
dead → live → dead (construct only over a dead slot; destroy, move-from, copy-from and move-assign-to only on live
slots; a moved-from instance stays live until destroyed); `slotsOf w` is the live-slot set the state `w` implies:
`{(a,c,i) | c ∈ mask a ∧ i < |rows a|}` ∪ one slot per recorded `assign` command.

Tie to the code: `harness/world_driver.cpp` (`events on`) prints after every call the numbers of special-member
calls of the instrumented types B and G; `driver world` prints the same counts from `WM.events`; tools/props/c03.py
diffs them on every op file.

Well-formedness (`StepOk`): `MasksOk w` (archetype masks sorted, duplicate-free: clause 4 of `C02.RowInv`) and
`OpOk info w op`, the contract of DESIGN.md 3.3 on the model state: unguarded entry points (`assign`, builder
`end()`, `assignShared`) get an entity whose location is a row of its archetype (`LocIn`, a consequence of
`Rows.Located`, the hypothesis of C02); `assign<C>(e, args)` / builder `assign<C>` only for a component the entity lacks, builder arguments
pairwise distinct; calls recorded under lock come from a thread that owns a command buffer; every pack flushed by
the outermost `unlock` meets `PackLifeOK` in the state it is applied to (creation: sorted mask; other packs: the
target, if still valid, sits at a row of its archetype: a consequence of `Rows.PackOK`, the pack contract of C02). NOTHING is assumed about archetype masks being
closed under the dependency table: a dependency may be declared after an archetype holding the master exists (an
entity whose set a pack does not change stays in its archetype without a lookup; a changed set is looked up whatever
the old mask was), see `lateHist` below.
-/
namespace Mustache.Props.C03Life
open Mustache.Model Mustache.Proofs.Life Mustache.Proofs.Rows

abbrev cat := Mustache.Driver.World.catalogue

variable (info : CompId → CompInfo)

/-! ## the automaton really rejects -/

example : accepts SlotState.empty [.construct (.stored 0 1 0), .construct (.stored 0 1 0)] = none := by decide
example : accepts SlotState.empty [.destroy (.stored 0 1 0)] = none := by decide
example : accepts SlotState.empty [.construct (.stored 0 1 0), .destroy (.stored 0 1 0), .destroy (.stored 0 1 0)] = none := by
  decide
example : accepts SlotState.empty [.moveConstruct (.stored 0 1 0) (.temp 0 0 1)] = none := by decide
example : (accepts SlotState.empty [.construct (.temp 0 0 1), .moveConstruct (.stored 0 1 0) (.temp 0 0 1),
    .destroy (.temp 0 0 1)]).map (fun s => (s (.stored 0 1 0), s (.temp 0 0 1))) = some (true, false) := by decide

/-- the lifecycle events of ONE API call on a well-formed state are accepted by the per-slot automaton, started
from the live-slot set of the state before, and end in the live-slot set of the model's next state -/
theorem step_events_accepted (w : WM) (op : Op Handle) (h : StepOk info w op) :
    accepts (slotsOf w) (w.events info op) = some (slotsOf (w.step info op).1) :=
  (step_callOk info w op h.2).acc h.1

/-- the three archetype primitives, any state, any frame of parked temporaries -/
theorem archInsert_events_accepted (w : WM) (ai : Nat) (e : Handle) (hai : ai < w.archs.length)
    (hm : MasksOk w) :
    accepts (slotsOf w) (w.archInsertEvents ai []) = some (slotsOf (w.archInsert info ai e []).1) :=
  slots_of_live (archInsert_sameTable info w ai e []).bt
    ((archInsert_newRow info w _ (tempOnly_tempLive _) ai e [] hai hm).done (filter_contains_nil _))

/-- `Archetype::remove`: last row, any other row (move-assign from the last row, then destroy it), or an index
outside the archetype (nothing happens) -/
theorem archRemove_events_accepted (w : WM) (ai idx : Nat) (sk : Mask) (hm : MasksOk w) :
    accepts (slotsOf w) (w.archRemoveEvents ai idx) = some (slotsOf (w.archRemove info ai idx sk).1) :=
  slots_of_live (archRemove_bt info w ai idx sk)
    (archRemove_accepts info w _ (tempOnly_tempLive _) ai idx sk (maskOk_nodup (hm ai)))

/-- `Archetype::externalMove` without skip mask: move-construct what the source has, construct the rest, then the
swap-remove of the source row -/
theorem externalMove_events_accepted (w : WM) (t : Nat) (e : Handle) (p idx : Nat) (htp : t ≠ p)
    (ht : t < w.archs.length) (hidx : idx < (w.arch p).rows.length) (hm : MasksOk w) :
    ∃ w' cbs, w.externalMove info t e p idx [] = some (w', cbs) ∧
      accepts (slotsOf w) (w.externalMoveEvents t p idx []) = some (slotsOf w') := by
  obtain ⟨⟨w', cbs⟩, hx⟩ := externalMove_some info w t e p idx [] htp
  exact ⟨w', cbs, hx, slots_of_live (externalMove_sameTable info w t e p idx [] _ hx).bt
    ((externalMove_newRow info w _ (tempOnly_tempLive _) t e p idx [] ht hidx hm _ hx).done
      (filter_and_contains_nil _ _))⟩

/-- `onUnlock`: the supplied values are move-constructed out of the buffers, then every temporary is destroyed -/
theorem flush_events_accepted (w : WM) (hm : MasksOk w)
    (hok : PacksLifeOK info (detached w) (w.buffers.map packs).flatten) :
    accepts (slotsOf w) (w.flushEvents info) = some (slotsOf (w.flush info).1) :=
  (flush_callOk info w hok).acc hm

/-- for every history whose calls meet their preconditions, the whole event log is accepted and ends in the
live-slot set of the final state: nothing is constructed over a live instance, nothing dead is destroyed, moved
from or assigned to, and what is live at the end is exactly what the final state holds -/
theorem run_events_accepted (w : WM) (ops : List (Op Handle)) (h : RunOk info w ops) :
    accepts (slotsOf w) (runEvents info w ops) = some (slotsOf (run info w ops)) :=
  (run_accepts info w ops h).1

/-- from the empty world -/
theorem slotsOf_init : slotsOf ({} : WM) = SlotState.empty := by
  funext y; cases y <;> rfl

theorem run_events_accepted_init (ops : List (Op Handle)) (h : RunOk info {} ops) :
    accepts SlotState.empty (runEvents info {} ops) = some (slotsOf (run info {} ops)) := by
  rw [← slotsOf_init]; exact run_events_accepted info {} ops h

/-- world teardown at ANY point of a history (also while locked, with non-empty command buffers): after the
destructor calls of the teardown no slot is live -/
theorem teardown_leaves_nothing (w : WM) (ops : List (Op Handle)) (h : RunOk info w ops) :
    accepts (slotsOf w) (runEvents info w ops ++ (run info w ops).teardownEvents) = some SlotState.empty :=
  accepts_append_of (run_accepts info w ops h).1 (teardown_accepts _ (run_accepts info w ops h).2)

/-- counting consequence: a log accepted from the duplicate-free live set `xs` that ends with nothing live has
`|xs|` more destructions than constructions (copy- and move-constructions count as constructions). That between two
constructions of one slot there is exactly one destruction of it is not this statement but what acceptance by the
automaton means. -/
theorem balanced_of_accepted (evs : List Event) (s s' : SlotState) (h : accepts s evs = some s') (xs : List LSlot)
    (hs : ∀ y, s y = true ↔ y ∈ xs) (hnd : xs.Nodup) (hs' : s' = SlotState.empty) :
    xs.length + createCount evs = destroyCount evs := by
  rcases accepted_count evs s s' h xs hs hnd with ⟨xs', h1, _, h3⟩
  have : xs' = [] := by
    cases xs' with
    | nil => rfl
    | cons y ys =>
      have := (h1 y).mpr (List.mem_cons_self ..)
      rw [hs'] at this; cases this
  rw [this, List.length_nil, Nat.zero_add] at h3
  exact h3.symm

/-- the live slots of component `c` are enumerated without repetition by `liveSlotsOf w c` -/
theorem liveSlotsOf_spec (w : WM) (c : CompId) (hm : MasksOk w) :
    (∀ y, y ∈ liveSlotsOf w c ↔ (slotsOf w y = true ∧ y.comp = c)) ∧ (liveSlotsOf w c).Nodup :=
  ⟨mem_liveSlotsOf w c, liveSlotsOf_nodup w c hm⟩

/-- `|slotsOf w restricted to c| = w.liveCount c` whenever the model's counter of parked temporaries of `c` agrees
with the command buffers (`TempsAgree`; for the instrumented components an invariant of every call: `temps_agree_step`) -/
theorem live_count_eq (w : WM) (c : CompId) (ht : TempsAgree w c) :
    (liveSlotsOf w c).length = w.liveCount c := by
  unfold liveSlotsOf WM.liveCount
  rw [List.length_append, ← ht]
  unfold storedSlotsOf
  have := storedSlotsOf_length_aux c w.archs 0 0
  rw [Nat.add_zero] at this
  rw [this]; rfl

/-- the counter of parked temporaries stays in agreement with the command buffers along every call -/
theorem temps_agree_step (w : WM) (op : Op Handle) (hop : OpOk info w op) (h : TempsInv info w) :
    TempsInv info (w.step info op).1 :=
  (step_callOk info w op hop).temps h

/-- after every history from the empty world: the live slots of an instrumented component `c` are as many as the
model's live-instance count (what the drivers print as `L B=… G=…` and compare with the implementation) -/
theorem live_count_eq_run (ops : List (Op Handle)) (h : RunOk info {} ops) (c : CompId)
    (hc : (info c).counted = true) :
    (liveSlotsOf (run info {} ops) c).length = (run info {} ops).liveCount c :=
  live_count_eq _ c (tempsInv_agree (tempsInv_run info {} ops h (tempsInv_init info)) c hc)

/-! ## the preconditions in the vocabulary of C02 -/

/-- clause 4 of `C02.RowInv` (`KeysOK`) gives the mask hypothesis -/
theorem masksOk_of_rowInv_keys {w : WM} (hk : KeysOK w) : MasksOk w := masksOk_of_keys hk

/-- `Rows.Located`, the hypothesis of C02 (the operand's location is its own row), gives `LocIn` -/
theorem locIn_of_located' {w : WM} {e : Handle} (h : Located w e) : LocIn w e := by
  intro pi hpi
  rcases h pi hpi with ⟨r, hr, _⟩
  exact idx_lt_of_row hr

/-- `Rows.PackOK`, the pack contract of C02, alone gives `PackLifeOK` (no closedness of the archetype masks under the
dependency table, no uniqueness of keys) -/
theorem packLifeOK_of_packOK {w : WM} (pack : List Cmd) (hp : PackOK w pack) : PackLifeOK w pack := by
  cases pack with
  | nil => trivial
  | cons first rest =>
    cases first with
    | create e m s => exact hp.2.2
    | _ => exact packLifeOK_of_locIn rfl fun _ => locIn_of_located' hp

/-! ## non-vacuity: a concrete history through every kind of call -/

def e0 : Handle := ⟨0, 0, 0⟩
def e1 : Handle := ⟨1, 0, 0⟩
def e2 : Handle := ⟨2, 0, 0⟩
def e3 : Handle := ⟨3, 0, 0⟩

/-- B = 1, G = 6, H = 7 of the harness catalogue -/
def hist : List (Op Handle) :=
  [ .create 0 [1] [], .create 0 [1, 6] [], .assign 0 e0 6 (some 5), .create 0 [1] [], .create 0 [1] [],
    .destroyNow 0 e2, .clone e1, .lock, .assign 0 e3 6 (some 7), .remove 0 e3 1, .buildNew 0 [(1, some 3)],
    .assign 0 e0 7 none, .unlock, .build 0 e0 [(2, none)] [1], .destroy 0 e1, .update, .clearArch [1, 6] ]

theorem hist_runOk : RunOk cat {} hist := runOk_of_check cat hist {} (by decide +kernel)

example : RunOk cat {} hist := hist_runOk
example : StepOk cat (run cat {} (hist.take 12)) .unlock := hist_runOk.stepOk_at cat 12 .unlock rfl
/-- (constructs, move-constructs, move-assigns, destroys) of B and of G along the history: every kind occurs -/
example : evCount (runEvents cat {} hist) 1 = (6, 3, 3, 8) ∧ evCount (runEvents cat {} hist) 6 = (4, 3, 2, 5) := by
  decide +kernel
example : (evCount ((run cat {} hist).teardownEvents) 1, evCount ((run cat {} hist).teardownEvents) 6) =
    ((0, 0, 0, 1), (0, 0, 0, 2)) := by decide +kernel
example : (run cat {} (hist.take 12)).liveCount 6 = 4 ∧
    (liveSlotsOf (run cat {} (hist.take 12)) 6).length = 4 := by decide +kernel
example : (cat 6).counted = true ∧ (cat 1).counted = true := by decide
example : PackOK (run cat {} (hist.take 8)) [Cmd.assign e3 6 (some 7)] ∧ KeysOK (run cat {} (hist.take 8)) :=
  ⟨located_of_row (rowsOK_of_check (by decide +kernel)) (inRowAt_of_check (by decide +kernel) : InRowAt _ e3 0 0),
   keysOK_of_check (by decide +kernel)⟩

/-! ## a dependency declared AFTER an archetype holding the master exists -/

/-- `e0` is created with B; then "B requires G" is declared (the archetype {B} stays as it is, so from here on its mask is not
closed under the table); under lock H is assigned to `e0` with a value, B is re-assigned (stale instance replaced in
place) of a second entity `e1`, whose set does not change: it stays in the unclosed {B} (destroy + move-construct in
row 0 of archetype 0, G is NOT added), while the flush moves `e0` to {B,G,H}; a second round re-assigns B of `e1`
again and destroys `e0` -/
def lateHist : List (Op Handle) :=
  [ .create 0 [1] [], .create 0 [1] [], .dep 1 [6], .lock, .assign 0 e0 7 (some 9), .assign 0 e1 1 (some 4), .unlock,
    .lock, .assign 0 e1 1 (some 5), .destroy 0 e0, .unlock, .update ]

theorem lateHist_runOk : RunOk cat {} lateHist := runOk_of_check cat lateHist {} (by decide +kernel)

/-- the hypotheses of `run_events_accepted_init` hold for it … -/
example : RunOk cat {} lateHist := lateHist_runOk
/-- … although the archetype the deferred commands find the entities in is NOT closed under the table -/
example : let w := run cat {} (lateHist.take 6)
    (w.locOf e0).arch = some 0 ∧ (w.arch 0).mask = [1] ∧ closedMask w.deps (w.arch 0).mask = [1, 6] := by decide +kernel
/-- after the first flush `e0` sits in {B,G,H}, `e1` still in the unclosed {B} -/
example : let w := run cat {} (lateHist.take 7)
    ((w.locOf e0).arch.map (fun a => (w.arch a).mask), (w.locOf e1).arch.map (fun a => (w.arch a).mask)) =
      (some [1, 6, 7], some [1]) := by decide +kernel
example : accepts SlotState.empty (runEvents cat {} lateHist) = some (slotsOf (run cat {} lateHist)) :=
  run_events_accepted_init cat lateHist lateHist_runOk
example : accepts SlotState.empty (runEvents cat {} lateHist ++ (run cat {} lateHist).teardownEvents) =
    some SlotState.empty := by
  have := teardown_leaves_nothing cat {} lateHist lateHist_runOk
  rwa [slotsOf_init] at this
/-- the counts of B and G along it and at teardown -/
example : (evCount (runEvents cat {} lateHist) 1, evCount (runEvents cat {} lateHist) 6,
    evCount ((run cat {} lateHist).teardownEvents) 1, evCount ((run cat {} lateHist).teardownEvents) 6) =
    ((4, 3, 1, 6), (1, 0, 0, 1), (0, 0, 0, 1), (0, 0, 0, 0)) := by decide +kernel

end Mustache.Props.C03Life
