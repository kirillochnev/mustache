import Mustache.Proofs.IdTableEvents
import Mustache.Proofs.IdTablePack
/-!
# C01 — a handle is valid exactly while the entity it was issued for is alive

Model: `Mustache.Model.Tab` (`Model/IdTable.lean`), the id-table part of the world model WM; each
`Tab` operation is what the WM operation named in its comment does to that part
(`Proofs/IdTableRefine.lean`, `IdTablePack.lean`), and WM is tied to the C++ by the `world`
correspondence harness.

A history is a list of table-level operations `TOp` (unlocked creation, checked `destroyNow` of ANY
handle, `lock`, creation under lock, `unlock` with the table effects of the flush — slot installs of the
reserved handles in ANY order, interleaved with checked destructions —, `clearArchetype`, `destroy` +
`update`). `run wid h` executes it and records the event log `evs` (handle returned / creation took
effect / destruction took effect). `aliveB`, `issuedOf`, `reservedB` read that log only.

Hypotheses of every theorem, all decidable on a concrete history:
* `WF wid h` — contract: unlocked creation only while unlocked, creation-under-lock only while locked,
  the installs of a flush are an ordering of the pending reservations, `clearArchetype` rows are alive and
  pairwise distinct, `update` visits exactly the marked handles;
* `NoWrap` — no issued handle carries version `2^24-1` (the id was recycled fewer than `2^24` times;
  the wrap itself is C16 `next_version`);
* `InRange` — the table has at most `2^30-1` slots, so every id in it is below the null id `2^30-1`.
All three are prefix-closed, so each theorem holds after every step of every such history.
-/
namespace Mustache.Props.C01
open Mustache.Model
open Mustache.Proofs.IdTable

/-- unlocked create / destroy / recycle, a locked section with two creations flushed in the opposite
order (one of them destroyed in its own pack), a deferred destroy executed by `update`, `clearArchetype` -/
def sample : List TOp :=
  [.alloc, .alloc, .destroyNow ⟨0, 0, 0⟩, .alloc, .lock, .reserve, .lock, .reserve, .unlock [],
   .destroyNow ⟨7, 7, 7⟩, .mark ⟨1, 0, 0⟩,
   .unlock [.install ⟨3, 0, 0⟩, .kill ⟨2, 0, 0⟩, .kill ⟨3, 0, 0⟩, .install ⟨2, 0, 0⟩],
   .update [⟨1, 0, 0⟩], .alloc, .clear [⟨0, 1, 0⟩]]

/-- the same up to the middle of the locked section -/
def sampleLocked : List TOp := sample.take 8

example : WF 0 sample ∧ NoWrap (run 0 sample) ∧ InRange (run 0 sample) := by decide +kernel
example : WF 0 sampleLocked ∧ NoWrap (run 0 sampleLocked) ∧ InRange (run 0 sampleLocked) := by decide +kernel
example : issuedOf (run 0 sample).evs = [⟨0, 0, 0⟩, ⟨1, 0, 0⟩, ⟨0, 1, 0⟩, ⟨2, 0, 0⟩, ⟨3, 0, 0⟩, ⟨1, 1, 0⟩] := by decide +kernel

/-- **Validity is aliveness, for ANY handle** (issued or forged, any bit pattern): after every
well-formed history `isEntityValid h` answers exactly whether the history made `h` alive — its creation
took effect (at once, or at the install of the outermost unlock) and no destruction of it (checked
`destroyNow`, `update` after `destroy`, `clearArchetype`) took effect since. -/
theorem valid_iff_alive_any (wid : Nat) (ops : List TOp) (hwf : WF wid ops) (hw : NoWrap (run wid ops))
    (hr : InRange (run wid ops)) (h : Handle) :
    (run wid ops).tab.valid h = aliveB (run wid ops).evs h := by
  have ⟨si, ok⟩ := run_all wid ops hwf hr hw
  rw [Bool.eq_iff_iff, valid_iff_live_any si.tinv hr h, ok.alive h]

/-- the statement of the property: every handle ever returned by a creation call is valid exactly
while alive. (Corollary of `valid_iff_alive_any`; "re-queried after every step" = the theorem holds for
every prefix, since the hypotheses are prefix-closed.) -/
theorem valid_iff_alive (wid : Nat) (ops : List TOp) (hwf : WF wid ops) (hw : NoWrap (run wid ops))
    (hr : InRange (run wid ops)) (e : Handle) (_he : e ∈ issuedOf (run wid ops).evs) :
    (run wid ops).tab.valid e = aliveB (run wid ops).evs e :=
  valid_iff_alive_any wid ops hwf hw hr e

example : (issuedOf (run 0 sample).evs).map (fun e => ((run 0 sample).tab.valid e, aliveB (run 0 sample).evs e)) =
    [(false, false), (false, false), (false, false), (true, true), (false, false), (true, true)] := by decide +kernel
/-- a never-issued pattern matching the version stored in a free slot is not valid -/
example : (run 0 sample).tab.valid ⟨0, 2, 0⟩ = false ∧ (run 0 sample).tab.slots[0]? = some ⟨3, 2⟩ := by decide +kernel

/-- **false for ever after destruction**: a handle whose creation took effect and that is not alive any
more is never valid again, however the history continues (its id may be recycled any number of times) -/
theorem dead_forever (wid : Nat) (ops ext : List TOp) (hwf : WF wid (ops ++ ext))
    (hw : NoWrap (run wid (ops ++ ext))) (hr : InRange (run wid (ops ++ ext)))
    (e : Handle) (he : e ∈ issuedOf (run wid ops).evs) (hres : reservedB (run wid ops).evs e = false)
    (hdead : aliveB (run wid ops).evs e = false) :
    (run wid (ops ++ ext)).tab.valid e = false ∧ aliveB (run wid (ops ++ ext)).evs e = false := by
  have ⟨hwf0, hw0, hr0, hwf1, e1⟩ := prefix_good wid ops ext hwf hw hr
  have ⟨si, ok⟩ := run_all wid ops hwf0 hr0 hw0
  have hiss : e ∈ (run wid ops).g.issued := by
    have := ok.iss ▸ he
    exact List.mem_reverse.mp this
  have hd : Dead e (run wid ops).g :=
    ⟨hiss, fun hl => Bool.false_ne_true (hdead.symm.trans ((ok.alive e).mpr hl)),
      fun hp => Bool.false_ne_true (hres.symm.trans ((ok.reserved e).mpr hp))⟩
  have hd' := run_dead e ext (run wid ops) si hd hwf1 (e1 ▸ hr) (e1 ▸ hw)
  rw [← e1] at hd'
  have ⟨_, ok'⟩ := run_all wid (ops ++ ext) hwf hr hw
  have hal : aliveB (run wid (ops ++ ext)).evs e = false := by
    cases h : aliveB (run wid (ops ++ ext)).evs e with
    | false => rfl
    | true => exact absurd ((ok'.alive e).mp h) hd'.2.1
  exact ⟨by rw [valid_iff_alive_any wid _ hwf hw hr]; exact hal, hal⟩

example : ⟨0, 0, 0⟩ ∈ issuedOf (run 0 (sample.take 3)).evs ∧ reservedB (run 0 (sample.take 3)).evs ⟨0, 0, 0⟩ = false ∧
    aliveB (run 0 (sample.take 3)).evs ⟨0, 0, 0⟩ = false ∧ WF 0 (sample.take 3 ++ sample.drop 3) := by decide +kernel

/-- the handles returned by creation calls are pairwise distinct (id, version, world) triples -/
theorem issued_nodup (wid : Nat) (ops : List TOp) (hwf : WF wid ops) (hw : NoWrap (run wid ops))
    (hr : InRange (run wid ops)) : (issuedOf (run wid ops).evs).Nodup := by
  have ⟨si, ok⟩ := run_all wid ops hwf hr hw
  rw [ok.iss]
  unfold List.Nodup
  rw [List.pairwise_reverse]
  exact si.tinv.fresh.nodup.imp (fun h => h.symm)

/-- no two live entities share an id (a fortiori a handle) -/
theorem live_ids_distinct (wid : Nat) (ops : List TOp) (hwf : WF wid ops) (hw : NoWrap (run wid ops))
    (hr : InRange (run wid ops)) (a b : Handle) (ha : aliveB (run wid ops).evs a = true)
    (hb : aliveB (run wid ops).evs b = true) (hid : a.id = b.id) : a = b := by
  have ⟨si, ok⟩ := run_all wid ops hwf hr hw
  exact si.tinv.live_nodup_id a ((ok.alive a).mp ha) b ((ok.alive b).mp hb) hid

example : aliveB (run 0 sample).evs ⟨2, 0, 0⟩ = true ∧ aliveB (run 0 sample).evs ⟨1, 1, 0⟩ = true := by decide +kernel

/-- a recycled id is reissued only with a version larger than that of every earlier handle of the id:
of two issued handles with one id, the later one has the strictly larger version -/
theorem reissue_version_fresh (wid : Nat) (ops : List TOp) (hwf : WF wid ops) (hw : NoWrap (run wid ops))
    (hr : InRange (run wid ops)) :
    (issuedOf (run wid ops).evs).Pairwise (fun earlier later => earlier.id = later.id → earlier.ver < later.ver) := by
  have ⟨si, ok⟩ := run_all wid ops hwf hr hw
  rw [ok.iss, List.pairwise_reverse]
  exact si.tinv.fresh.imp (fun h e => h e.symm)

/-- the free list: the chain from `next_slot_` through the stored ids has exactly `empty_slots_` members,
is duplicate-free (hence acyclic), consists exactly of the table ids that carry no live entity and are not a
gap waiting for a reserved handle, and a free slot never stores its own id -/
theorem freelist_wf (wid : Nat) (ops : List TOp) (hwf : WF wid ops) (hw : NoWrap (run wid ops))
    (hr : InRange (run wid ops)) :
    ∃ fs : List Nat, Chain (run wid ops).tab.slots (run wid ops).tab.next fs ∧ fs.Nodup ∧
      fs.length = (run wid ops).tab.empty ∧
      (∀ i, i ∈ fs ↔ (i < (run wid ops).tab.slots.length ∧
          (∀ h, aliveB (run wid ops).evs h = true → h.id ≠ i) ∧
          (∀ p, reservedB (run wid ops).evs p = true → p.id ≠ i))) ∧
      (∀ i ∈ fs, ∀ s, (run wid ops).tab.slots[i]? = some s → s.idf ≠ i) := by
  have ⟨si, ok⟩ := run_all wid ops hwf hr hw
  obtain ⟨fs, h1, h2, h3, h4, h5⟩ := si.tinv.chain
  refine ⟨fs, h1, h2, h3, fun i => (h4 i).trans ?_, h5⟩
  constructor
  · rintro ⟨a, b, c⟩
    exact ⟨a, fun h hh => b h ((ok.alive h).mp hh), fun p hp => c p ((ok.reserved p).mp hp)⟩
  · rintro ⟨a, b, c⟩
    exact ⟨a, fun h hh => b h ((ok.alive h).mpr hh), fun p hp => c p ((ok.reserved p).mpr hp)⟩

example : (run 0 sample).tab.empty = 2 ∧ (run 0 sample).tab.next = 0 ∧
    (run 0 sample).tab.slots = [⟨3, 2⟩, ⟨1, 1⟩, ⟨2, 0⟩, ⟨4, 1⟩] := by decide +kernel
example : (run 0 (sample.take 12)).tab.slots = [⟨0, 1⟩, ⟨1, 0⟩, ⟨2, 0⟩, ⟨4, 1⟩] := by decide +kernel

/-- a handle returned by a creation under lock is not valid until its slot is installed at the
outermost unlock, and valid as soon as it is (whatever the order of the installs) -/
theorem locked_create_invisible (wid : Nat) (ops : List TOp) (hwf : WF wid ops) (hw : NoWrap (run wid ops))
    (hr : InRange (run wid ops)) (e : Handle) (hres : reservedB (run wid ops).evs e = true) :
    (run wid ops).tab.valid e = false ∧ ((run wid ops).install e).tab.valid e = true := by
  have ⟨si, ok⟩ := run_all wid ops hwf hr hw
  have hp := (ok.reserved e).mp hres
  have hi := si.tinv.pend_issued e hp
  -- the null pattern carries the last version before the wrap, which no issued handle does
  exact ⟨pending_invalid si.tinv hp,
    install_valid _ e (fun e1 => absurd (hw e hi) (e1 ▸ Nat.lt_irrefl _)) (si.tinv.world e hi)⟩

/-- the link to the world model: IF the id table of a WM state is the table of a good history (`htab`),
`WM.isValid` answers aliveness. `Proofs/IdTableRefine.lean` and `IdTablePack.lean` give, one operation at a time,
the `Tab` effect of `allocId`, `create`, `createLocked`, `lock`, `destroy`, `destroyNow`, `update`,
`clearArchetype`, `applyCommandPack`, the flush and the nested `unlock`; no theorem builds the history `ops` of a
WM run from them, so `htab` is the caller's to establish -/
theorem wm_valid_iff_alive (w : WM) (wid : Nat) (ops : List TOp) (hwf : WF wid ops) (hw : NoWrap (run wid ops))
    (hr : InRange (run wid ops)) (htab : tabOf w = (run wid ops).tab) (h : Handle) :
    w.isValid h = aliveB (run wid ops).evs h := by
  rw [isValid_tab, htab]
  exact valid_iff_alive_any wid ops hwf hw hr h

example : tabOf (({} : WM).allocId).1 = (run 0 [.alloc]).tab := by decide +kernel

example : reservedB (run 0 sampleLocked).evs ⟨2, 0, 0⟩ = true ∧ reservedB (run 0 sampleLocked).evs ⟨3, 0, 0⟩ = true ∧
    (run 0 sampleLocked).tab.lockDepth = 2 := by decide +kernel

end Mustache.Props.C01
