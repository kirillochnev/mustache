import Mustache.Proofs.RefineUnlock
import Mustache.Proofs.RefineRun
import Mustache.Proofs.RefineCreateIn

/-!
# Refinement — every history of the world model behaves like the abstract spec

`Mustache.Model.WM` is the executable model the harness ties to the C++ (`WM.step`), `Mustache.Spec.WS` the
abstract specification (`WS.step`): partial maps ordinal ↦ (component ↦ value) and shared type ↦ value, no id table,
no archetypes, no rows.  `CW` pairs a model state with the list of handles it has issued (the driver's `St`), and the
spec reads every handle through `ordOf` = the driver's `St.ordinal` (latest ordinal of the handle; unique by C01).

* `Rel c s` — the abstraction relation: every issued handle is alive on both sides or on neither, with the same
  component record (`absEnt`) and the same shared components *as a finite map* (`lookupS`; the spec keeps them in
  order of assignment, the model sorted by type id), equal dependency tables / depth / thread count, pointwise
  related buffered commands, and marked sets that agree on what `update` will act on.
* `Inv c` — the invariants of C01 (id table, with ghost), C02 (rows), C12 (pool), the bounded dependency table, plus
  what the buffers and the marked set may mention.  There is NO closedness invariant: an archetype may predate the
  declaration of a dependency of one of its components ("late declaration on a held master"), model and spec agree
  on every such history.
* `Bounds c` — the range side conditions of DESIGN.md 3.2 (fewer than 2^30-1 ids, no version wrapped).
* `OpWf c op` — the contract of the operation (thread id in range; unlocked structural operations on valid
  entities with the components absent; locked operations on handles that were issued; `clearArch` only on
  shared-free archetypes; `dep` declarations whose required components have ids below 128 — late declarations are
  otherwise unrestricted, whatever the existing archetypes hold; builders name a component once).

`createIn_refines` covers the one creating entry point outside `Op`, `create(Archetype&)` (`WM.createIn`).

`step_refines` covers EVERY operation, including the outermost `unlock` (the whole flush: the pack fold of
`WM.applyPack` against the command-by-command `WS.applyCmd`); callbacks agree as multisets, for `unlock` by the
net agreement `cbsAgreeNet` the driver's oracle `spec_line_eq` uses.
-/
namespace Mustache.Props.Refinement
open Mustache.Model Mustache.Spec
open Mustache.Proofs.Refine

variable (info : CompId → CompInfo)

/-- ONE STEP.  From related states, an operation within its contract leads to related states again, keeps the
invariants, returns the same result (`outAgree`: a created handle gets the next ordinal) and fires the same
callbacks (`cbsAgree`: as multisets; for `unlock`: `cbsAgreeNet`). -/
theorem step_refines {c : CW} {s : WS} (hi : Inv c) (hb : Bounds c) (hr : Rel c s) (op : Op Handle)
    (hwf : OpWf c op) (hb' : Bounds (c.step info op).1) :
    Inv (c.step info op).1 ∧
    Rel (c.step info op).1 (s.step info (op.mapRef (ordOf c.issued))).1 ∧
    stepAgree (c.step info op).1 op (c.step info op).2.1 (c.step info op).2.2
      (s.step info (op.mapRef (ordOf c.issued))).2.1 (s.step info (op.mapRef (ordOf c.issued))).2.2 := by
  show StepRefines info c s op
  cases hu : isUnlockOp op with
  | false => exact step_refines_nonunlock info hi hb hr op hwf hb' hu
  | true =>
    cases op <;> simp only [isUnlockOp, Bool.false_eq_true] at hu
    by_cases hd : 2 ≤ c.w.lockDepth
    · exact unlock_inner_refines info hi hr hd
    · exact unlock_outer_refines info hi hr (by omega) hb'

/-- the outermost `unlock` alone: the flush of all buffers (packs of deferred commands, creations included)
refines the spec's command-by-command replay -/
theorem flush_refines {c : CW} {s : WS} (hi : Inv c) (hr : Rel c s) (hd : c.w.lockDepth ≤ 1)
    (hb' : Bounds (c.step info .unlock).1) : StepRefines info c s .unlock :=
  unlock_outer_refines info hi hr hd hb'

/-- HISTORIES, from any related pair of states: a history that keeps the contract and the range conditions at
every step ends in related states, the invariants hold at the end and every observation on the way agreed. -/
theorem run_refines_from (ops : List (Op Handle)) (c : CW) (s : WS) (hi : Inv c) (hb : Bounds c) (hr : Rel c s)
    (hwf : WfRun info c ops) :
    Inv (runBoth info c s ops).1 ∧ Rel (runBoth info c s ops).1 (runBoth info c s ops).2 ∧ AllAgree info c s ops :=
  run_refines_of_steps info (fun _ _ op hi hb hr hwf hb' => step_refines info hi hb hr op hwf hb') ops c s hi hb hr hwf

/-- HISTORIES of a fresh world (`World(wid)` with `nthreads` threads) against the fresh spec -/
theorem run_refines (wid nthreads : Nat) (ops : List (Op Handle)) (hwf : WfRun info (CW.init wid nthreads) ops) :
    Inv (runBoth info (CW.init wid nthreads) (specInit nthreads) ops).1 ∧
    Rel (runBoth info (CW.init wid nthreads) (specInit nthreads) ops).1
      (runBoth info (CW.init wid nthreads) (specInit nthreads) ops).2 ∧
    AllAgree info (CW.init wid nthreads) (specInit nthreads) ops :=
  run_refines_from info ops _ _ (init_inv wid nthreads) (init_bounds wid nthreads) (init_rel wid nthreads) hwf

theorem wfRun_take : ∀ (k : Nat) (ops : List (Op Handle)) (c : CW), WfRun info c ops → WfRun info c (ops.take k)
  | 0, _, _, _ => by simp only [List.take_zero]; trivial
  | _ + 1, [], _, _ => by simp only [List.take_nil]; trivial
  | k + 1, op :: rest, c, h => by
    simp only [List.take_succ_cons]
    exact ⟨h.1, h.2.1, wfRun_take k rest _ h.2.2⟩

/-- EVERY REACHABLE STATE: after any prefix of a history that keeps the contract, the invariants hold and the model
state is related to the spec state reached by the same prefix -/
theorem inv_rel_every_prefix (wid nthreads : Nat) (ops : List (Op Handle)) (hwf : WfRun info (CW.init wid nthreads) ops)
    (k : Nat) :
    Inv (runBoth info (CW.init wid nthreads) (specInit nthreads) (ops.take k)).1 ∧
    Rel (runBoth info (CW.init wid nthreads) (specInit nthreads) (ops.take k)).1
      (runBoth info (CW.init wid nthreads) (specInit nthreads) (ops.take k)).2 :=
  let h := run_refines info wid nthreads (ops.take k) (wfRun_take info k ops _ hwf)
  ⟨h.1, h.2.1⟩

/-- C02, the part `Props/C02.liveInv_flush_statement` / `liveInv_clear_update_statement` leave open, for every state a
history within the contract reaches — flushes, `clearArch` and `update` included: every valid handle sits in exactly
the row its location names (`LiveInv`), rows and location table are mutually consistent (`RowsOK`) and archetype
keys are unique (`KeysOK`) -/
theorem rows_live_every_prefix (wid nthreads : Nat) (ops : List (Op Handle))
    (hwf : WfRun info (CW.init wid nthreads) ops) (k : Nat) :
    Mustache.Proofs.Rows.LiveInv (runBoth info (CW.init wid nthreads) (specInit nthreads) (ops.take k)).1.w ∧
    Mustache.Proofs.Rows.RowsOK (runBoth info (CW.init wid nthreads) (specInit nthreads) (ops.take k)).1.w ∧
    Mustache.Proofs.Rows.KeysOK (runBoth info (CW.init wid nthreads) (specInit nthreads) (ops.take k)).1.w :=
  let h := (inv_rel_every_prefix info wid nthreads ops hwf k).1
  ⟨h.live, h.rows, h.keys⟩

/-- the API-level form of C01 from the refinement: in related states every issued handle is valid in the model exactly
when the entity of its ordinal is alive in the spec -/
theorem valid_iff_spec_alive {c : CW} {s : WS} (hi : Inv c) (hr : Rel c s) (o : Nat) (h : Handle)
    (ho : c.issued[o]? = some h) : (s.alive o).isSome = c.w.isValid h :=
  hr.alive_isSome hi.live hi.rows ho

/-- … and therefore at EVERY reachable state of a history within the contract: "a handle is valid exactly while the
entity it was issued for is alive", with "alive" read off the abstract spec (no id table, no versions) -/
theorem valid_iff_spec_alive_every_prefix (wid nthreads : Nat) (ops : List (Op Handle))
    (hwf : WfRun info (CW.init wid nthreads) ops) (k o : Nat) (h : Handle)
    (ho : (runBoth info (CW.init wid nthreads) (specInit nthreads) (ops.take k)).1.issued[o]? = some h) :
    ((runBoth info (CW.init wid nthreads) (specInit nthreads) (ops.take k)).2.alive o).isSome =
      (runBoth info (CW.init wid nthreads) (specInit nthreads) (ops.take k)).1.w.isValid h :=
  let hp := inv_rel_every_prefix info wid nthreads ops hwf k
  valid_iff_spec_alive hp.1 hp.2 o h ho

/-- `LiveInv` through the outermost `unlock` (the flush of every buffered pack), from any state that satisfies the
invariants and is related to some spec state, provided the state after the flush is within the range conditions -/
theorem liveInv_through_flush {c : CW} {s : WS} (hi : Inv c) (hr : Rel c s) (hd : c.w.lockDepth ≤ 1)
    (hb' : Bounds (c.step info .unlock).1) : Mustache.Proofs.Rows.LiveInv (c.step info .unlock).1.w :=
  (flush_refines info hi hr hd hb').1.live

/-- `LiveInv` through `clearArch` and `update` under their contract -/
theorem liveInv_through_clear_update {c : CW} {s : WS} (hi : Inv c) (hb : Bounds c) (hr : Rel c s) (op : Op Handle)
    (hwf : OpWf c op) (hb' : Bounds (c.step info op).1) : Mustache.Proofs.Rows.LiveInv (c.step info op).1.w :=
  (step_refines info hi hb hr op hwf hb').1.live

/-- `create(Archetype&)` is `create(mask, shared)` with the archetype's own key wherever archetype keys are unique
(with no dependency declared the entity goes into the archetype itself, otherwise where a lookup of its set leads) -/
theorem createIn_eq_create {w : WM} (hk : Mustache.Proofs.Rows.KeysOK w) (t ai : Nat) (hai : ai < w.archs.length) :
    w.createIn info t ai = w.create info t (w.arch ai).mask (w.arch ai).shared :=
  Mustache.Proofs.Refine.createIn_eq_create info hk t ai hai

/-- the spec step `specCreateWith` it is compared with IS the spec's `.create` step, with shared values in place of
"every value 0" -/
theorem step_create_eq_specCreateWith (s : WS) (t : Nat) (mask : Mask) (shared : List Nat) :
    s.step info (.create t mask shared) = specCreateWith info s t mask (shared.map (fun sid => (sid, 0))) := rfl

/-- ONE CALL of `create(Archetype&)` (`CW.createIn`: `WM.createIn`, the handle gets the next ordinal), from related
states, any archetype index in range, locked or not, whatever was declared after the archetype came to exist: the
conclusion of `step_refines` for `.create`, against the spec creation with the archetype's component set and the
values of its shared components. Nothing is assumed beyond `Inv`/`Bounds`/`Rel` and the ranges (sortedness of the
mask and pooledness of the descriptor are part of `Inv`). -/
theorem createIn_refines {c : CW} {s : WS} (hi : Inv c) (hb : Bounds c) (hr : Rel c s) (t ai : Nat)
    (ht : t < c.w.nthreads) (hai : ai < c.w.archs.length) (hb' : Bounds (c.createIn info t ai).1) :
    Inv (c.createIn info t ai).1 ∧
    Rel (c.createIn info t ai).1
      (specCreateWith info s t (c.w.arch ai).mask (absShared c.w.pool (c.w.arch ai).shared)).1 ∧
    stepAgree (c.createIn info t ai).1 (.create t (c.w.arch ai).mask []) (c.createIn info t ai).2.1
      (c.createIn info t ai).2.2
      (specCreateWith info s t (c.w.arch ai).mask (absShared c.w.pool (c.w.arch ai).shared)).2.1
      (specCreateWith info s t (c.w.arch ai).mask (absShared c.w.pool (c.w.arch ai).shared)).2.2 :=
  Mustache.Proofs.Refine.createIn_refines info hi hb hr t ai ht hai hb'

/-- the same with any list of shared values that reads like the archetype's descriptor (e.g. in another order) -/
theorem createIn_refines_gen {c : CW} {s : WS} (hi : Inv c) (hb : Bounds c) (hr : Rel c s) (t ai : Nat)
    (ht : t < c.w.nthreads) (hai : ai < c.w.archs.length) (ssh : List (Nat × Nat))
    (hv : ∀ sid, lookupS ssh sid = lookupS (absShared c.w.pool (c.w.arch ai).shared) sid)
    (hb' : Bounds (c.createIn info t ai).1) :
    Inv (c.createIn info t ai).1 ∧
    Rel (c.createIn info t ai).1 (specCreateWith info s t (c.w.arch ai).mask ssh).1 ∧
    stepAgree (c.createIn info t ai).1 (.create t (c.w.arch ai).mask []) (c.createIn info t ai).2.1
      (c.createIn info t ai).2.2 (specCreateWith info s t (c.w.arch ai).mask ssh).2.1
      (specCreateWith info s t (c.w.arch ai).mask ssh).2.2 :=
  Mustache.Proofs.Refine.createIn_refines_gen info hi hb hr t ai ht hai ssh hv hb'

/-- a shared-free archetype: the spec step is literally the operation `.create t mask []` -/
theorem createIn_refines_sharedfree {c : CW} {s : WS} (hi : Inv c) (hb : Bounds c) (hr : Rel c s) (t ai : Nat)
    (ht : t < c.w.nthreads) (hai : ai < c.w.archs.length) (hsf : (c.w.arch ai).shared = Shared.null)
    (hb' : Bounds (c.createIn info t ai).1) :
    Inv (c.createIn info t ai).1 ∧
    Rel (c.createIn info t ai).1 (s.step info (.create t (c.w.arch ai).mask [])).1 ∧
    stepAgree (c.createIn info t ai).1 (.create t (c.w.arch ai).mask []) (c.createIn info t ai).2.1
      (c.createIn info t ai).2.2 (s.step info (.create t (c.w.arch ai).mask [])).2.1
      (s.step info (.create t (c.w.arch ai).mask [])).2.2 :=
  Mustache.Proofs.Refine.createIn_refines_sharedfree info hi hb hr t ai ht hai hsf hb'

/-- the executable checker of the relation is sound -/
theorem relB_sound {c : CW} {s : WS} (h : relB c s = true) : Rel c s := Mustache.Proofs.Refine.relB_sound h

/-- the executable checker of the contract is sound -/
theorem opWfB_sound {c : CW} {op : Op Handle} (h : opWfB c op = true) : OpWf c op := Mustache.Proofs.Refine.opWfB_sound h

/-- `exHistory` (create, assign, lock, deferred create + assign from two threads, unlock, destroyNow, recycled
create, remove, clone) keeps the contract at every step and ends in related states — decided by the checkers -/
example :
    OpWfRun exInfo (CW.init 0 3) exHistory ∧
    Rel (runBoth exInfo (CW.init 0 3) (specInit 3) exHistory).1 (runBoth exInfo (CW.init 0 3) (specInit 3) exHistory).2 :=
  ⟨opWfRun_of_check exInfo exHistory _ (by decide +kernel), relB_sound (by decide +kernel)⟩

/-- the same history satisfies every hypothesis of `run_refines` (contract and range conditions at every step) -/
theorem exHistory_wf : WfRun exInfo (CW.init 0 3) exHistory := wfRun_of_check exInfo exHistory _ (by decide +kernel)

/-- so the theorem applies to it: all twelve results and callback lists agree -/
example : AllAgree exInfo (CW.init 0 3) (specInit 3) exHistory :=
  (run_refines exInfo 0 3 exHistory exHistory_wf).2.2

/-- non-vacuity of `rows_live_every_prefix`: it applies to `exHistory`, e.g. at the state in the middle of the locked
section (after 5 operations, with buffered creations) and right after the flush (after 8) — and those states are not
trivial: three live entities after the flush -/
example :
    Mustache.Proofs.Rows.LiveInv (runBoth exInfo (CW.init 0 3) (specInit 3) (exHistory.take 5)).1.w ∧
    Mustache.Proofs.Rows.LiveInv (runBoth exInfo (CW.init 0 3) (specInit 3) (exHistory.take 8)).1.w :=
  ⟨(rows_live_every_prefix exInfo 0 3 exHistory exHistory_wf 5).1,
   (rows_live_every_prefix exInfo 0 3 exHistory exHistory_wf 8).1⟩

example : (runBoth exInfo (CW.init 0 3) (specInit 3) (exHistory.take 5)).1.w.lockDepth = 1 ∧
    ((runBoth exInfo (CW.init 0 3) (specInit 3) (exHistory.take 8)).1.issued.filter
      (runBoth exInfo (CW.init 0 3) (specInit 3) (exHistory.take 8)).1.w.isValid).length = 3 := by decide +kernel

/-- non-vacuity of `valid_iff_spec_alive`: at the end of `exHistory` the first handle (id 0, version 0) is dead on both
sides while the handle that recycled its id (id 0, version 1, ordinal 3) is alive on both sides -/
example :
    (runBoth exInfo (CW.init 0 3) (specInit 3) exHistory).1.w.isValid ⟨0, 0, 0⟩ = false ∧
    (runBoth exInfo (CW.init 0 3) (specInit 3) exHistory).1.w.isValid ⟨0, 1, 0⟩ = true ∧
    ((runBoth exInfo (CW.init 0 3) (specInit 3) exHistory).2.alive 0).isSome = false ∧
    ((runBoth exInfo (CW.init 0 3) (specInit 3) exHistory).2.alive 3).isSome = true := by decide +kernel

/-- the recycled creation really recycles: the handle issued fourth has the id of the first, version 1 -/
example : (runBoth exInfo (CW.init 0 3) (specInit 3) exHistory).1.issued =
    [⟨0, 0, 0⟩, ⟨1, 0, 0⟩, ⟨2, 0, 0⟩, ⟨0, 1, 0⟩, ⟨3, 0, 0⟩] := by decide +kernel

/-- a history with a LATE dependency declaration on a held master (`exLateHistory`: the archetype `[0]` exists when
`0 → 1` is declared) is within the contract, so `run_refines` applies to it: every result agrees, and the final
states are related -/
example : AllAgree exInfo (CW.init 0 1) (specInit 1) exLateHistory :=
  (run_refines exInfo 0 1 exLateHistory (wfRun_of_check exInfo exLateHistory _ (by decide +kernel))).2.2

example :
    Rel (runBoth exInfo (CW.init 0 1) (specInit 1) exLateHistory).1 (runBoth exInfo (CW.init 0 1) (specInit 1) exLateHistory).2 :=
  relB_sound (by decide +kernel)

/-- … and the late declaration really left an unclosed archetype behind: the archetypes at the end are `[0]` (the one
the entity was created in) and `[0, 1]` (the one `assignShared` moved it to) -/
example : (runBoth exInfo (CW.init 0 1) (specInit 1) exLateHistory).1.w.archs.map (·.mask) = [[0], [0, 1]] := by decide +kernel

/-- entity 0 created in `[0]`, then `0 → 1` declared, then shared type 7 assigned with value 3: archetype 0 = `[0]`
(empty now, NOT closed under the table), archetype 1 = `[0, 1]` with shared 7 = 3 (holds entity 0) -/
def exCin : CW × WS :=
  runBoth exInfo (CW.init 0 1) (specInit 1) [.create 0 [0] [], .dep 0 [1], .sassign (exH 0 0) 7 3]

example : exCin.1.w.archs.map (fun a => (a.mask, a.shared.ids, a.rows.length)) = [([0], [], 0), ([0, 1], [7], 1)] ∧
    absShared exCin.1.w.pool (exCin.1.w.arch 1).shared = [(7, 3)] ∧ (exCin.1.w.arch 0).shared = Shared.null := by decide +kernel

/-- the hypotheses of `createIn_refines` hold there (by `run_refines` and the checkers) -/
theorem exCin_hyps : Inv exCin.1 ∧ Bounds exCin.1 ∧ Rel exCin.1 exCin.2 :=
  have h := run_refines exInfo 0 1 [.create 0 [0] [], .dep 0 [1], .sassign (exH 0 0) 7 3]
    (wfRun_of_check exInfo _ _ (by decide +kernel))
  ⟨h.1, boundsB_sound (by decide +kernel), h.2.1⟩

/-- `create(archetype 1)`: the spec creates `[0, 1]` with shared 7 = 3 (a value `.create` cannot express) -/
example : Rel (exCin.1.createIn exInfo 0 1).1 (specCreateWith exInfo exCin.2 0 [0, 1] [(7, 3)]).1 :=
  (createIn_refines exInfo exCin_hyps.1 exCin_hyps.2.1 exCin_hyps.2.2 0 1 (by decide +kernel) (by decide +kernel)
    (boundsB_sound (by decide +kernel))).2.1

/-- `create(archetype 0)`, the unclosed one: the entity goes to a NEW archetype `[0, 1]` without shared components,
as the spec's `.create 0 [0] []` says (closure of `[0]` under the table) -/
example : Rel (exCin.1.createIn exInfo 0 0).1 (exCin.2.step exInfo (.create 0 [0] [])).1 :=
  (createIn_refines_sharedfree exInfo exCin_hyps.1 exCin_hyps.2.1 exCin_hyps.2.2 0 0 (by decide +kernel) (by decide +kernel)
    (by decide +kernel) (boundsB_sound (by decide +kernel))).2.1

example : (exCin.1.createIn exInfo 0 0).1.w.archs.map (fun a => (a.mask, a.shared.ids, a.rows.length)) =
    [([0], [], 0), ([0, 1], [7], 1), ([0, 1], [], 1)] ∧
    (exCin.1.createIn exInfo 0 1).1.w.archs.map (fun a => (a.mask, a.shared.ids, a.rows.length)) =
    [([0], [], 0), ([0, 1], [7], 2)] := by decide +kernel

/-- independently, by the executable checker of the relation -/
example : relB (exCin.1.createIn exInfo 0 1).1 (specCreateWith exInfo exCin.2 0 [0, 1] [(7, 3)]).1 = true ∧
    relB (exCin.1.createIn exInfo 0 0).1 (exCin.2.step exInfo (.create 0 [0] [])).1 = true := by decide +kernel

/-- under lock `create(archetype 1)` is buffered; `Inv`/`Rel` hold after it, so `run_refines_from` carries on from
there: the flush and two reads agree with the spec -/
example :
    let c := ((exCin.1.step exInfo .lock).1.createIn exInfo 0 1).1
    let s := (specCreateWith exInfo (exCin.2.step exInfo .lock).1 0 [0, 1] [(7, 3)]).1
    AllAgree exInfo c s [.unlock, .has (exH 1 0) 1, .hasShared (exH 1 0) 7] := by
  intro c s
  have h0 := step_refines exInfo exCin_hyps.1 exCin_hyps.2.1 exCin_hyps.2.2 .lock trivial (boundsB_sound (by decide +kernel))
  have h1 := createIn_refines exInfo h0.1 (boundsB_sound (by decide +kernel)) h0.2.1 0 1 (by decide +kernel) (by decide +kernel)
    (boundsB_sound (by decide +kernel))
  exact (run_refines_from exInfo _ c s h1.1 (boundsB_sound (by decide +kernel)) h1.2.1
    (wfRun_of_check exInfo _ _ (by decide +kernel))).2.2

end Mustache.Props.Refinement
