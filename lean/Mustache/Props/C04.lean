import Mustache.Proofs.IterRun

/-! # C04 — iteration visits each selected entity exactly once, with its own data

Theorems about the iteration model `Mustache.Iteration` (`Model/Iteration.lean`), for ALL archetype lists,
populations, version-chunk sizes ≥ 1, changed-chunk predicates, storage capacities ≥ 1, task counts
(`runJob` applies `max 1`, so every `taskCount : Nat` is covered, in particular `N+1` and beyond) and all
three run modes.  "Own handle, own data, null for an absent optional component, the archetype's shared
values" is the row invariant of the world model (entity `i` of archetype `a` is row `i` of `a`) composed
with `tasks_partition`: the callback of array element `j` of `⟨a, first, len⟩` is handed row `first + j` of
archetype `a`; the harness checks exactly that on the implementation. -/
namespace Mustache.Props.C04
open Mustache.Iteration

/-- the contract (DESIGN 3.3): version-chunk sizes and storage capacities are at least 1 -/
def Valid (archs : List ArchCfg) : Prop := ∀ a ∈ archs, 1 ≤ a.cs ∧ 1 ≤ a.cap

/-- `filterArchetype`: the blocks are non-empty, inside the population, ascending and separated, and they
cover exactly the entities whose version chunk is changed; flattened they are that set in ascending order. -/
theorem blocks_exact (size cs : Nat) (changed : Nat → Bool) (hcs : 1 ≤ cs) :
    (∀ x ∈ blocks size cs changed, x.b < x.e ∧ x.e ≤ size) ∧
    (blocks size cs changed).Pairwise (fun x y => x.e < y.b) ∧
    (∀ i, (∃ x ∈ blocks size cs changed, x.b ≤ i ∧ i < x.e) ↔ (i < size ∧ changed (i / cs) = true)) ∧
    (blocks size cs changed).flatMap Block.range = (List.range size).filter (fun i => changed (i / cs)) := by
  obtain ⟨hok, hmem⟩ := blocks_spec size changed hcs
  exact ⟨fun x hx => (hok.of_mem x hx).2, hok.sep, fun i => (mem_flatRange _ i).symm.trans (hmem i),
    blocks_flat_eq size changed hcs⟩

example : blocks 7 2 (fun c => c != 1) = [⟨0, 2⟩, ⟨4, 7⟩] := by decide +kernel
example : (blocks 7 2 (fun c => c != 1)).flatMap Block.range = [0, 1, 4, 5, 6] := by decide +kernel

/-- Concatenating, in task order, the arrays of every task yields exactly the selected sequence (per
matching archetype in index order, per block, ascending): every selected entity exactly once, nothing else. -/
theorem tasks_partition (archs : List ArchCfg) (hv : Valid archs) (req reqShared : List Nat)
    (mode : Mode) (taskCount : Nat) :
    ((runJob mode (applyFilter req reqShared archs 0) taskCount).flatMap (·.arrays)).flatMap Arr.expand =
      selected req reqShared archs 0 :=
  (applyFilter_spec req reqShared archs 0 hv).1 ▸
    (runJob_spec _ (applyFilter_wf req reqShared archs hv) mode taskCount).1

/-- The same for `TaskGroup::make(filter_result, T)` directly, every `T ≥ 1`. -/
theorem tasks_partition_T (archs : List ArchCfg) (hv : Valid archs) (req reqShared : List Nat)
    (T : Nat) (hT : 1 ≤ T) :
    ((runTasks (applyFilter req reqShared archs 0) T).flatMap
        (taskArrays (applyFilter req reqShared archs 0))).flatMap Arr.expand =
      selected req reqShared archs 0 :=
  (applyFilter_spec req reqShared archs 0 hv).1 ▸ (runTasks_spec (applyFilter_wf req reqShared archs hv) hT).1

/-- a world used by the examples: two matching archetypes (the second spans three storage chunks and has a
clean middle version chunk), one archetype without the required component, one empty archetype -/
def exampleArchs : List ArchCfg :=
  [⟨[0], [], 3, 2, 2, true, fun _ => true⟩, ⟨[1], [], 4, 2, 2, true, fun _ => true⟩,
   ⟨[0, 1], [], 0, 2, 2, true, fun _ => true⟩, ⟨[0, 2], [], 5, 2, 2, true, fun c => c != 1⟩]

example : Valid exampleArchs := by unfold Valid; decide +kernel
example : selected [0] [] exampleArchs 0 = [(0, 0), (0, 1), (0, 2), (3, 0), (3, 1), (3, 4)] := by decide +kernel
example : (runJob .parallel (applyFilter [0] [] exampleArchs 0) 4).map (·.arrays) =
    [[⟨0, 0, 2⟩], [⟨0, 2, 1⟩, ⟨3, 0, 1⟩], [⟨3, 1, 1⟩], [⟨3, 4, 1⟩]] := by decide +kernel
/-- more tasks than entities: the surplus tasks are empty -/
example : (runJob .parallel (applyFilter [0] [] exampleArchs 0) 7).map (·.size) = [1, 1, 1, 1, 1, 1, 0] := by
  decide +kernel

/-- Every array handed out is non-empty, lies inside the population of its archetype, inside one filter
block and inside one storage chunk; the arrays of a task total the task's size; the arrays of one run are
pairwise disjoint. -/
theorem arrays_wellformed (archs : List ArchCfg) (hv : Valid archs) (req reqShared : List Nat)
    (mode : Mode) (taskCount : Nat) :
    (∀ t ∈ runJob mode (applyFilter req reqShared archs 0) taskCount, ∀ x ∈ t.arrays,
      1 ≤ x.len ∧
      ∃ a, archs[x.arch]? = some a ∧ matchArch req reqShared a = true ∧
        x.first + x.len ≤ a.size ∧
        (∃ b ∈ blocks a.size a.cs a.changed, b.b ≤ x.first ∧ x.first + x.len ≤ b.e) ∧
        x.first / a.cap = (x.first + x.len - 1) / a.cap) ∧
    (∀ t ∈ runJob mode (applyFilter req reqShared archs 0) taskCount, (t.arrays.map Arr.len).sum = t.size) ∧
    ((runJob mode (applyFilter req reqShared archs 0) taskCount).flatMap (·.arrays)).Pairwise Arr.Disjoint := by
  obtain ⟨_, horig, harchs⟩ := applyFilter_spec req reqShared archs 0 hv
  have hwf := applyFilter_wf req reqShared archs hv
  obtain ⟨hpart, hout, _⟩ := runJob_spec _ hwf mode taskCount
  refine ⟨fun t ht x hx => ?_, fun t ht => (hout t ht).1, disjoint_of_nodup _ (fun x hx => ?_) ?_⟩
  · obtain ⟨fa, hfa, hx1, k1, k2, k3, b, hb, k4⟩ := (hout t ht).2 x hx
    obtain ⟨_, j, a, hj, ha, hm, ha1, ha2, ha3⟩ := horig fa hfa
    rw [← (hx1.trans hj).trans (Nat.zero_add j)] at ha
    exact ⟨k1, a, ha, hm, ha1 ▸ k2, ⟨b, ha3 ▸ hb, k4⟩, ha2 ▸ k3⟩
  · obtain ⟨t, ht, hxt⟩ := List.mem_flatMap.mp hx
    obtain ⟨_, _, _, k1, _⟩ := (hout t ht).2 x hxt
    exact k1
  · rw [hpart]
    exact gsel_nodup _ hwf harchs

/-- Index safety of the cursors (and the termination argument of the model's loops): every step of the
range-for over an `ArchetypeGroup` indexes an existing filtered archetype, is non-empty and stays inside
the selected entities of that archetype — so the fuel handed to the loops (the task / piece size) suffices. -/
theorem pieces_in_bounds (archs : List ArchCfg) (hv : Valid archs) (req reqShared : List Nat)
    (mode : Mode) (taskCount : Nat) :
    ∀ t ∈ runTaskInfos mode (applyFilter req reqShared archs 0) taskCount,
      ∀ p ∈ taskPieces (applyFilter req reqShared archs 0) t,
        p.a < (applyFilter req reqShared archs 0).length ∧ 1 ≤ p.size ∧
        p.e + p.size ≤ ((applyFilter req reqShared archs 0).getD p.a default).count :=
  fun t ht => ((runTaskInfos_spec mode _ (applyFilter_wf req reqShared archs hv) taskCount).2 t ht).2

/-- with more tasks than entities the surplus tasks start one past the last filtered archetype: the
constructor of `ArchetypeGroup` must not index `filtered_archetypes` there (pinned tree: it did; repaired by
`patches/fix-c04-archetype-group-oob.diff`, the guard `AG.make` models) -/
example : (runTaskInfos .parallel (applyFilter [0] [] exampleArchs 0) 7).map (·.firstArch) = [0, 0, 0, 1, 1, 1, 2]
    ∧ (applyFilter [0] [] exampleArchs 0).length = 2 := by decide +kernel

example : (runJob .parallel (applyFilter [0] [] exampleArchs 0) 2).map (·.arrays) =
    [[⟨0, 0, 2⟩, ⟨0, 2, 1⟩], [⟨3, 0, 2⟩, ⟨3, 4, 1⟩]] := by decide +kernel

/-- The per-invocation entity index. Typed job taking `JobInvocationIndex`: the `i`-th invocation (tasks in
order) is the `i`-th entity of the selected sequence and carries entity index `i`, so the index takes each
value `0..N-1` exactly once. Array form (`NonTemplateJob`, `forEachArray`): the index ranges
`[eindex, eindex+len)` of the callbacks tile `0..N-1` in order. Task `k` is numbered `k` and starts at the
sum of the sizes of the tasks before it. -/
theorem entity_index_bijective (archs : List ArchCfg) (hv : Valid archs) (req reqShared : List Nat)
    (mode : Mode) (taskCount : Nat) :
    (invocations (runJob mode (applyFilter req reqShared archs 0) taskCount)).map (fun v => (v.arch, v.idx)) =
      selected req reqShared archs 0 ∧
    (invocations (runJob mode (applyFilter req reqShared archs 0) taskCount)).map (·.eindex) =
      List.range (selected req reqShared archs 0).length ∧
    (ntCalls (runJob mode (applyFilter req reqShared archs 0) taskCount)).flatMap
        (fun c => Arr.expand ⟨c.arch, c.first, c.len⟩) = selected req reqShared archs 0 ∧
    (ntCalls (runJob mode (applyFilter req reqShared archs 0) taskCount)).flatMap
        (fun c => List.range' c.eindex c.len) = List.range (selected req reqShared archs 0).length ∧
    (∀ pre x post, runJob mode (applyFilter req reqShared archs 0) taskCount = pre ++ x :: post →
      x.start = (pre.map (·.size)).sum ∧ x.id = pre.length) :=
  (applyFilter_spec req reqShared archs 0 hv).1 ▸
    (runJob_spec _ (applyFilter_wf req reqShared archs hv) mode taskCount).2.2

example : (invocations (runJob .parallel (applyFilter [0] [] exampleArchs 0) 3)).map
      (fun v => (v.task, v.arch, v.idx, v.eindex, v.inTask)) =
    [(0, 0, 0, 0, 0), (0, 0, 1, 1, 1), (1, 0, 2, 2, 0), (1, 3, 0, 3, 1), (2, 3, 1, 4, 0), (2, 3, 4, 5, 1)] := by
  decide +kernel
example : (ntCalls (runJob .parallel (applyFilter [0] [] exampleArchs 0) 2)).map
      (fun c => (c.task, c.arch, c.first, c.len, c.eindex)) =
    [(0, 0, 0, 2, 0), (0, 0, 2, 1, 2), (1, 3, 0, 2, 3), (1, 3, 4, 1, 5)] := by decide +kernel

/-- The 4× unrolled loop with its tail table visits the offsets `0..n-1` of an array in order, and the
entity index advances by one per invocation. -/
theorem unrolled_eq_range (n ii : Nat) :
    unrolled n ii = (List.range n).map (fun o => (o, ii + o)) :=
  unrolled_eq n ii

example : unrolled 7 10 = [(0, 10), (1, 11), (2, 12), (3, 13), (4, 14), (5, 15), (6, 16)] := by decide +kernel

end Mustache.Props.C04
