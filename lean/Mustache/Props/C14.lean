import Mustache.Proofs.SystemsStep
/-!
# C14 — systems run in a constraint- and priority-respecting order; lifecycle is legal

Model: `Mustache/Model/Systems.lean` (`reorder` = `SystemManager::reorderSystems`, `step` = the manager
operations, `St.apply` = the guarded transitions of `ASystem`).  Specification: `Mustache/Spec/Systems.lean`.
All theorems quantify over all constraint graphs / priorities / groups and over all histories of
add / remove / init / update / setGroupPriority / user pause-resume-stop / teardown.
`UniqueNames` / `wfFrom`: no two registered systems share a name (the manager indexes by name).
-/
namespace Mustache.Props.C14
open Mustache.Systems

/-- no two present systems share a name -/
def UniqueNames (ns : List Node) : Prop := (ns.map (·.name)).Nodup

/-- The computed order is a permutation of the present systems. -/
theorem reorder_perm (ns o : List Node) (h : reorder ns = some o) : o.Perm ns :=
  reorder_perm' h

/-- Every update-after / update-before constraint between present systems holds in the computed order. -/
theorem reorder_respects (ns o : List Node) (hu : UniqueNames ns) (h : reorder ns = some o) :
    Respects ns o :=
  (reorder_valid hu h).respects

/-- At every position the chosen system has the maximal (group priority, priority) among the systems
whose constraints are satisfied at that point. -/
theorem reorder_priority (ns o : List Node) (hu : UniqueNames ns) (h : reorder ns = some o) :
    PriorityGreedy ns o :=
  (reorder_valid hu h).priority

/-- The computed order is accepted by the decision procedure the check runs on the implementation. -/
theorem reorder_accepted (ns o : List Node) (hu : UniqueNames ns) (h : reorder ns = some o) :
    validOrderB ns o = true :=
  (validOrderB_iff ns o).mpr (reorder_valid hu h)

/-- `validOrderB` decides the specification `ValidOrder`. -/
theorem validOrder_decided (ns o : List Node) : validOrderB ns o = true ↔ ValidOrder ns o :=
  validOrderB_iff ns o

/-- What the check accepts as the implementation's update sequence is a `ValidUpdate`: the active systems
of some admissible order, in that order. -/
theorem validUpdate_sound (ns : List Node) (act : Node → Bool) (us : List Node)
    (h : validUpdateB ns act us = true) : ValidUpdate ns act us :=
  validUpdateB_sound h

/-- "Can not reorder systems" is thrown exactly when the constraint relation restricted to the present
systems has a cycle. -/
theorem reorder_fails_iff_cyclic (ns : List Node) (hu : UniqueNames ns) :
    reorder ns = none ↔ Cyclic ns :=
  ⟨reorder_none_cyclic hu, reorder_cyclic_none hu⟩

/-- No admissible order exists for a cyclic relation: failing is the only correct answer. -/
theorem cyclic_no_valid_order (ns o : List Node) (hu : UniqueNames ns) (hc : Cyclic ns) :
    ¬ ValidOrder ns o := by
  intro hv
  exact not_cyclic_of_respects hv.perm (hv.perm.nodup_iff.mpr (nodup_of_names hu)) hv.respects hc

/-- In every state reached by a well-formed history the stored order is an admissible order of the
ordering problem solved last, and `ordered_systems` is exactly that order. -/
theorem manager_order_valid (ops : List Op) (hwf : wfFrom Mgr.empty ops = true) :
    let m := (run Mgr.empty ops).1
    ValidOrder m.snapSrc m.snap ∧ (m.dead = false → m.ordered = m.snap.map (·.id)) := by
  have ho := (run_spec ops inv_empty).2.1 oinv_empty hwf
  exact ⟨ho.snapValid, ho.orderedSnap⟩

/-- Every op that re-orders (init, add after init, remove of a registered name) and returns normally has
solved the ordering problem of the systems registered now (current configs, current group priorities). -/
theorem manager_order_current (m : Mgr) (hd : m.dead = false) (op : Op) (hop : op.reorders m = true)
    (hok : (step m op).2.1 = .ok) : (step m op).1.snapSrc = (step m op).1.nodes :=
  step_order_current hd op hop hok

/-- One manager update after any well-formed history: it does not throw; the systems updated are, in
sequence, the active ones of the stored order, an admissible order of the ordering problem solved last
(`manager_order_current` says when that is the problem of the systems registered now); every registered system
receives exactly one `onUpdate` if it is active after the update (late-comers are started first) and none
otherwise. -/
theorem update_each_once (ops : List Op) (hwf : wfFrom Mgr.empty ops = true) :
    let m := (run Mgr.empty ops).1
    m.dead = false → m.wasInit = true →
    (step m .update).2.1 = .ok ∧
    ValidUpdate m.snapSrc (fun n => decide (stateOf (step m .update).1.systems n.id = some .active))
      ((m.snap.filter (fun n => decide (stateOf (step m .update).1.systems n.id = some .active)))) ∧
    updatesOf (step m .update).2.2 =
      (m.snap.filter (fun n => decide (stateOf (step m .update).1.systems n.id = some .active))).map (·.id) ∧
    ∀ s ∈ (step m .update).1.systems,
      (updatesOf (step m .update).2.2).count s.uid = if s.st = .active then 1 else 0 := by
  intro m hd hw
  have hi : Inv m ([] ++ allEvents (run Mgr.empty ops).2) := (run_spec ops inv_empty).1
  have ho : OInv m := (run_spec ops inv_empty).2.1 oinv_empty hwf
  clear_value m
  have hi' := (step_inv hi .update).inv
  have hspec := updateAll_spec m.ordered { ss := m.systems } hi.orderedNodup rfl
  rw [step_update_live hd hw] at hi' ⊢
  dsimp only at hi' ⊢
  generalize updateAll m.ordered { ss := m.systems } = r at hspec hi' ⊢
  obtain ⟨hok, _, hup⟩ := hspec
  replace hup : updatesOf r.evs = m.ordered.filter fun u => decide (stateOf r.ss u = some .active) := hup
  have hupd : updatesOf r.evs =
      (m.snap.filter (fun n => decide (stateOf r.ss n.id = some .active))).map (·.id) := by
    rw [hup, ho.orderedSnap hd, List.filter_map]
    rfl
  refine ⟨by rw [outcomeOf, hok]; rfl, ⟨m.snap, ho.snapValid, rfl⟩, hupd, fun s hs => ?_⟩
  -- the identities updated are distinct, so the count is 1 or 0; an active system is in `ordered`
  have hst : stateOf r.ss s.uid = some s.st := stateOf_of_mem hi'.uidsNodup hs
  have hnd : (updatesOf r.evs).Nodup := by
    rw [hup]; exact hi.orderedNodup.sublist (List.filter_sublist ..)
  rw [hnd.count, hup]
  refine ite_cond_congr (propext ?_)
  rw [List.mem_filter, hst, decide_eq_true_eq, Option.some.injEq]
  exact and_iff_right_of_imp fun h => hi'.started hd s.uid s.st hst (h ▸ rfl)

/-- Every object's complete callback trace, over any history (including the teardown of the manager), is a
path of the documented lifecycle graph starting at `onCreate`. -/
theorem lifecycle_legal (ops : List Op) (u : Nat) :
    legalTrace (traceOf u (allEvents (run Mgr.empty ops).2)) = true :=
  (run_spec ops inv_empty).1.good.legal u

/-- After `removeSystem(name)` the removed object never receives a callback again (in particular no
`onUpdate`), whatever happens afterwards. -/
theorem removed_never_updated (ops1 ops2 : List Op) (name : Name) (u : Nat) :
    let m1 := (run Mgr.empty ops1).1
    m1.dead = false → m1.byName.lookup name = some u →
    ∀ e ∈ allEvents (run m1 (.remove name :: ops2)).2, e.uid ≠ u := by
  intro m1 hd hl e he
  have hi : Inv m1 ([] ++ allEvents (run Mgr.empty ops1).2) := (run_spec ops1 inv_empty).1
  rw [run_cons] at he
  have hrm := step_remove hd hl
  rw [allEvents, List.flatMap_cons, hrm.1, List.nil_append] at he
  exact (run_spec ops2 (step_inv hi (.remove name)).inv).2.2 u hrm.2.1 e he

/-- The remaining systems keep running: a successful `removeSystem` calls nothing, changes no other
object, keeps every other registered object registered and ordered, and leaves an admissible order of
exactly the remaining systems (so `update_each_once` applies to them). -/
theorem remove_keeps_running (ops : List Op) (hwf : wfFrom Mgr.empty ops = true) (name : Name) (u : Nat) :
    let m := (run Mgr.empty ops).1
    m.dead = false → m.byName.lookup name = some u → (step m (.remove name)).2.1 = .ok →
    let m' := (step m (.remove name)).1
    (step m (.remove name)).2.2 = [] ∧
    m'.systems = m.systems.filter (fun s => decide (s.uid ≠ u)) ∧
    m'.ordered.Perm (m'.systems.map (·.uid)) ∧
    ValidOrder m'.nodes m'.snap ∧ m'.ordered = m'.snap.map (·.id) := by
  intro m hd hl hok m'
  have ho : OInv m := (run_spec ops inv_empty).2.1 oinv_empty hwf
  obtain ⟨m1, o, hs, hre, heq⟩ := (step_remove hd hl).2.2 hok
  have hnn : (m1.nodes.map (·.name)).Nodup := by
    rw [nodes_name, hs]
    exact ho.namesNodup.sublist ((List.filter_sublist ..).map _)
  have hperm := (reorder_perm' hre).map (·.id)
  rw [nodes_id] at hperm
  simp only [m']
  rw [heq]
  exact ⟨rfl, hs, hperm, reorder_valid hnn hre, rfl⟩

/-! ## non-vacuity: the hypotheses are satisfiable by concrete non-trivial values

The test vectors are evaluated by the kernel alone (`decide +kernel`): plain `decide` first evaluates the same
term in the elaborator, which is several times slower. -/

/-- three systems: `a` (name 1) declares update-before `b`; `c` (name 3) declares update-after `a` and has
the highest priority; `b` (name 2) has priority 5 -/
def exA : Node := ⟨0, 1, [2], [], 0, 0⟩
def exB : Node := ⟨1, 2, [], [], 0, 5⟩
def exC : Node := ⟨2, 3, [], [1, 9], 0, 9⟩
/-- `d` closes a cycle: after `b`, before `a` -/
def exD : Node := ⟨3, 4, [1], [2], 0, 1⟩

example : UniqueNames [exA, exB, exC] := by unfold UniqueNames; decide +kernel
example : reorder [exA, exB, exC] = some [exA, exC, exB] := by decide +kernel
example : ValidOrder [exA, exB, exC] [exA, exC, exB] := by decide +kernel
example : ¬ ValidOrder [exA, exB, exC] [exA, exB, exC] := by decide +kernel   -- priority: c (9) must precede b (5)
example : ¬ ValidOrder [exA, exB, exC] [exC, exA, exB] := by decide +kernel   -- constraint: c is after a
example : validUpdateB [exA, exB, exC] (fun n => n.id != 2) [exA, exB] = true := by decide +kernel  -- c paused
example : validUpdateB [exA, exB, exC] (fun n => n.id != 2) [exB, exA] = false := by decide +kernel
example : UniqueNames [exA, exB, exD] ∧ reorder [exA, exB, exD] = none := by unfold UniqueNames; decide +kernel
example : Cyclic [exA, exB, exD] :=
  ⟨exA, .cons (by decide) (by decide : mustPrecede exA exB = true)
    (.cons (by decide) (by decide : mustPrecede exB exD = true)
      (.single (by decide) (by decide) (by decide : mustPrecede exD exA = true)))⟩

/-- a history: two systems before init (the second update-before the first), init, update, a late-comer
with a constraint and a higher group priority, update, pause, update, removal, update (the examples append
the teardown where they need it) -/
def exHist : List Op :=
  [ .add 1 false ⟨[], [], 0, 0⟩, .add 2 true ⟨[1], [], 0, 0⟩, .init, .update,
    .setGroup 1 7, .add 3 false ⟨[], [2], 1, 0⟩, .update, .ext 1 .pause, .update,
    .remove 2, .update ]

example : wfFrom Mgr.empty exHist = true := by decide +kernel
example : (run Mgr.empty exHist).1.dead = false ∧ (run Mgr.empty exHist).1.wasInit = true := by decide +kernel
example : (run Mgr.empty exHist).1.ordered = [2, 0] := by decide +kernel
example : updatesOf (step (run Mgr.empty exHist).1 .update).2.2 = [2] := by decide +kernel
example : (run Mgr.empty (exHist ++ [.teardown])).2.map (·.1) =
    [.ok, .ok, .ok, .ok, .ok, .ok, .ok, .ok, .ok, .ok, .ok, .ok] := by decide +kernel
example : traceOf 1 (allEvents (run Mgr.empty (exHist ++ [.teardown])).2) =
    [.create, .configure, .start, .update, .update, .update] := by decide +kernel
example : traceOf 0 (allEvents (run Mgr.empty (exHist ++ [.teardown])).2) =
    [.create, .configure, .start, .update, .update, .pause, .stop, .destroy] := by decide +kernel
example : ((run Mgr.empty (exHist.take 9)).1.byName.lookup 2 = some 1) := by decide +kernel
/-- a contradictory late-comer is reported, the others keep running in the previous order -/
example : (step (run Mgr.empty exHist).1 (.add 4 false ⟨[1], [1], 0, 0⟩)).2.1 = .cannotReorder := by decide +kernel

end Mustache.Props.C14
