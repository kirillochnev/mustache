import Mustache.Proofs.RowsCheck
import Mustache.Proofs.RowsPackInv
import Mustache.Driver.World
/-!
# C02 — component values follow their entity through every structural change

Model: `Mustache.Model.WM` (`Model/World.lean`): archetypes = dense row lists with swap-remove, one
location per id. `RowInv w`:
 1. every row has one value per mask entry;
 2. the location of the owner of row `i` of archetype `ai` is `(ai, i)`, inside the location table;
 3. (consequence of 2) no id owns two rows;
 4. masks are sorted duplicate-free, (mask, shared instances) identifies the archetype.
`RowInv` holds initially and is preserved by `Archetype::insert/remove/externalMove`, `getArchetype`
and by every unlocked operation. Operations on entity `e` never change what any OTHER entity reads
(`frame_other_entities_*`); `assign` makes the written token readable and keeps the other components
(`read_last_written`); `clone` copies every value; rows = live handles (`archetype_rows_exact`).

Id-table facts are hypotheses named after the C01 invariant: `AllocOK w` (the id `createWithOutInit`
hands out next owns no row, is not the null id, and has a location slot), `FreeHeadNot w id`
(the free-list head is not a live id), and `Located w e` / `LiveInv w` (a live handle's location
points at its own row — itself proved invariant here as `liveInv_*`).
-/
namespace Mustache.Props.C02
open Mustache.Model
open Mustache.Proofs.Rows

abbrev cat := Mustache.Driver.World.catalogue

structure RowInv (w : WM) : Prop where
  rows : RowsOK w
  keys : KeysOK w

def InRow (w : WM) (e : Handle) : Prop := ∃ ai i, InRowAt w e ai i

/-! ## sample states (built by the model's own operations) -/

def e0 : Handle := ⟨0, 0, 0⟩
def e1 : Handle := ⟨1, 0, 0⟩
def e2 : Handle := ⟨2, 0, 0⟩
def e3 : Handle := ⟨3, 0, 0⟩

/-- four entities: e0 {A,B}; e1, e2, e3 {A,C} with distinct tokens in C -/
def s4 : WM :=
  let w : WM := {}
  let (w, _, _) := w.create cat 0 [0, 1] Shared.null
  let (w, _, _) := w.create cat 0 [0] Shared.null
  let (w, _, _) := w.create cat 0 [0] Shared.null
  let (w, _, _) := w.create cat 0 [0] Shared.null
  let (w, _, _) := w.assign cat 0 e1 2 (some 11)
  let (w, _, _) := w.assign cat 0 e2 2 (some 22)
  let (w, _, _) := w.assign cat 0 e3 2 (some 33)
  w

theorem s4_inv : RowInv s4 := ⟨rowsOK_of_check (by decide +kernel), keysOK_of_check (by decide +kernel)⟩
theorem s4_alloc : AllocOK s4 := allocOK_of_check (by decide +kernel)

example : s4.archs.map (fun a => (a.mask, a.rows.map (·.ent.id))) = [([0, 1], [0]), ([0], []), ([0, 2], [1, 2, 3])] := by
  decide +kernel
example : s4.getComp e1 2 = some (some 11) ∧ s4.getComp e3 2 = some (some 33) := by decide +kernel
example : InRowAt s4 e1 2 0 ∧ InRowAt s4 e2 2 1 ∧ InRowAt s4 e3 2 2 :=
  ⟨inRowAt_of_check (by decide +kernel), inRowAt_of_check (by decide +kernel), inRowAt_of_check (by decide +kernel)⟩

/-- the four clauses of `RowInv` in the words of the property -/
theorem rowInv_clauses {w : WM} (h : RowInv w) :
    (∀ (ai i : Nat) (row : Row), (w.arch ai).rows[i]? = some row →
        row.vals.length = (w.arch ai).mask.length) ∧
    (∀ (ai i : Nat) (row : Row), (w.arch ai).rows[i]? = some row →
        w.locOf row.ent = ⟨some ai, i⟩ ∧ row.ent.id < w.locs.length) ∧
    (∀ (ai i aj j : Nat) (r r' : Row), (w.arch ai).rows[i]? = some r → (w.arch aj).rows[j]? = some r' →
        r.ent.id = r'.ent.id → ai = aj ∧ i = j) ∧
    (∀ ai, ai < w.archs.length → List.Pairwise (· < ·) (w.arch ai).mask) ∧
    (∀ ai aj, ai < w.archs.length → aj < w.archs.length → (w.arch ai).mask = (w.arch aj).mask →
        (w.arch ai).shared.data = (w.arch aj).shared.data → ai = aj) :=
  ⟨h.rows.vals, fun _ _ _ hr => ⟨h.rows.locOf hr, h.rows.id_lt hr⟩,
   fun _ _ _ _ _ _ h1 h2 hid => h.rows.unique h1 h2 hid, h.keys.masks, h.keys.distinct⟩

theorem rowInv_init : RowInv ({} : WM) := ⟨rowsOK_init, keysOK_init⟩

theorem RowInv.congr {w w' : WM} (h : RowInv w) (ha : w'.archs = w.archs) (hl : w'.locs = w.locs) :
    RowInv w' :=
  ⟨rowsOK_congr ha hl h.rows, (KeysSame.of_archs ha).keysOK h.keys⟩

theorem RowInv.step {w w' : WM} {id : Nat} (h : RowInv w) (hs : Step w w' id) : RowInv w' :=
  ⟨hs.ok, hs.keys h.keys⟩

/-- equal component set and equal shared instances ⇒ the same archetype -/
theorem same_key_same_archetype {w : WM} (h : RowInv w) {ai aj : Nat} (hai : ai < w.archs.length)
    (haj : aj < w.archs.length) (hm : (w.arch ai).mask = (w.arch aj).mask)
    (hd : (w.arch ai).shared.data = (w.arch aj).shared.data) : ai = aj :=
  h.keys.distinct ai aj hai haj hm hd

example : s4.archs.length = 3 := by decide +kernel

/-- `(rows.set idx last).dropLast`, for EVERY `idx`: position `idx` (if it survives) holds the former
last row, every other surviving position is unchanged, the last position is gone — first, middle and
last row are instances -/
theorem swap_remove_rows (rows : List Row) (idx j : Nat) (x : Row) :
    ((rows.set idx x).dropLast)[j]? =
      if j < rows.length - 1 then (if idx = j then some x else rows[j]?) else none :=
  swap_getElem? rows idx j x

example : ((([⟨e0, []⟩, ⟨e1, []⟩, ⟨e2, []⟩, ⟨e3, []⟩] : List Row).set 1 ⟨e3, []⟩).dropLast).map (·.ent.id)
    = [0, 3, 2] := by decide +kernel

/-- `Archetype::insert` of a handle whose id is inside the table, not null and owns no row -/
theorem rowInv_archInsert (info : CompId → CompInfo) {w : WM} (h : RowInv w) (ai : Nat) (e : Handle)
    (skip : Mask) (hai : ai < w.archs.length) (hn : e.id ≠ nullId) (hlt : e.id < w.locs.length)
    (hfresh : NotInRow w e.id) : RowInv (w.archInsert info ai e skip).1 := by
  rcases archInsert_eq info w ai e skip with ⟨vals, heq, hlen⟩
  rw [heq]
  exact ⟨rowsOK_insertRow h.rows ai e vals hai hn hlt hfresh hlen,
    (insertRow_keysSame w ai e vals).keysOK h.keys⟩

/-- `Archetype::remove`, any archetype, any index (last / first / middle / out of range), any skip set -/
theorem rowInv_archRemove (info : CompId → CompInfo) {w : WM} (h : RowInv w) (ai idx : Nat) (sk : Mask) :
    RowInv (w.archRemove info ai idx sk).1 :=
  ⟨rowsOK_archRemove info h.rows ai idx sk, (archRemove_keysSame info w ai idx sk).keysOK h.keys⟩

example : ((s4.archRemove cat 2 0 []).1.arch 2).rows.map (·.ent.id) = [3, 2] ∧
    (s4.archRemove cat 2 0 []).1.locOf e3 = ⟨some 2, 0⟩ ∧
    ((s4.archRemove cat 2 2 []).1.arch 2).rows.map (·.ent.id) = [1, 2] := by decide +kernel

/-- `Archetype::externalMove` of the owner of row `(prev, prevIdx)` into another existing archetype -/
theorem rowInv_externalMove (info : CompId → CompInfo) {w : WM} (h : RowInv w) (target : Nat) (e : Handle)
    (prev prevIdx : Nat) (skip : Mask) (hne : target ≠ prev) (ht : target < w.archs.length)
    (hrow : InRowAt w e prev prevIdx) :
    ∃ w' cbs, w.externalMove info target e prev prevIdx skip = some (w', cbs) ∧ RowInv w' := by
  rcases externalMove_moved info h.rows target e prev prevIdx skip hne ht hrow with ⟨w', cbs, heq, hm⟩
  exact ⟨w', cbs, heq, h.step hm.step⟩

example : ((s4.externalMove cat 0 e1 2 0 []).map (fun r => (r.1.arch 0).rows.map (·.ent.id))) = some [0, 1] := by
  decide +kernel

/-- `getArchetype(mask, shared)` for a sorted mask -/
theorem rowInv_getArch {w : WM} (h : RowInv w) (m : Mask) (sh : Shared) (hm : MaskOk m) :
    RowInv (w.getArch m sh).1 :=
  ⟨rowsOK_getArch h.rows m sh, keysOK_getArch h.keys m sh hm⟩

theorem rowInv_create (info : CompId → CompInfo) {w : WM} (h : RowInv w) (ha : AllocOK w) (t : Nat)
    (mask : Mask) (sh : Shared) (hm : MaskOk mask) : RowInv (w.create info t mask sh).1 := by
  by_cases hl : w.isLocked = true
  · rw [create_locked info w t mask sh hl]; exact h.congr rfl rfl
  · rcases create_unlocked info h.rows ha t mask sh (by simpa using hl) hm with ⟨_, _, hs, _⟩
    exact h.step hs

example : MaskOk [0, 2] := maskOk_of_sortedb _ (by decide +kernel)

theorem rowInv_assign (info : CompId → CompInfo) {w : WM} (h : RowInv w) (t : Nat) (e : Handle)
    (c : CompId) (v : Option Nat) (hloc : Located w e) : RowInv (w.assign info t e c v).1 :=
  h.step (assign_result info h.rows t e c v hloc).1

theorem rowInv_removeComp (info : CompId → CompInfo) {w : WM} (h : RowInv w) (t : Nat) (e : Handle)
    (c : CompId) (hloc : Located w e) : RowInv (w.removeComp info t e c).1 :=
  h.step (removeComp_outcome info h.rows t e c (fun _ => hloc)).1

/-- `destroyNow` of ANY handle (no hypothesis) -/
theorem rowInv_destroyNowU (info : CompId → CompInfo) {w : WM} (h : RowInv w) (e : Handle) :
    RowInv (w.destroyNowU info e).1 :=
  ⟨rowsOK_destroyNowU info h.rows e, (keysSame_destroyNowU info w e).keysOK h.keys⟩

theorem rowInv_clone {w : WM} (h : RowInv w) (ha : AllocOK w) (e : Handle) (hloc : Located w e) :
    RowInv (w.clone e).1 := by
  by_cases hv : w.isValid e = true
  · cases hla : (w.locOf e).arch with
    | none =>
      have : w.clone e = (w, none) := by simp [WM.clone, hv, hla]
      rw [this]; exact h
    | some ai =>
      rcases hloc ai hla with ⟨prow, hr, he⟩
      rcases clone_spec h.rows ha e hv hr he with ⟨_, hs, _⟩
      exact h.step hs
  · rw [clone_invalid w e (by simpa using hv)]; exact h

theorem rowInv_buildUpdateU (info : CompId → CompInfo) {w : WM} (h : RowInv w) (e : Handle)
    (adds : List (CompId × Option Nat)) (rems : Mask) (hloc : Located w e) :
    RowInv (w.buildUpdateU info e adds rems).1 :=
  h.step (buildUpdateU_result info h.rows e adds rems hloc).1

theorem rowInv_buildNewU (info : CompId → CompInfo) {w : WM} (h : RowInv w) (ha : AllocOK w)
    (adds : List (CompId × Option Nat)) : RowInv (w.buildNewU info adds).1 :=
  h.step (buildNewU_spec info h.rows ha adds).2.1

theorem rowInv_sassign (info : CompId → CompInfo) {w : WM} (h : RowInv w) (e : Handle) (sid value : Nat)
    (hloc : Located w e) : RowInv (w.sassign info e sid value).1 :=
  h.step (sassign_result info h.rows e sid value hloc).1

theorem rowInv_sremove (info : CompId → CompInfo) {w : WM} (h : RowInv w) (e : Handle) (sid : Nat)
    (hloc : Located w e) : RowInv (w.sremove info e sid).1 :=
  h.step (sremove_outcome info h.rows e sid (fun _ => hloc)).1

theorem rowInv_clearArch (info : CompId → CompInfo) {w : WM} (h : RowInv w) (ai : Nat) :
    RowInv (w.clearArch info ai).1 :=
  ⟨(clearArch_spec info h.rows ai).1, (keysSame_clearArch info w ai).keysOK h.keys⟩

/-- `update()`: destroys every pending handle through the guarded path -/
theorem rowInv_update (info : CompId → CompInfo) {w : WM} (h : RowInv w) : RowInv (w.update info).1 :=
  update_fold info (fun a b => RowInv a → RowInv b) (fun _ => id) (fun _ _ _ h₁ h₂ h => h₂ (h₁ h))
    (fun _ e h => rowInv_destroyNowU info h e) (fun _ h => h.congr rfl rfl) w h

example : Located s4 e2 := located_of_row s4_inv.rows (inRowAt_of_check (by decide +kernel) : InRowAt s4 e2 2 1)
example : ((s4.destroyNowU cat e1).1.arch 2).rows.map (·.ent.id) = [3, 2] := by decide +kernel

/-- two different handles that own rows have different ids -/
theorem id_ne_of_ne {w : WM} (h : RowInv w) {e e' : Handle} (he : InRow w e) (he' : InRow w e')
    (hne : e' ≠ e) : e'.id ≠ e.id := by
  rcases he with ⟨ai, i, r, hr, rfl⟩
  rcases he' with ⟨aj, j, r', hr', rfl⟩
  intro hid
  rcases h.rows.unique hr' hr hid with ⟨rfl, rfl⟩
  rw [hr] at hr'; cases hr'
  exact hne rfl

/-- an id that owns no row is not the id of a row owner -/
theorem id_ne_of_fresh {w : WM} {id : Nat} (hf : NotInRow w id) {e' : Handle} (he' : InRow w e') : e'.id ≠ id := by
  rcases he' with ⟨aj, j, r, hr, rfl⟩
  exact hf aj j r hr

/-- what `Step` says about the observations of every other row owner -/
theorem frame_of_step {w w' : WM} {id : Nat} (h : RowInv w) (hs : Step w w' id) (e' : Handle)
    (he' : InRow w e') (hne : e'.id ≠ id) :
    (∀ c, w'.getComp e' c = w.getComp e' c) ∧ (∀ c, w'.hasComp e' c = w.hasComp e' c) ∧
    (∀ s, w'.hasShared e' s = w.hasShared e' s) ∧ w'.archOf e' = w.archOf e' ∧
    w'.isValid e' = w.isValid e' := by
  rcases he' with ⟨aj, j, r, hr, rfl⟩
  exact hs.frame.observations h.rows hr hne

theorem frame_other_entities_archRemove (info : CompId → CompInfo) {w : WM} (h : RowInv w) (ai idx : Nat)
    (sk : Mask) (row : Row) (hr : (w.arch ai).rows[idx]? = some row) (e' : Handle) (he' : InRow w e')
    (hne : e' ≠ row.ent) (c : CompId) :
    (w.archRemove info ai idx sk).1.getComp e' c = w.getComp e' c ∧
    (w.archRemove info ai idx sk).1.hasComp e' c = w.hasComp e' c := by
  have := frame_of_step h (archRemove_step info h.rows ai idx sk row hr).1 e' he'
    (id_ne_of_ne h ⟨ai, idx, row, hr, rfl⟩ he' hne)
  exact ⟨this.1 c, this.2.1 c⟩

theorem frame_other_entities_externalMove (info : CompId → CompInfo) {w : WM} (h : RowInv w) (target : Nat)
    (e : Handle) (prev prevIdx : Nat) (skip : Mask) (hne : target ≠ prev) (ht : target < w.archs.length)
    (hrow : InRowAt w e prev prevIdx) (e' : Handle) (he' : InRow w e') (hee : e' ≠ e) (c : CompId) :
    ∃ w' cbs, w.externalMove info target e prev prevIdx skip = some (w', cbs) ∧
      w'.getComp e' c = w.getComp e' c ∧ w'.hasComp e' c = w.hasComp e' c := by
  rcases externalMove_moved info h.rows target e prev prevIdx skip hne ht hrow with ⟨w', cbs, heq, hm⟩
  have := frame_of_step h hm.step e' he' (id_ne_of_ne h ⟨prev, prevIdx, hrow⟩ he' hee)
  exact ⟨w', cbs, heq, this.1 c, this.2.1 c⟩

/-- an operation on `e` that is a `Step` on `e`'s id whenever `e` is located: nobody else who owns a
row sees a difference -/
theorem frame_of_op {w w' : WM} {e : Handle} (h : RowInv w) (he : InRow w e)
    (hs : Located w e → Step w w' e.id) (e' : Handle) (he' : InRow w e') (hne : e' ≠ e) :
    (∀ c, w'.getComp e' c = w.getComp e' c) ∧ (∀ c, w'.hasComp e' c = w.hasComp e' c) ∧
    (∀ s, w'.hasShared e' s = w.hasShared e' s) ∧ w'.archOf e' = w.archOf e' ∧
    w'.isValid e' = w.isValid e' := by
  rcases he with ⟨ai, i, hrow⟩
  exact frame_of_step h (hs (located_of_row h.rows hrow)) e' he' (id_ne_of_ne h ⟨ai, i, hrow⟩ he' hne)

theorem frame_other_entities_assign (info : CompId → CompInfo) {w : WM} (h : RowInv w) (t : Nat)
    (e : Handle) (c : CompId) (v : Option Nat) (he : InRow w e) (e' : Handle) (he' : InRow w e')
    (hne : e' ≠ e) (c' : CompId) :
    (w.assign info t e c v).1.getComp e' c' = w.getComp e' c' ∧
    (w.assign info t e c v).1.hasComp e' c' = w.hasComp e' c' :=
  let r := frame_of_op h he (fun hloc => (assign_result info h.rows t e c v hloc).1) e' he' hne
  ⟨r.1 c', r.2.1 c'⟩

theorem frame_other_entities_removeComp (info : CompId → CompInfo) {w : WM} (h : RowInv w) (t : Nat)
    (e : Handle) (c : CompId) (he : InRow w e) (e' : Handle) (he' : InRow w e') (hne : e' ≠ e)
    (c' : CompId) :
    (w.removeComp info t e c).1.getComp e' c' = w.getComp e' c' ∧
    (w.removeComp info t e c).1.hasComp e' c' = w.hasComp e' c' :=
  let r := frame_of_op h he (fun hloc => (removeComp_outcome info h.rows t e c (fun _ => hloc)).1) e' he' hne
  ⟨r.1 c', r.2.1 c'⟩

theorem frame_other_entities_destroyNow (info : CompId → CompInfo) {w : WM} (h : RowInv w) (e : Handle)
    (he : InRow w e) (e' : Handle) (he' : InRow w e') (hne : e' ≠ e) (c' : CompId) :
    (w.destroyNowU info e).1.getComp e' c' = w.getComp e' c' ∧
    (w.destroyNowU info e).1.hasComp e' c' = w.hasComp e' c' :=
  let r := frame_of_op h he (destroyNowU_step info h.rows e) e' he' hne
  ⟨r.1 c', r.2.1 c'⟩

/-- `clone(e)`: every entity that owns a row — `e` included — reads what it read before -/
theorem frame_other_entities_clone {w : WM} (h : RowInv w) (ha : AllocOK w) (e : Handle)
    (hv : w.isValid e = true) (he : InRow w e) (e' : Handle) (he' : InRow w e') (c' : CompId) :
    (w.clone e).1.getComp e' c' = w.getComp e' c' ∧ (w.clone e).1.hasComp e' c' = w.hasComp e' c' := by
  rcases he with ⟨ai, i, prow, hr, hpe⟩
  rcases clone_spec h.rows ha e hv hr hpe with ⟨_, hs, _, _, _, hfresh⟩
  have := frame_of_step h hs e' he' (id_ne_of_fresh hfresh he')
  exact ⟨this.1 c', this.2.1 c'⟩

/-- `create`: nobody who owns a row is affected -/
theorem frame_other_entities_create (info : CompId → CompInfo) {w : WM} (h : RowInv w) (ha : AllocOK w)
    (t : Nat) (mask : Mask) (sh : Shared) (hm : MaskOk mask) (e' : Handle) (he' : InRow w e') (c' : CompId) :
    (w.create info t mask sh).1.getComp e' c' = w.getComp e' c' ∧
    (w.create info t mask sh).1.hasComp e' c' = w.hasComp e' c' := by
  by_cases hl : w.isLocked = true
  · rw [create_locked info w t mask sh hl]; exact ⟨rfl, rfl⟩
  · rcases create_unlocked info h.rows ha t mask sh (by simpa using hl) hm with ⟨_, _, hs, _, _, _, _, hfresh⟩
    have := frame_of_step h hs e' he' (id_ne_of_fresh hfresh he')
    exact ⟨this.1 c', this.2.1 c'⟩

theorem frame_other_entities_sassign (info : CompId → CompInfo) {w : WM} (h : RowInv w) (e : Handle)
    (sid value : Nat) (he : InRow w e) (e' : Handle) (he' : InRow w e') (hne : e' ≠ e) (c' : CompId) :
    (w.sassign info e sid value).1.getComp e' c' = w.getComp e' c' ∧
    (∀ s, (w.sassign info e sid value).1.hasShared e' s = w.hasShared e' s) :=
  let r := frame_of_op h he (fun hloc => (sassign_result info h.rows e sid value hloc).1) e' he' hne
  ⟨r.1 c', r.2.2.1⟩

theorem frame_other_entities_sremove (info : CompId → CompInfo) {w : WM} (h : RowInv w) (e : Handle)
    (sid : Nat) (he : InRow w e) (e' : Handle) (he' : InRow w e') (hne : e' ≠ e) (c' : CompId) :
    (w.sremove info e sid).1.getComp e' c' = w.getComp e' c' ∧
    (∀ s, (w.sremove info e sid).1.hasShared e' s = w.hasShared e' s) :=
  let r := frame_of_op h he (fun hloc => (sremove_outcome info h.rows e sid (fun _ => hloc)).1) e' he' hne
  ⟨r.1 c', r.2.2.1⟩

theorem frame_other_entities_buildUpdate (info : CompId → CompInfo) {w : WM} (h : RowInv w) (e : Handle)
    (adds : List (CompId × Option Nat)) (rems : Mask) (he : InRow w e) (e' : Handle) (he' : InRow w e')
    (hne : e' ≠ e) (c' : CompId) :
    (w.buildUpdateU info e adds rems).1.getComp e' c' = w.getComp e' c' ∧
    (w.buildUpdateU info e adds rems).1.hasComp e' c' = w.hasComp e' c' :=
  let r := frame_of_op h he (fun hloc => (buildUpdateU_result info h.rows e adds rems hloc).1) e' he' hne
  ⟨r.1 c', r.2.1 c'⟩

theorem frame_other_entities_buildNew (info : CompId → CompInfo) {w : WM} (h : RowInv w) (ha : AllocOK w)
    (adds : List (CompId × Option Nat)) (e' : Handle) (he' : InRow w e') (c' : CompId) :
    (w.buildNewU info adds).1.getComp e' c' = w.getComp e' c' ∧
    (w.buildNewU info adds).1.hasComp e' c' = w.hasComp e' c' :=
  let r := frame_of_step h (buildNewU_spec info h.rows ha adds).2.1 e' he' (id_ne_of_fresh ha.fresh he')
  ⟨r.1 c', r.2.1 c'⟩

/-- `clearArchetype(ai)`: entities of the other archetypes keep rows, locations, validity -/
theorem frame_other_entities_clearArch (info : CompId → CompInfo) {w : WM} (h : RowInv w) (ai aj j : Nat)
    (r : Row) (hne : aj ≠ ai) (hr : (w.arch aj).rows[j]? = some r) (c' : CompId) :
    (w.clearArch info ai).1.getComp r.ent c' = w.getComp r.ent c' := by
  rcases clearArch_spec info h.rows ai with ⟨_, _, hoth, hkeep⟩
  have hk := hkeep aj j r hne hr
  have hr2 : ((w.clearArch info ai).1.arch aj).rows[j]? = some r := by rw [hoth aj hne]; exact hr
  rw [getComp_of_loc (locOf_of_locs hk.1) hr2, getComp_of_loc (h.rows.locOf hr) hr, hk.2, hoth aj hne]

/-- moving e1 out of {A,C} swaps e3 into its slot: e3 still reads its own 33, e2 its own 22 -/
example : (s4.assign cat 0 e1 1 (some 5)).1.getComp e3 2 = some (some 33) ∧
    (s4.assign cat 0 e1 1 (some 5)).1.getComp e2 2 = some (some 22) ∧
    (s4.assign cat 0 e1 1 (some 5)).1.locOf e3 = ⟨some 2, 0⟩ := by decide +kernel
example : InRow s4 e1 ∧ InRow s4 e3 ∧ e3 ≠ e1 :=
  ⟨⟨2, 0, inRowAt_of_check (by decide +kernel)⟩, ⟨2, 2, inRowAt_of_check (by decide +kernel)⟩, by decide +kernel⟩

/-- `assign<C>(e, tok)` unlocked with result `ok`: `C` reads the stored token (`tok`, or the constant of
an empty type); every other component `e` had keeps its value; the component set becomes the
dependency closure of (old set ∪ {C}) — one step of `components_eq_history` -/
theorem read_last_written (info : CompId → CompInfo) {w : WM} (h : RowInv w) (t : Nat) (e : Handle)
    (c : CompId) (tok : Nat) (hl : w.isLocked = false) (hv : w.isValid e = true) {pi idx : Nat}
    (hrow : InRowAt w e pi idx) (hres : (w.assign info t e c (some tok)).2.1 = .ok) :
    (w.assign info t e c (some tok)).1.getComp e c = some (storedOf info c (some tok)) ∧
    (∀ c', c' ≠ c → w.hasComp e c' = true →
      (w.assign info t e c (some tok)).1.getComp e c' = w.getComp e c') ∧
    (∀ x, (w.assign info t e c (some tok)).1.hasComp e x =
      (closedMask w.deps (Mask.insert (w.arch pi).mask c)).contains x) := by
  rcases hrow with ⟨prow, hr, he⟩
  have hloc : w.locOf e = ⟨some pi, idx⟩ := he ▸ h.rows.locOf hr
  rcases assign_unlocked info h.rows t e c (some tok) hl hr he _ rfl with ⟨_, heq⟩ | ⟨_, ti, hm, hmask⟩
  · rw [heq] at hres; cases hres
  · have hcm : c ∈ closedMask w.deps (Mask.insert (w.arch pi).mask c) :=
      mem_closedMask_of_mem _ _ _ ((mem_insert _ _ _).mpr (Or.inl rfl))
    refine ⟨?_, fun c' hne hhas => ?_, fun x => by rw [hm.hasComp hv, hmask]⟩
    · rw [hm.getComp hv, hmask, (indexOf?_of_mem hcm).1]
      simp only
      rw [List.getD_eq_getElem?_getD,
        List.getElem?_set_self (by rw [carry_length]; exact (indexOf?_of_mem hcm).2.1)]
      rfl
    · rw [hasComp_of_loc hloc, hv] at hhas
      have hc'p : c' ∈ (w.arch pi).mask := by simpa using hhas
      have hc'm : c' ∈ closedMask w.deps (Mask.insert (w.arch pi).mask c) :=
        mem_closedMask_of_mem _ _ _ ((mem_insert _ _ _).mpr (Or.inr hc'p))
      rw [hm.getComp hv, hmask, (indexOf?_of_mem hc'm).1]
      simp only
      rw [List.getD_eq_getElem?_getD, List.getElem?_set_ne (idxOf_ne hcm hc'm (Ne.symm hne)),
        ← List.getD_eq_getElem?_getD, carry_get info _ _ _ _ c' hc'm, carried_of_mem info _ _ _ _ hc'p,
        getComp_of_loc hloc hr c', hv, (indexOf?_of_mem hc'p).1]
      rfl

/-- for a component that is not an empty type the token itself is read back -/
theorem read_last_written_token (info : CompId → CompInfo) {w : WM} (h : RowInv w) (t : Nat) (e : Handle)
    (c : CompId) (tok : Nat) (hl : w.isLocked = false) (hv : w.isValid e = true) {pi idx : Nat}
    (hrow : InRowAt w e pi idx) (hres : (w.assign info t e c (some tok)).2.1 = .ok)
    (hfix : (info c).fixed = none) :
    (w.assign info t e c (some tok)).1.getComp e c = some (some tok) := by
  rw [(read_last_written info h t e c tok hl hv hrow hres).1, storedOf_tok info c tok hfix]

/-- the component set of `e` before the step is the mask of its archetype -/
theorem components_eq_mask {w : WM} (h : RowInv w) (e : Handle) (hv : w.isValid e = true) {pi idx : Nat}
    (hrow : InRowAt w e pi idx) (x : CompId) : w.hasComp e x = (w.arch pi).mask.contains x := by
  rcases hrow with ⟨r, hr, rfl⟩
  rw [hasComp_of_loc (h.rows.locOf hr), hv]; rfl

example : (s4.assign cat 0 e1 1 (some 5)).2.1 = .ok ∧
    (s4.assign cat 0 e1 1 (some 5)).1.getComp e1 1 = some (some 5) ∧
    (s4.assign cat 0 e1 1 (some 5)).1.getComp e1 2 = some (some 11) := by decide +kernel

/-- typed `removeComponent<C>(e)` unlocked: the other components keep their values; if `e` had `C` the
component set becomes the closure of (old set ∖ {C}) -/
theorem removeComp_keeps_values (info : CompId → CompInfo) {w : WM} (h : RowInv w) (t : Nat) (e : Handle)
    (c : CompId) (hl : w.isLocked = false) (hv : w.isValid e = true) {pi idx : Nat}
    (hrow : InRowAt w e pi idx) :
    (∀ c', c' ≠ c → w.hasComp e c' = true →
      (w.removeComp info t e c).1.getComp e c' = w.getComp e c') ∧
    (w.hasComp e c = true →
      ∀ x, (w.removeComp info t e c).1.hasComp e x =
        (closedMask w.deps (Mask.erase (w.arch pi).mask c)).contains x) := by
  rcases hrow with ⟨prow, hr, he⟩
  have hloc : w.locOf e = ⟨some pi, idx⟩ := he ▸ h.rows.locOf hr
  rcases removeComp_unlocked info h.rows t e c hl hv hr he _ rfl with ⟨habs, heq⟩ |
    ⟨hc, ⟨hti, heq⟩ | ⟨ti, hm, hmask⟩⟩
  · -- `C` absent: nothing happens
    rw [heq]
    refine ⟨fun _ _ _ => rfl, fun hh => ?_⟩
    rw [hasComp_of_loc hloc, hv] at hh
    exact absurd (List.contains_iff_mem.mp hh) habs
  · -- nothing moved: the archetype found is the entity's own
    rw [heq]
    have hsame := getArch_sameTable w (Mask.erase (w.arch pi).mask c) (w.arch pi).shared
    have hloc1 : (w.getArch (Mask.erase (w.arch pi).mask c) (w.arch pi).shared).1.locOf e = ⟨some pi, idx⟩ := by
      unfold WM.locOf; rw [getArch_locs]; exact hloc
    have harch := getArch_arch_lt w (Mask.erase (w.arch pi).mask c) (w.arch pi).shared pi (lt_of_row hr)
    have hkey := (getArch_key w (Mask.erase (w.arch pi).mask c) (w.arch pi).shared).1
    rw [hti, harch] at hkey
    generalize (w.getArch (Mask.erase (w.arch pi).mask c) (w.arch pi).shared).1 = w1 at *
    refine ⟨fun c' _ _ => ?_, fun _ x => ?_⟩
    · rw [getComp_of_loc hloc1 (by rw [harch]; exact hr), getComp_of_loc hloc hr, hsame.isValid, harch]
    · rw [hasComp_of_loc hloc1, hsame.isValid, hv, harch, ← hkey]; rfl
  · refine ⟨fun c' hne hhas => ?_, fun _ x => by rw [hm.hasComp hv, hmask]⟩
    rw [hasComp_of_loc hloc, hv] at hhas
    have hc'p : c' ∈ (w.arch pi).mask := List.contains_iff_mem.mp hhas
    have hc'm : c' ∈ closedMask w.deps (Mask.erase (w.arch pi).mask c) :=
      mem_closedMask_of_mem _ _ _ ((mem_erase _ _ _).mpr ⟨hc'p, hne⟩)
    rw [hm.getComp hv, hmask, (indexOf?_of_mem hc'm).1]
    simp only
    rw [carry_get info _ _ _ _ c' hc'm, carried_of_mem info _ _ _ _ hc'p,
      getComp_of_loc hloc hr c', hv, (indexOf?_of_mem hc'p).1]
    rfl

example : (s4.removeComp cat 0 e2 0).1.getComp e2 2 = some (some 22) ∧
    (s4.removeComp cat 0 e2 0).1.hasComp e2 0 = false := by decide +kernel

/-- `clone(e)` copies every value: the clone has exactly `e`'s components with `e`'s values -/
theorem clone_copies_values {w : WM} (h : RowInv w) (ha : AllocOK w) (e : Handle)
    (hv : w.isValid e = true) {ai idx : Nat} (hrow : InRowAt w e ai idx) (c : CompId) :
    (w.clone e).2 = some (w.allocId).2 ∧
    (w.clone e).1.getComp (w.allocId).2 c = w.getComp e c ∧
    (w.clone e).1.hasComp (w.allocId).2 c = w.hasComp e c := by
  rcases hrow with ⟨prow, hr, he⟩
  rcases clone_spec h.rows ha e hv hr he with ⟨h1, _, ho, hm, _⟩
  have hloc : w.locOf e = ⟨some ai, idx⟩ := he ▸ h.rows.locOf hr
  refine ⟨h1, ?_, ?_⟩
  · rw [ho.getComp, hm, getComp_of_loc hloc hr, hv]; rfl
  · rw [ho.hasComp, hm, hasComp_of_loc hloc, hv]; rfl

example : (s4.clone e3).2 = some ⟨4, 0, 0⟩ ∧ (s4.clone e3).1.getComp ⟨4, 0, 0⟩ 2 = some (some 33) := by decide +kernel

/-- `create(mask)` unlocked: the new entity has the closed mask, every component default-constructed -/
theorem create_default_values (info : CompId → CompInfo) {w : WM} (h : RowInv w) (ha : AllocOK w) (t : Nat)
    (mask : Mask) (sh : Shared) (hl : w.isLocked = false) (hm : MaskOk mask) :
    (w.create info t mask sh).1.isValid (w.create info t mask sh).2.1 = true ∧
    (∀ x, (w.create info t mask sh).1.hasComp (w.create info t mask sh).2.1 x =
      (closedMask w.deps mask).contains x) ∧
    (∀ c ∈ closedMask w.deps mask,
      (w.create info t mask sh).1.getComp (w.create info t mask sh).2.1 c = some (defaultVal info c)) := by
  rcases create_unlocked info h.rows ha t mask sh hl hm with ⟨ai, vals, _, ho, hmask, _, hvals, _⟩
  refine ⟨ho.valid, fun x => by rw [ho.hasComp, hmask], fun c hc => ?_⟩
  rw [ho.getComp, hmask, (indexOf?_of_mem hc).1]
  simp only
  rw [hvals c hc]

example : (s4.create cat 0 [1, 2] Shared.null).1.getComp ⟨4, 0, 0⟩ 1 = some (some 1001) := by decide +kernel

/-- under `RowInv` and `LiveInv`: a valid handle is in the rows of archetype `ai` at index `i` exactly
when its location says `(ai, i)`; it is in no other row; and every row belongs to a valid handle -/
theorem archetype_rows_exact {w : WM} (h : RowInv w) (hl : LiveInv w) (e : Handle)
    (hv : w.isValid e = true) (ai i : Nat) :
    (InRowAt w e ai i ↔ w.locOf e = ⟨some ai, i⟩) ∧
    (∀ aj j, InRowAt w e ai i → InRowAt w e aj j → aj = ai ∧ j = i) ∧
    (∀ (aj j : Nat) (r : Row), (w.arch aj).rows[j]? = some r → w.isValid r.ent = true) := by
  refine ⟨⟨?_, ?_⟩, ?_, hl.row_live⟩
  · rintro ⟨r, hr, rfl⟩; exact h.rows.locOf hr
  · intro hloc
    rcases hl.live_in e hv with ⟨aj, j, r, hr, rfl⟩
    have := h.rows.locOf hr
    rw [hloc] at this
    cases this
    exact ⟨r, hr, rfl⟩
  · rintro aj j ⟨r, hr, rfl⟩ ⟨r', hr', he'⟩
    have := h.rows.unique hr' hr (by rw [he'])
    exact this

theorem liveInv_init' : LiveInv ({} : WM) := liveInv_init

theorem liveInv_create' (info : CompId → CompInfo) {w : WM} (h : RowInv w) (hl : LiveInv w) (ha : AllocOK w)
    (t : Nat) (mask : Mask) (sh : Shared) (hm : MaskOk mask) : LiveInv (w.create info t mask sh).1 := by
  by_cases hlk : w.isLocked = true
  · rw [create_locked info w t mask sh hlk]
    exact liveInv_of_same hl (fun _ => rfl) (fun _ => rfl)
  · rcases create_unlocked info h.rows ha t mask sh (by simpa using hlk) hm with ⟨ai, vals, hs, ho, _⟩
    exact liveInv_owns hs hl ho

theorem liveInv_assign' (info : CompId → CompInfo) {w : WM} (h : RowInv w) (hl : LiveInv w) (t : Nat)
    (e : Handle) (c : CompId) (v : Option Nat) (hv : w.isValid e = true) :
    LiveInv (w.assign info t e c v).1 :=
  ((assign_result info h.rows t e c v (hl.located h.rows hv)).2 hv).liveInv hl

theorem liveInv_removeComp' (info : CompId → CompInfo) {w : WM} (h : RowInv w) (hl : LiveInv w) (t : Nat)
    (e : Handle) (c : CompId) : LiveInv (w.removeComp info t e c).1 :=
  (removeComp_outcome info h.rows t e c (hl.located h.rows)).liveInv hl

theorem liveInv_clone' {w : WM} (h : RowInv w) (hl : LiveInv w) (ha : AllocOK w) (e : Handle) :
    LiveInv (w.clone e).1 := by
  by_cases hv : w.isValid e = true
  · rcases hl.live_in e hv with ⟨ai, idx, prow, hr, he⟩
    rcases clone_spec h.rows ha e hv hr he with ⟨_, hs, ho, _⟩
    exact liveInv_owns hs hl ho
  · rw [clone_invalid w e (by simpa using hv)]; exact hl

/-- `destroyNow`; C01 fact: the free-list head is not the id being destroyed -/
theorem liveInv_destroyNow' (info : CompId → CompInfo) {w : WM} (h : RowInv w) (hl : LiveInv w) (e : Handle)
    (hfree : FreeHeadNot w e.id) : LiveInv (w.destroyNowU info e).1 :=
  liveInv_destroyNowU info h.rows hl e hfree

example : FreeHeadNot s4 e1.id := by intro h; exact absurd (by decide +kernel) h

theorem liveInv_sassign' (info : CompId → CompInfo) {w : WM} (h : RowInv w) (hl : LiveInv w) (e : Handle)
    (sid value : Nat) (hv : w.isValid e = true) : LiveInv (w.sassign info e sid value).1 :=
  ((sassign_result info h.rows e sid value (hl.located h.rows hv)).2 hv).liveInv hl

theorem liveInv_sremove' (info : CompId → CompInfo) {w : WM} (h : RowInv w) (hl : LiveInv w) (e : Handle)
    (sid : Nat) : LiveInv (w.sremove info e sid).1 :=
  (sremove_outcome info h.rows e sid (hl.located h.rows)).liveInv hl

theorem liveInv_buildUpdate' (info : CompId → CompInfo) {w : WM} (h : RowInv w) (hl : LiveInv w) (e : Handle)
    (adds : List (CompId × Option Nat)) (rems : Mask) (hv : w.isValid e = true) :
    LiveInv (w.buildUpdateU info e adds rems).1 :=
  ((buildUpdateU_result info h.rows e adds rems (hl.located h.rows hv)).2 hv).liveInv hl

theorem liveInv_buildNew' (info : CompId → CompInfo) {w : WM} (h : RowInv w) (hl : LiveInv w) (ha : AllocOK w)
    (adds : List (CompId × Option Nat)) : LiveInv (w.buildNewU info adds).1 :=
  let ⟨_, hs, _, _, ho⟩ := buildNewU_spec info h.rows ha adds
  liveInv_owns hs hl ho

/-- `applyCommandPack`: any pack — creation of a reserved handle, or commands on an existing one,
destroyNow included — applied to a state where it meets `PackOK` (creation: non-null handle whose id
owns no row, sorted mask; otherwise: the target's location, if any, is its own row) -/
theorem rowInv_applyPack (info : CompId → CompInfo) {w : WM} (h : RowInv w) (pack : List Cmd)
    (hp : PackOK w pack) : RowInv (w.applyPack info pack).1 :=
  let r := applyPack_inv info h.rows h.keys pack hp
  ⟨r.1, r.2⟩

/-- `onUnlock`: the whole flush (every buffer, every pack), provided each pack meets `PackOK` in the
state it is applied to (`PacksOK`, an inductive walk along the fold) -/
theorem rowInv_flush (info : CompId → CompInfo) {w : WM} (h : RowInv w)
    (hp : PacksOK info (detached w) (w.buffers.map packs).flatten) : RowInv (w.flush info).1 :=
  let r := flush_inv info h.rows h.keys hp
  ⟨r.1, r.2⟩

/-- `unlock` at any depth -/
theorem rowInv_unlock (info : CompId → CompInfo) {w : WM} (h : RowInv w)
    (hp : PacksOK info (detached { w with lockDepth := w.lockDepth - 1 }) (w.buffers.map packs).flatten) :
    RowInv (w.unlock info).1 := by
  rw [unlock_eq]
  split
  · exact rowInv_flush info (h.congr rfl rfl) hp
  · exact h.congr rfl rfl

/-- a locked section on `s4`: assign B to e1 and destroy e2, recorded, then flushed -/
def s4locked : WM :=
  let w := s4.lock
  let (w, _, _) := w.assign cat 0 e1 1 (some 5)
  (w.destroyNow cat 0 e2).1

example : PackOK s4locked [Cmd.assign e1 1 (some 5)] :=
  located_of_row (w := s4locked) (rowsOK_of_check (by decide +kernel)) (inRowAt_of_check (by decide +kernel) : InRowAt s4locked e1 2 0)
example : ((s4locked.unlock cat).1.arch 2).rows.map (·.ent.id) = [3] ∧
    (s4locked.unlock cat).1.getComp e1 1 = some (some 5) ∧
    (s4locked.unlock cat).1.getComp e3 2 = some (some 33) := by decide +kernel

/-- `AllocOK` follows from: rows = live handles (`LiveInv`), `locations_` covers `entities_`, fewer
slots than the null id, and C01's `freelist_wf` fact that a non-empty free list starts at a table slot
which does not store its own id -/
theorem allocOK_from_c01 {w : WM} (hl : LiveInv w) (hcov : w.slots.length ≤ w.locs.length)
    (hsmall : w.slots.length < nullId) (hhead : FreeHeadFree w) : AllocOK w :=
  allocOK_of_table hl hcov hsmall hhead

theorem freeHeadNot_from_c01 {w : WM} (hhead : FreeHeadFree w) {e : Handle} (hv : w.isValid e = true) :
    FreeHeadNot w e.id := freeHeadNot_of_table hhead hv

theorem s4_live : LiveInv s4 := liveInv_of_check (by decide +kernel)

example : FreeHeadFree s4 ∧ s4.slots.length ≤ s4.locs.length ∧ s4.slots.length < nullId :=
  ⟨fun h => absurd (by decide +kernel) h, by decide +kernel, by decide +kernel⟩

/-! ## what is left here (and where it is proved)

The two statements below are kept visible at full strength.  They are NOT proved in this file in this form (from
`RowInv`/`LiveInv` alone); they ARE proved for every state a history within the contract reaches, and for every state that
satisfies the refinement invariant `Inv` and is related to a spec state, in `Props/Refinement.lean`:
`rows_live_every_prefix`, `liveInv_through_flush`, `liveInv_through_clear_update` (audited with this property). -/

/-- `PacksOK` discharged from the invariants instead of assumed: needs `LiveInv` (and the C01 facts
about reserved handles) carried through `applyCommandPack` -/
def liveInv_flush_statement : Prop :=
  ∀ (info : CompId → CompInfo) (w : WM) (pack : List Cmd), RowInv w → LiveInv w → PackOK w pack →
    LiveInv (w.applyPack info pack).1

/-- `LiveInv` through `clearArchetype` and `update` (each released id needs the C01 free-list fact at
the moment it is released) -/
def liveInv_clear_update_statement : Prop :=
  ∀ (info : CompId → CompInfo) (w : WM) (ai : Nat), RowInv w → LiveInv w → FreeHeadFree w →
    LiveInv (w.clearArch info ai).1 ∧ LiveInv (w.update info).1

end Mustache.Props.C02
