import Mustache.Proofs.VersionsTrace
/-!
# C11 — change detection is quiescent and chunk-precise

Model: `Mustache/Model/Versions.lean` (live stamping version) and `Mustache/Model/ChunkSize.lean`.
Ghost `touched j a k`: set when an entity of version chunk `k` of archetype `a` gets a mutable access /
dirty mark of a component in `j`'s check mask, when an entity arrives in or departs from the chunk, and when
another job processes the chunk with an update mask meeting `j`'s check mask; cleared for the chunks `j`
processes.

A job is *version-filtered* when its check mask is non-empty and contained in its required mask
(`VersionFiltered`); on an archetype that has none of the checked components the implementation (and the
model) select everything, which is not change detection and is excluded by the hypothesis
`a.fmask J.check ≠ []` / `VersionFiltered`.
-/
namespace Mustache.Props.C11

open Mustache.Versions
open Mustache.ChunkSize (Size Res resolve maxMin minMax clamp)

/-- **Quiescence.** After a run of a version-filtered job `j`, any history of operations that does not
write `j`'s checked components — `world.update()`, const access, mutable access / markDirty of unchecked
components, runs of jobs whose update mask misses `j`'s check mask, runs of `j` itself — leaves `j` with
nothing to process. -/
theorem quiescent (cfg : Config) (hl : cfg.live = true) (ops1 ops2 : List Op) (j : Nat)
    (hvf : ∀ sp, cfg.jobs[j]? = some sp → VersionFiltered sp)
    (hni : ∀ op ∈ ops2, nonInterfering cfg.jobs j op = true) :
    ((((run cfg ops1).jobRun j).1.exec ops2).jobRun j).2 = [] := by
  have hinv := run_inv cfg hl ops1
  have hinv1 : Inv ((run cfg ops1).jobRun j).1 := jobRun_inv hinv j
  have hspecs1 : ((run cfg ops1).jobRun j).1.jobs.map specOf = cfg.jobs :=
    (step_keeps (run cfg ops1) (.run j)).1.trans (run_specs cfg ops1)
  exact quiet_processed (exec_inv hinv1 ops2)
    (fun J hJ => hvf _ (spec_of_job ((exec_specs ..).trans hspecs1) hJ))
    (exec_quiet hinv1 hspecs1 (quiet_after_run hinv j) ops2 hni)

/-- **A job does not re-trigger itself**, whatever its update mask (in particular when it writes the
components it checks): running it twice in a row, the second run processes nothing. -/
theorem no_self_retrigger (cfg : Config) (hl : cfg.live = true) (ops : List Op) (j : Nat)
    (hvf : ∀ sp, cfg.jobs[j]? = some sp → VersionFiltered sp) :
    ((((run cfg ops).jobRun j).1).jobRun j).2 = [] :=
  quiescent cfg hl ops [] j hvf (fun _ h => by cases h)

/-- **Read-only access never marks anything changed**: it leaves the whole state (stamps included) as it is. -/
theorem const_access_never_stamps (s : State) (e : Ent) (c : Comp) :
    (s.step (.getConst e c)).1 = s := getConst_state s e c

/-- **Chunk precision.** In every reachable state, every entity a run of `j` processes sits in a row whose
version chunk passed the filter, and — when `j` checks at least one component of that archetype — that
chunk is `touched` for `j`. -/
theorem chunk_precise (cfg : Config) (hl : cfg.live = true) (ops : List Op) (j : Nat) (J : Job) (e : Ent)
    (hj : (run cfg ops).jobs[j]? = some J) (he : e ∈ ((run cfg ops).jobRun j).2) :
    ∃ (ai : Nat) (a : Arch) (i : Nat), (run cfg ops).archs[ai]? = some a ∧ a.ents[i]? = some e ∧
      a.procChunk J (i / a.cs) = true ∧
      (a.fmask J.check ≠ [] → (run cfg ops).touched j ai (i / a.cs) = true) := by
  have hinv := run_inv cfg hl ops
  obtain ⟨ai, a, i, ha, hi, hp⟩ := (mem_procs hinv hj e).mp he
  refine ⟨ai, a, i, ha, hi, hp, fun hfc => ?_⟩
  obtain ⟨hk, hreq, _, _, hcm⟩ := procChunk_iff.mp hp
  rcases matchSt_iff.mp hcm with hnil | ⟨c, hc, hn⟩
  · exact absurd hnil hfc
  · exact (hinv.ghost hj ha hreq).touch _ c hk (mem_fmask.mp hc).1 (mem_fmask.mp hc).2 hn

/-- **The processed set is a union of whole version chunks clipped to the population**: a row is selected
iff its chunk (index `i / chunkSize`) passed the filter. -/
theorem processed_whole_chunks (cfg : Config) (hl : cfg.live = true) (ops : List Op) (j : Nat) (J : Job)
    (ai : Nat) (a : Arch) (i : Nat) (e : Ent)
    (hj : (run cfg ops).jobs[j]? = some J) (ha : (run cfg ops).archs[ai]? = some a)
    (hi : a.ents[i]? = some e) :
    e ∈ ((run cfg ops).jobRun j).2 ↔ a.procChunk J (i / a.cs) = true :=
  mem_procs_row (run_inv cfg hl ops) hj ha hi

/-- **A chunk (or archetype) the job's own filter vetoes is neither processed nor stamped**: the user's
`extraChunkFilterCheck` / `extraArchetypeFilterCheck` is consulted before `checkAndSet`. -/
theorem vetoed_chunk_untouched (a : Arch) (J : Job) (cur : Ver) (k : Nat) (c : Comp)
    (hv : J.chunkOk k = false ∨ J.reqOk a = false) :
    a.procChunk J k = false ∧ (a.runJob J cur).cst k c = a.cst k c := by
  have hp : ¬ a.procChunk J k = true := fun hp =>
    have ⟨_, hreq, hck, _⟩ := procChunk_iff.mp hp
    hv.elim (fun h => nomatch h.symm.trans hck) (fun h => nomatch h.symm.trans hreq)
  exact ⟨Bool.eq_false_iff.mpr hp, by rw [runJob_cst, if_neg fun h => hp h.1]⟩

/-- the blocks handed to the tasks cover exactly the rows of the chunks that passed (`filterArchetype`) -/
theorem blocks_cover_chunks (cs size : Nat) (hcs : 0 < cs) (hsz : 0 < size) (m : Nat → Bool) (i : Nat) :
    i ∈ blockIdx (blocks cs size m) ↔ i < size ∧ m (i / cs) = true :=
  mem_blocks_iff hcs hsz m i

/-- **Quiescence, ghost form**: if no chunk in range of an archetype with `j`'s required components is
touched for a version-filtered `j`, `j` processes nothing. -/
theorem quiescent_untouched (cfg : Config) (hl : cfg.live = true) (ops : List Op) (j : Nat) (J : Job)
    (hj : (run cfg ops).jobs[j]? = some J) (hvf : VersionFiltered (specOf J))
    (hnt : ∀ (ai : Nat) (a : Arch) (k : Nat), (run cfg ops).archs[ai]? = some a → J.reqOk a = true →
      k * a.cs < a.ents.length → (run cfg ops).touched j ai k = false) :
    ((run cfg ops).jobRun j).2 = [] := by
  rw [List.eq_nil_iff_forall_not_mem]
  intro e he
  obtain ⟨ai, a, i, ha, hi, hp, ht⟩ := chunk_precise cfg hl ops j J e hj he
  obtain ⟨hk, hreq, _⟩ := procChunk_iff.mp hp
  exact nomatch (hnt ai a _ ha hreq hk).symm.trans (ht (vf_fmask hvf hreq))

/-- **Chunk-size resolution.** `getArchetype` accepts a configuration iff there is no (non-zero) maximum or
the largest minimum does not exceed the smallest maximum, and then the chunk size is the default clamped by
the two (`minMax = 0` = no upper clamp); otherwise it is rejected with those two numbers. -/
theorem chunk_size_resolution (dflt : Nat) (fs : List Size) (s : Nat) :
    resolve dflt fs = .ok s ↔
      (minMax fs = 0 ∨ maxMin fs ≤ minMax fs) ∧ s = clamp dflt (maxMin fs) (minMax fs) :=
  Mustache.ChunkSize.resolve_ok_iff dflt fs s

theorem chunk_size_rejection (dflt : Nat) (fs : List Size) (a b : Nat) :
    resolve dflt fs = .error a b ↔
      (minMax fs ≠ 0 ∧ minMax fs < maxMin fs) ∧ a = minMax fs ∧ b = maxMin fs := by
  rw [Mustache.ChunkSize.resolve_eq]
  split
  · next hC =>
    exact ⟨fun h => ⟨⟨Nat.ne_of_gt hC.1, hC.2⟩, (Res.error.inj h).1.symm, (Res.error.inj h).2.symm⟩,
      fun h => h.2.1 ▸ h.2.2 ▸ rfl⟩
  · next hC => exact ⟨nofun, fun h => absurd ⟨Nat.pos_of_ne_zero h.1.1, h.1.2⟩ hC⟩

/-- **A minimum without a maximum is accepted** (`max = 0` means "no maximum"; fixed in the repository as
c897ae5, before which it was rejected): when no applying function gives a maximum the configuration is never
contradictory and the size is the default raised to the largest minimum — clamp(default, min, ∞). -/
theorem min_without_max_is_accepted (dflt : Nat) (fs : List Size) (h : ∀ s ∈ fs, s.max = 0) :
    resolve dflt fs = .ok (max dflt (maxMin fs)) :=
  Mustache.ChunkSize.resolve_no_max dflt fs ((Mustache.ChunkSize.minMax_spec fs).1.mpr h)

/-- **The configured size applies to the archetype actually created**: a new archetype's mask is the
requested mask closed under the declared dependencies, and its chunk size is the resolution of the
functions applied to that CLOSED mask (a function on a component that enters only through a dependency counts). -/
theorem new_archetype_uses_closed_mask (s s1 : State) (m : List Comp) (aj : Nat)
    (hnew : findArch s.archs (closeMask s.deps m) = none) (hg : s.getArch m = .ok (s1, aj)) :
    ∃ a, s1.archs[aj]? = some a ∧ a.mask = closeMask s.deps m ∧
      Mustache.ChunkSize.resolveFor s.dflt s.fns (closeMask s.deps m) = .ok a.cs := by
  unfold State.getArch at hg
  generalize closeMask s.deps m = cm at *
  rcases getArchClosed_ok hg with ⟨_, hf⟩ | ⟨_, rfl, cs, hr, rfl⟩
  · exact nomatch hnew.symm.trans hf
  · exact ⟨_, List.getElem?_concat_length, rfl, hr⟩

/-- `maxMin` is the largest minimum; `minMax` the smallest non-zero maximum (0 iff there is none). -/
theorem chunk_size_bounds_meaning (fs : List Size) :
    ((∀ s ∈ fs, s.min ≤ maxMin fs) ∧ (maxMin fs = 0 ∨ ∃ s ∈ fs, s.min = maxMin fs)) ∧
    (minMax fs = 0 ↔ ∀ s ∈ fs, s.max = 0) ∧
    (minMax fs ≠ 0 → (∃ s ∈ fs, s.max = minMax fs) ∧ ∀ s ∈ fs, s.max ≠ 0 → minMax fs ≤ s.max) :=
  ⟨Mustache.ChunkSize.maxMin_spec fs, (Mustache.ChunkSize.minMax_spec fs).1,
    (Mustache.ChunkSize.minMax_spec fs).2⟩

/-- a reachable archetype has a positive chunk size (so rows split into chunks of that size) -/
theorem chunk_size_positive (cfg : Config) (hl : cfg.live = true) (ops : List Op) (ai : Nat) (a : Arch)
    (ha : (run cfg ops).archs[ai]? = some a) : 0 < a.cs :=
  ((run_inv cfg hl ops).stamps ha).csPos

/-! ### corner outside the hypotheses (true of the model AND of the implementation: replayed by
`corpus/C11/corner-check-outside-required.ops` on every run; open known finding
`key=check-outside-archetype`, not silently excluded) -/

/-- A job whose check mask has no component in a matching archetype (check mask not contained in the
required mask) is NOT quiescent there: `checkAndSet` treats an empty filtered check mask as "no filter".
Witness: job 0 requires A and checks B; one entity `A`; two runs in a row both process it. -/
theorem check_outside_archetype_not_quiescent :
    ∃ (cfg : Config) (ops : List Op) (j : Nat) (sp : JobSpec),
      cfg.live = true ∧ cfg.jobs[j]? = some sp ∧ sp.check ≠ [] ∧ ¬ VersionFiltered sp ∧
      ((((run cfg ops).jobRun j).1).jobRun j).2 ≠ [] := by
  refine ⟨{ jobs := [{ req := [0], check := [1], upd := [] }] }, [.create [0]], 0,
    { req := [0], check := [1], upd := [] }, rfl, rfl, by simp, ?_, by decide +kernel⟩
  rintro ⟨_, h⟩
  have := h 1 (by simp)
  simp at this


/-- job 0 requires, checks *and writes* component 0 (update mask ⊇ check mask); job 1 reads 0, writes 1 -/
def cfgEx : Config := { jobs := [{ req := [0], check := [0], upd := [0] }, { req := [0, 1], check := [], upd := [1] }] }

example : VersionFiltered { req := [0], check := [0], upd := [0] } := ⟨by simp, by simp⟩

/-- quiescent: the first run has work (3 entities), then update / const access / a run of job 1 (writes
component 1 only) / mutable access to the unchecked component 1: the hypotheses of `quiescent` hold and the
re-run is empty, while a write to the checked component in chunk 1 (chunk size 2) re-selects exactly that
chunk's only row -/
example :
    let pre : List Op := [.setDefault 2, .create [0, 1], .create [0, 1], .create [0, 1]]
    let mid : List Op := [.update, .getConst 0 0, .run 1, .getMut 1 1, .run 0]
    ((run cfgEx pre).jobRun 0).2 = [0, 1, 2] ∧
    (∀ op ∈ mid, nonInterfering cfgEx.jobs 0 op = true) ∧
    ((((run cfgEx pre).jobRun 0).1.exec mid).jobRun 0).2 = [] ∧
    ((((run cfgEx pre).jobRun 0).1.exec (mid ++ [.getMut 2 0])).jobRun 0).2 = [2] := by
  decide +kernel

/-- chunk precision with a population that is not a multiple of the chunk size and a removal that shrinks
the archetype: 5 rows, chunk size 2; after a run, entity 0 is destroyed (row 4 relocated into row 0, chunk 2
vanishes): chunks 0 is touched and selected (rows 0,1 = entities 4,1), chunk 1 is not -/
example :
    let s := run cfgEx [.setDefault 2, .create [0], .create [0], .create [0], .create [0], .create [0],
                        .run 0, .update, .destroyNow 0]
    (s.jobRun 0).2 = [4, 1] ∧ s.touched 0 0 0 = true ∧ s.touched 0 0 1 = false := by decide +kernel

/-- dependency A → B, chunk-size function on B only: `create A` makes the archetype {A,B} with chunk size 3 -/
example : (run cfgEx [.addDep 0 [1], .addFn [1] 3 3, .create [0]]).archs.map (fun a => (a.mask, a.cs)) =
    [([0, 1], 3)] := by decide +kernel

/-- a writing job with a chunk filter (odd chunks vetoed) leaves the vetoed chunk unstamped: the checking job
(index 1) then finds only chunk 0 changed -/
example :
    let cfg : Config := { jobs := [{ req := [0], check := [], upd := [0], cfSkip := some 1 },
                                   { req := [0], check := [0], upd := [] }] }
    let s := run cfg [.setDefault 1, .create [0], .create [0], .run 1, .update, .run 0]
    (s.jobRun 1).2 = [0] := by decide +kernel

example : resolve 1024 [⟨0, 0⟩, ⟨16, 16⟩] = .ok 16 := by decide +kernel
example : resolve 5 [⟨2, 9⟩, ⟨3, 7⟩, ⟨0, 0⟩] = .ok 5 ∧ resolve 1 [⟨2, 9⟩, ⟨3, 7⟩] = .ok 3 ∧
    resolve 9 [⟨2, 9⟩, ⟨3, 7⟩] = .ok 7 := by decide +kernel
example : resolve 4 [⟨2, 3⟩, ⟨5, 8⟩] = .error 3 5 := by decide +kernel
example : resolve 8 [⟨4, 0⟩] = .ok 8 ∧ resolve 2 [⟨4, 0⟩, ⟨0, 0⟩, ⟨6, 0⟩] = .ok 6 := by decide +kernel

end Mustache.Props.C11
