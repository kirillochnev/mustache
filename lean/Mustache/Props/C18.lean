import Mustache.Model.CApi
import Mustache.Driver.World
import Mustache.Proofs.CApiCongr
import Mustache.Proofs.CApiCallbacks
import Mustache.Props.C09
/-!
# C18 — the C API behaves like the C++ API on the same operations

Model: `Model/CApi.lean`. `COp` / `cstep` / `crun` = the C entry points of `c_api.cpp` (arguments as the C caller
passes them: id arrays, bit sets, entity arrays, `JobDescriptor`, `TypeInfo` tables); `XOp` / `xstep` / `xrun` = the
C++ calls (`EntityManager`, `World`, `NonTemplateJob`) on the world model `WM`; `translate` = which C++ calls a C call
stands for. States are compared with `=` on the WHOLE concrete state (id table, locations, archetype rows and
values, command buffers, marked set), outputs with `=` on everything a call returns (handles, pointers, booleans,
values, job callback arguments: entity arrays and component value arrays).

* `translate_ok`, `capi_refines_cxx`: every C call / every sequence of C calls, from every state, on every thread id,
  for every registry of run-time described types, IS the translated C++ sequence - so every theorem about `WM`
  operations (C01/C02/C05/C09 …) is a theorem about C-API programs.
* `flags_irrelevant_for_values` and its parts: which fields of the description the operations read.
  - the presence of `copy`, `move`, `move_constructor`, `destroy` is not read at all (`convert_strip`, `crun_strip`):
    moves are value-preserving whatever subset of the table is filled;
  - `create` / `default_value` (`hasCtor`, `dflt`) are read only through `defaultVal`, the value a freshly
    default-constructed component gets (`defaults_only_through_defaultVal`, `convert_defaultVal`);
  - `callbacks` never influences a state or a returned value (`callbacks_never_influence_values`);
  - `counted` only drives the bookkeeping field `temps`, which no query reads (`counted_only_temps`, `temps_invisible`).
-/
namespace Mustache.Props.C18
open Mustache.Model Mustache.Model.CApi Mustache.Proofs.CApi


/-- the harness's types A, B, H (8 bytes) and D (1 byte), each with a different function subset -/
def tiA : TypeInfo := { size := 8, align := 8, move := false, moveCtor := true, copy := true }
def tiB : TypeInfo := { size := 8, align := 8, create := true, createTok := 1001, destroy := true }
def tiD : TypeInfo := { size := 1, align := 1 }
def tiH : TypeInfo := { size := 8, align := 8, defaultValue := some 1007 }
def sampleR : Registry := [tiA, tiB, tiD, tiH]

def h0 : Handle := ⟨0, 0, 0⟩
def h1 : Handle := ⟨1, 0, 0⟩
def h2 : Handle := ⟨2, 0, 0⟩

/-- archetype {A,B}, three entities, values stored through `getComponent` pointers, the FIRST one destroyed
    (swap-remove of a non-last row), a component added without init and written, one removed, a job run -/
def sampleOps : List COp :=
  [.getArchetype [1, 0], .createEntityGroup 0 3,
   .store (.comp h0 0) 21, .store (.comp h1 0) 22, .store (.comp h2 0) 23, .store (.comp h2 1) 33,
   .destroyEntities [h0] true,
   .assignComponentWithoutInit h1 3, .store (.comp h1 3) 55, .assignComponent h2 3,
   .removeComponent h1 1,
   .runJob { args := [⟨0, true, true⟩, ⟨3, false, false⟩], write := some (3, 7000) },
   .getComponent h2 0 true, .hasComponent h1 1]

def sampleRun := crun sampleR defaultStorageCap 0 (createWorld 0) sampleOps

/-- the values followed their entities through the swap-remove and the archetype changes; the job wrote H -/
example : sampleRun.1.getComp h2 0 = some (some 23) ∧ sampleRun.1.getComp h2 1 = some (some 33) ∧
    sampleRun.1.getComp h1 0 = some (some 22) ∧ sampleRun.1.getComp h1 1 = none ∧
    sampleRun.1.getComp h0 0 = none ∧ sampleRun.1.isValid h0 = false := by decide +kernel
example : sampleRun.1.getComp h2 3 = some (some 7000) ∧ sampleRun.1.getComp h1 3 = some (some 7001) := by decide +kernel


theorem xrun_append (info : CompId → CompInfo) (cap t : Nat) (w : WM) (a b : List XOp) :
    xrun info cap t w (a ++ b) =
      (let ra := xrun info cap t w a
       let rb := xrun info cap t ra.1 b
       (rb.1, ra.2.1 ++ rb.2.1, ra.2.2 ++ rb.2.2)) := by
  induction a generalizing w with
  | nil => rfl
  | cons op rest ih => simp only [List.cons_append, xrun_cons, ih, List.append_assoc]

theorem xrun_single (info : CompId → CompInfo) (cap t : Nat) (w : WM) (op : XOp) :
    xrun info cap t w [op] = (let s := xstep info cap t w op; (s.1, [s.2.1], s.2.2)) := by
  rw [xrun_cons]
  exact congrArg (fun l => (_, _, l)) (List.append_nil _)

theorem createGroup_xrun (info : CompId → CompInfo) (cap t : Nat) (w : WM) (ai n : Nat) :
    ((createGroup info w t ai n).1, (createGroup info w t ai n).2.1.map Out.handle, (createGroup info w t ai n).2.2) =
      xrun info cap t w (List.replicate n (.createAt ai)) := by
  induction n generalizing w with
  | zero => rfl
  | succ n ih => simp only [List.replicate_succ, xrun_cons, ← ih]; rfl

theorem destroyAll_xrun (info : CompId → CompInfo) (cap t : Nat) (w : WM) (now : Bool) (es : List Handle) :
    ((destroyAll info w t now es).1, es.map (fun _ => Out.unit), (destroyAll info w t now es).2) =
      xrun info cap t w (es.map (fun e => if now then XOp.destroyNow e else XOp.destroy e)) := by
  induction es generalizing w with
  | nil => rfl
  | cons e es ih => simp only [List.map_cons, xrun_cons, ← ih]; cases now <;> rfl

/-- `translate_ok`: the model of each C entry point (written from c_api.cpp) is the sequence of C++ calls `translate`
    names: same final state, same returned values, same callback log. -/
theorem translate_ok (r : Registry) (cap t : Nat) (w : WM) (op : COp) :
    cstep r cap t w op = xrun (infoOf r) cap t w (translate op) := by
  cases op with
  | createEntityGroup ai n => exact createGroup_xrun _ cap t w ai n
  | destroyEntities es now => exact destroyAll_xrun _ cap t w now es
  -- every other entry point is one C++ call, and its model is that call's with the output wrapped in a list
  | _ => refine Eq.trans ?_ (xrun_single (infoOf r) cap t w _).symm; rfl

example : cstep sampleR defaultStorageCap 0 (createWorld 0) (.getArchetype [1, 0]) =
    xrun (infoOf sampleR) defaultStorageCap 0 (createWorld 0) [.getArchetype [0, 1]] := by
  rw [translate_ok]; rfl
/-- a group creation of 3 stands for three `create(Archetype&)` calls -/
example : translate (.createEntityGroup 0 3) = [.createAt 0, .createAt 0, .createAt 0] := rfl

/-- `capi_refines_cxx`: for EVERY sequence of C calls, every registry, every start state and thread id, running the C
    entry points gives exactly the state, the returned values and the callback log of the corresponding C++ sequence
    with the component description `infoOf r` converted from the C `TypeInfo` tables. -/
theorem capi_refines_cxx (r : Registry) (cap t : Nat) (w : WM) (ops : List COp) :
    crun r cap t w ops = xrun (infoOf r) cap t w (ops.flatMap translate) := by
  induction ops generalizing w with
  | nil => rfl
  | cons op rest ih => simp only [List.flatMap_cons, xrun_append, ← translate_ok, ← ih]; rfl

example : sampleRun = xrun (infoOf sampleR) defaultStorageCap 0 (createWorld 0) (sampleOps.flatMap translate) :=
  capi_refines_cxx _ _ _ _ _
example : (sampleOps.flatMap translate).length = 16 := by decide +kernel

/-- … and with ANY C++ component description of the same lifecycle behaviour (same default-construction values, same
    `fixed`, `callbacks`, `counted`): literally the same result. -/
theorem capi_refines_cxx_same_flags (r : Registry) (info' : CompId → CompInfo) (h : Agree (infoOf r) info')
    (cap t : Nat) (w : WM) (ops : List COp) :
    crun r cap t w ops = xrun info' cap t w (ops.flatMap translate) := by
  rw [capi_refines_cxx, xrun_congr h]

/-- … and with a C++ description that additionally has `afterAssign` / `beforeRemove` callbacks (which the C table can
    not express): same state and same returned values; only the callback log differs. -/
theorem capi_refines_cxx_up_to_callbacks (r : Registry) (info' : CompId → CompInfo) (h : AgreeV (infoOf r) info')
    (cap t : Nat) (w : WM) (ops : List COp) :
    (crun r cap t w ops).1 = (xrun info' cap t w (ops.flatMap translate)).1 ∧
    (crun r cap t w ops).2.1 = (xrun info' cap t w (ops.flatMap translate)).2.1 := by
  rw [capi_refines_cxx]
  exact Prod.mk.inj (xrun_vals h cap t w _)

/-- the C++ catalogue type H of the harness (constructor token 1007) next to the C type H (default value 1007) -/
example : AgreeV (infoOf [tiH]) (fun c => if c = 0 then ⟨true, some 1007, none, true, false⟩ else plain) := by
  constructor <;> intro c <;> cases c <;> rfl

/-- `getArchetype(mask)` + `createEntity(archetype)` is `EntityManager::create(mask, null)` when unlocked (under lock the
    C pair registers the archetype at once, the mask-based call at the flush: the same entities, archetypes possibly
    numbered in a different order) -/
theorem create_eq_getArchetype_createEntity (info : CompId → CompInfo) (w : WM) (t : Nat) (m : Mask)
    (hl : w.isLocked = false) :
    createAt info (w.getArch m Shared.null).1 t (w.getArch m Shared.null).2 = w.create info t m Shared.null := by
  unfold createAt WM.create
  simp only [(Proofs.Rows.getArch_sameTable w m Shared.null).isLocked, hl]
  rfl

/-- the UNTYPED `removeComponent(e, id)` (no validity guard) is the checked typed `removeComponent<C>(e)` on every
    valid handle - the contract under which the C entry point may be called -/
theorem removeUntyped_eq_removeComp (info : CompId → CompInfo) (w : WM) (t : Nat) (e : Handle) (c : CompId)
    (hv : w.isValid e = true) : removeUntyped info w t e c = w.removeComp info t e c := by
  unfold removeUntyped WM.removeComp
  rw [hv]
  rfl

example : (createWorld 0).isLocked = false := by decide
example : sampleRun.1.isValid h1 = true := by decide +kernel

/-- C09 carried over: the checked C entry points answer "no" through any dead, null or foreign handle and leave the
    whole state untouched -/
theorem capi_queries_invalid_handle (r : Registry) (cap t : Nat) (w : WM) (e : Handle) (c : CompId) (k : Bool)
    (hv : w.isValid e = false) :
    cstep r cap t w (.hasComponent e c) = (w, [.bool false], []) ∧
    cstep r cap t w (.getComponent e c k) = (w, [.val none], []) :=
  ⟨congrArg (fun b => (w, [Out.bool b], [])) (C09.hasComp_invalid w e c hv),
   congrArg (fun v => (w, [CApi.Out.val v], [])) (C09.getComp_invalid w e c hv)⟩

theorem capi_destroy_invalid_handle (r : Registry) (cap t : Nat) (w : WM) (e : Handle)
    (hl : w.isLocked = false) (hv : w.isValid e = false) :
    cstep r cap t w (.destroyEntities [e] true) = (w, [.unit], []) :=
  congrArg (fun p : WM × List Cb => (p.1, [Out.unit], p.2 ++ [])) (C09.destroyNow_invalid (infoOf r) w t e hl hv)

example : sampleRun.1.isValid h0 = false ∧ sampleRun.1.isLocked = false := by decide +kernel


/-- the table without the four functions that only relocate / release storage -/
def strip (ti : TypeInfo) : TypeInfo := { ti with copy := false, move := false, moveCtor := false, destroy := false }

/-- `copy`, `move`, `move_constructor`, `destroy`: their presence is not part of the converted description at all -/
theorem convert_strip (ti : TypeInfo) : convert (strip ti) = convert ti := rfl

/-- the registry enters a run only through the description converted from it -/
theorem crun_eq_of_infoOf {r r' : Registry} (hi : infoOf r = infoOf r') (cap t : Nat) (w : WM) (ops : List COp) :
    crun r cap t w ops = crun r' cap t w ops := by
  rw [capi_refines_cxx, capi_refines_cxx, hi]

theorem infoOf_strip (r : Registry) : infoOf (r.map strip) = infoOf r := by
  funext c
  simp only [infoOf, List.getElem?_map]
  cases r[c]? <;> rfl

/-- for every one of the 16 subsets of {copy, move, move_constructor, destroy}, per component: the whole behaviour
    (state, returned values, callback log) equals that of the instance with none of them - a move degrades to a byte
    copy, never to a no-op -/
theorem crun_strip (r : Registry) (cap t : Nat) (w : WM) (ops : List COp) :
    crun (r.map strip) cap t w ops = crun r cap t w ops :=
  crun_eq_of_infoOf (infoOf_strip r) cap t w ops

example : strip tiA ≠ tiA ∧ convert (strip tiA) = convert tiA := ⟨by decide, rfl⟩
example : crun (sampleR.map strip) defaultStorageCap 0 (createWorld 0) sampleOps = sampleRun := crun_strip _ _ _ _ _

/-- the token a default construction stores: the constructor's, else the default value's, else none (indeterminate) -/
def defaultTok (ti : TypeInfo) : Option Nat := if ti.create then some ti.createTok else ti.defaultValue

/-- `convert` reads `create`, `createTok`, `defaultValue` only through `defaultTok` (a constructor is present exactly
    when there is a token), and `size` only through `size < 8` -/
theorem convert_eq (ti : TypeInfo) :
    convert ti = ⟨(defaultTok ti).isSome, defaultTok ti, if ti.size < 8 then some 0 else none, false, false⟩ := by
  unfold convert defaultTok
  cases ti.create <;> rfl

/-- what the remaining two inputs (`create`, `default_value`) decide: the value of a freshly default-constructed
    component; a constructor wins over a default value; neither = indeterminate (`none`) -/
theorem convert_defaultVal (r : Registry) (c : CompId) (ti : TypeInfo) (hc : r[c]? = some ti) :
    defaultVal (infoOf r) c =
      if ti.size < 8 then some 0 else if ti.create then some ti.createTok else ti.defaultValue := by
  have hi : infoOf r c = convert ti := by unfold infoOf; rw [hc]
  unfold defaultVal
  rw [hi, convert_eq]
  by_cases h8 : ti.size < 8
  · rw [if_pos h8, if_pos h8]
  · rw [if_neg h8, if_neg h8]
    show (if (defaultTok ti).isSome then defaultTok ti else none) = defaultTok ti
    cases defaultTok ti <;> rfl

example : defaultVal (infoOf sampleR) 1 = some 1001 ∧ defaultVal (infoOf sampleR) 3 = some 1007 ∧
    defaultVal (infoOf sampleR) 0 = none ∧ defaultVal (infoOf sampleR) 2 = some 0 := by decide +kernel

theorem convert_eq_of (ti ti' : TypeInfo) (hs : decide (ti.size < 8) = decide (ti'.size < 8))
    (hd : defaultTok ti = defaultTok ti') : convert ti = convert ti' := by
  simp only [convert_eq, hd, decide_eq_decide.mp hs]

theorem infoOf_eq_of (r r' : Registry) (hl : r.length = r'.length)
    (h : ∀ (i : Nat) (ti ti' : TypeInfo), r[i]? = some ti → r'[i]? = some ti' → convert ti = convert ti') :
    infoOf r = infoOf r' := by
  funext c
  unfold infoOf
  by_cases hc : c < r.length
  · rw [List.getElem?_eq_getElem hc, List.getElem?_eq_getElem (hl ▸ hc)]
    exact h c _ _ (List.getElem?_eq_getElem hc) (List.getElem?_eq_getElem (hl ▸ hc))
  · rw [List.getElem?_eq_none (Nat.le_of_not_lt hc), List.getElem?_eq_none (hl ▸ Nat.le_of_not_lt hc)]

/-- `flags_irrelevant_for_values`: for EVERY choice of the optional lifecycle functions {create, copy, move,
    move_constructor, destroy} of every registered type - two registries whose types pairwise have the same storage class
    (`size < 8` = the harness's empty type) and the same default-construction token behave identically on every
    sequence of C calls from every state: same states, same returned values and job callback arguments, same callback
    log. The five flags reach the value level ONLY through `defaultTok`; in particular with no `create` and no default
    value (the all-absent "plain data" table) any subset of {copy, move, move_constructor, destroy} changes nothing. -/
theorem flags_irrelevant_for_values (r r' : Registry) (hl : r.length = r'.length)
    (h : ∀ (i : Nat) (ti ti' : TypeInfo), r[i]? = some ti → r'[i]? = some ti' →
      decide (ti.size < 8) = decide (ti'.size < 8) ∧ defaultTok ti = defaultTok ti')
    (cap t : Nat) (w : WM) (ops : List COp) : crun r cap t w ops = crun r' cap t w ops :=
  crun_eq_of_infoOf (infoOf_eq_of r r' hl fun i ti ti' h1 h2 => convert_eq_of ti ti' (h i ti ti' h1 h2).1 (h i ti ti' h1 h2).2)
    cap t w ops

/-- two tables for the harness's type A: same size, `create` writes 1000 in one table, the other has no `create`
    but the default value 1000, the remaining four flags differ -/
example : crun [{ size := 8, align := 8, create := true, createTok := 1000, move := true, destroy := true }]
      defaultStorageCap 0 (createWorld 0) [.getArchetype [0], .createEntityGroup 0 2, .getComponent h1 0 true] =
    crun [{ size := 8, align := 8, defaultValue := some 1000, copy := true, moveCtor := true }]
      defaultStorageCap 0 (createWorld 0) [.getArchetype [0], .createEntityGroup 0 2, .getComponent h1 0 true] := by
  apply flags_irrelevant_for_values
  · rfl
  · intro i ti ti' h1 h2
    cases i with
    | zero => cases h1; cases h2; exact ⟨rfl, rfl⟩
    | succ n => cases h1
example : (crun [{ size := 8, align := 8, defaultValue := some 1000, copy := true, moveCtor := true }]
      defaultStorageCap 0 (createWorld 0) [.getArchetype [0], .createEntityGroup 0 2]).1.getComp h1 0 =
    some (some 1000) := by decide +kernel

/-- `hasCtor` / `dflt` are read only through `defaultVal`: two descriptions giving every component the same
    default-construction value (and the same `fixed`, `callbacks`, `counted`) give the same everything -/
theorem defaults_only_through_defaultVal (I I' : CompId → CompInfo) (h : Agree I I') (cap t : Nat) (w : WM)
    (ops : List XOp) : xrun I cap t w ops = xrun I' cap t w ops := by rw [xrun_congr h]

/-- two descriptions that differ as records (`hasCtor = false` makes `dflt` dead) but agree -/
example : Agree (fun _ => ⟨false, some 5, none, false, false⟩) (fun _ => plain) ∧
    (fun (_ : CompId) => (⟨false, some 5, none, false, false⟩ : CompInfo)) 0 ≠ plain := by
  refine ⟨⟨fun _ => rfl, fun _ => rfl, fun _ => rfl, fun _ => rfl⟩, fun h => ?_⟩
  cases h

/-- a type with a `create` function writing `d` and a type with no `create` but the default value `d` are the same
    component as far as the world can tell -/
theorem create_vs_default_value (ti : TypeInfo) (d : Nat) :
    convert { ti with create := true, createTok := d } = convert { ti with create := false, defaultValue := some d } :=
  convert_eq_of _ _ rfl rfl

/-- `callbacks` (afterAssign / beforeRemove) never influences a state or a returned value: descriptions that agree
    on `defaultVal`, `fixed`, `counted` produce the same state and the same outputs on every call sequence -/
theorem callbacks_never_influence_values (I I' : CompId → CompInfo) (h : AgreeV I I') (cap t : Nat) (w : WM)
    (ops : List XOp) :
    (xrun I cap t w ops).1 = (xrun I' cap t w ops).1 ∧ (xrun I cap t w ops).2.1 = (xrun I' cap t w ops).2.1 :=
  Prod.mk.inj (xrun_vals h cap t w ops)

/-- the catalogue with and without F's callbacks: AgreeV holds, the callback logs do differ -/
def noCb (I : CompId → CompInfo) : CompId → CompInfo := fun c => { I c with callbacks := false }
theorem agreeV_noCb (I : CompId → CompInfo) : AgreeV I (noCb I) :=
  ⟨fun _ => rfl, fun _ => rfl, fun _ => rfl⟩
example : (xrun Mustache.Driver.World.catalogue 16384 0 {} [.getArchetype [5], .createAt 0]).2.2.length = 1 ∧
    (xrun (noCb Mustache.Driver.World.catalogue) 16384 0 {} [.getArchetype [5], .createAt 0]).2.2.length = 0 := by
  decide +kernel

/-- `counted` (the harness's live-instance bookkeeping) is read by exactly one operation - a deferred assign - and
    there it only changes the field `temps` -/
theorem counted_only_temps (I I' : CompId → CompInfo) (h : AgreeC I I') (cap t : Nat) (w : WM) (op : XOp) :
    { (xstep I cap t w op).1 with temps := [] } = { (xstep I' cap t w op).1 with temps := [] } ∧
    (xstep I cap t w op).2 = (xstep I' cap t w op).2 := by
  by_cases hop : ∃ e c s, op = .assign e c s
  · obtain ⟨e, c, s, rfl⟩ := hop
    have hx (J) : xstep J cap t w (.assign e c s) =
        (let a := assignId J w t e c s; (a.1, .ptr a.2.2.1 a.2.1, a.2.2.2)) := rfl
    obtain ⟨h1, h2⟩ := assignId_modTemps h w t e c s
    rw [hx I, hx I']
    exact ⟨h1, congrArg (fun r : Res × Ptr × List Cb => (Out.ptr r.2.1 r.1, r.2.2)) h2⟩
  · rw [xstep_congr_of h cap t w op fun e c s he => absurd ⟨e, c, s, he⟩ hop]
    exact ⟨rfl, rfl⟩

/-- B with and without the harness's instance counting: a deferred assign differs in `temps` only -/
example :
    let I : CompId → CompInfo := fun _ => ⟨true, some 1001, none, false, true⟩
    let I' : CompId → CompInfo := fun _ => ⟨true, some 1001, none, false, false⟩
    let w : WM := ({} : WM).lock
    (xstep I 16384 0 w (.assign h0 1 false)).1.temps = [(1, 1)] ∧ (xstep I' 16384 0 w (.assign h0 1 false)).1.temps = [] ∧
    AgreeC I I' := by
  refine ⟨by decide +kernel, by decide +kernel, ⟨fun _ => rfl, fun _ => rfl, fun _ => rfl⟩⟩

/-- … and no query reads `temps` -/
theorem temps_invisible (w : WM) (tm : List (CompId × Nat)) (e : Handle) (c : CompId) :
    ({ w with temps := tm }).getComp e c = w.getComp e c ∧ ({ w with temps := tm }).hasComp e c = w.hasComp e c ∧
    ({ w with temps := tm }).isValid e = w.isValid e ∧ ({ w with temps := tm }).archOf e = w.archOf e :=
  ⟨rfl, rfl, rfl, rfl⟩

end Mustache.Props.C18
