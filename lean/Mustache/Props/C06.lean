import Mustache.Proofs.DispatcherWait
import Mustache.Proofs.DispatcherOwn

/-!
# C06 — parallel jobs complete before run() returns, race-free (dispatcher part)

The disjoint-split part of C06 is `tasks_partition` / `arrays_wellformed` in Props/C04.lean (another
model; not imported here).  This file covers, for ALL schedules of the dispatcher model:

* `wait_parallel_post` — the barrier: when `waitForParallelFinish` returns, every task submitted to the
  parallel queue before is finished and its job object is owned by the caller again; if no task was ever
  submitted to a serial queue, the caller also owns every per-thread command buffer and the lock state again.
  A job run is `lock; submit T tasks; wait; unlock` on the external thread, so `unlock` (which
  flushes every per-thread buffer) happens in a state described by this theorem.
* `lock_discipline` — the model's access table (Model/DispatcherAccess.lean): every shared variable is
  accessed under ONE protection everywhere (the mutex / atomically / plainly by its owner); plain
  accesses are made by the owner only; owners are unique; and ownership moves from one thread to
  another only at a pop under the mutex (after the submit that queued the task under the same mutex)
  or when the caller leaves the parallel barrier (after every worker has done its `threads_waiting`
  read-modify-write following its last task).  Hence two conflicting accesses by different threads are
  both under the same mutex, or both atomic, or separated by a submit→pop or task-end→barrier edge.

Partial by nature (DESIGN §6): that these edges give happens-before and that plain loads/stores are not
torn or reordered is the C++ memory model; the access table is validated against the code by
ThreadSanitizer (tools/props/c06.py), not proved.
-/
namespace Mustache.Props.C06
open Mustache.Dispatcher

/-- Barrier post-condition.  `s` is any reachable state in which the caller is in the final spin of
`wait(parallel_jobs)` and `s'` the state right after it returned. -/
theorem wait_parallel_post {n : Nat} {s s' : State} (hr : Reachable n s) (hm : s.mode = .spin 0)
    (hs : step s .spinExit = some s') :
    (∀ t, t < s.waitSnap → s.tq t = 0 → t ∈ s'.done ∧ OwnsTask s' 0 t) ∧
    (∀ th, 1 ≤ th → th ≤ n → ∃ p, s'.pcs[th]? = some p ∧ isWaiting p = true) ∧
    ((∀ t, t < s.nextId → s.tq t = 0) → ExtQuiet s' ∧ ExtOwnsLock s' ∧ ∀ th, OwnsTemp s' 0 th) := by
  obtain ⟨hw, hl, rfl⟩ := step_spinExit hm hs
  obtain ⟨hdone, hwait, _⟩ := wait_exit_ready hr hm hw hl
  have hsnap := ((reachable_inv hr).b.wait_q 0 (Or.inr hm)).2
  -- the barrier hands every finished task to the caller
  have hsync : ∀ t, t ∈ s.done → Synced { s with mode := Mode.api, synced := syncedAfter s 0 } t :=
    fun t ht => Or.inr ((if_pos rfl : syncedAfter s 0 = s.done) ▸ ht)
  refine ⟨fun t ht htq => ?_, hwait rfl, fun hall => ?_⟩
  · have hd := hdone t ht htq
    exact ⟨hd, Or.inr (Or.inr ⟨rfl, hd, hsync t hd⟩)⟩
  · have hq : ExtQuiet { s with mode := Mode.api, synced := syncedAfter s 0 } :=
      ⟨rfl, fun t ht => Or.inl (hdone t (hsnap ▸ ht) (hall t ht))⟩
    exact ⟨hq, ⟨hq, hsync⟩, fun th => Or.inr (Or.inr ⟨rfl, hq, fun t ht _ => hsync t ht⟩)⟩

/-- non-vacuity: a job of three tasks on two workers, the caller helps; the barrier is passed -/
example : accepts 2 [.submit 0, .submit 0, .submit 0, .waitBegin 0, .wScan 1, .wScan 2, .waitPop, .taskEnd 2,
    .taskEnd 0, .relock 0, .waitEmpty, .relock 2, .taskEnd 1, .spinRetry, .wScan 2, .relock 1, .wScan 1, .spinExit] = true := by
  decide

/-- what an `owned` access requires of the state it is made in -/
def OwnedOk (s : State) (th : Nat) (x : Access) : Prop :=
  match x.var with
  | .taskData t => OwnsTask s th t
  | .tempStorage b => OwnsTemp s th b
  | .lockCounter => x.write = false ∧ ¬ExtOwnsLock s
  | .singleThread => th = 0
  | _ => True

theorem owned_ok {n : Nat} {s s' : State} {a : Action} (hr : Reachable n s) (hs : step s a = some s') :
    ∀ x, x ∈ accesses s a → x.prot = .owned → OwnedOk s a.thread x := by
  have hi := reachable_inv hr
  intro x hx hp
  cases step_iff.mp hs <;> simp only [accesses] at hx
  case scan | rescan =>
    simp only [allQueues, List.mem_append, List.mem_cons, List.mem_map, List.not_mem_nil, or_false] at hx
    rcases hx with (rfl | rfl) | ⟨q, _, rfl⟩ <;> cases hp
  case taskEnd th t q hpc =>
    simp only [hpc, bodyAccesses, List.mem_cons, List.not_mem_nil, or_false] at hx
    rcases hx with rfl | rfl | rfl | rfl | rfl
    · exact Or.inr (Or.inl ⟨q, hpc⟩)
    · exact Or.inl ⟨rfl, t, q, hpc⟩
    · exact ⟨rfl, fun h => not_quiet_of_running hi hpc h.1⟩
    · cases hp
    · cases hp
  case relock hpc =>
    simp only [hpc, List.mem_singleton] at hx
    subst hx; cases hp
  case spinRetry | spinExit => split at hx <;> (simp at hx; subst hx; cases hp)
  case submit =>
    simp at hx
    rcases hx with rfl | rfl | rfl
    · rfl
    · exact Or.inl ⟨Nat.le_refl _, rfl⟩
    · cases hp
  case submitInline =>
    simp at hx
    rcases hx with rfl | rfl
    · rfl
    · exact Or.inl ⟨Nat.le_refl _, rfl⟩
  case setSingle =>
    simp at hx; subst hx; rfl
  case waitBegin | sdNotify | sdJoin | wake => cases hx
  case createQueue | sdFlag | sdClear => simp at hx; subst hx; cases hp
  case waitPop | waitBlocked | waitEmpty => simp at hx; rcases hx with rfl | rfl <;> cases hp

/-- Lock discipline of the dispatcher model (see the header). -/
theorem lock_discipline {n : Nat} {s : State} (hr : Reachable n s) :
    -- (a) one protection per variable, in every action
    (∀ (s0 : State) (a : Action) (x : Access), x ∈ accesses s0 a → x.prot = discipline x.var) ∧
    -- (b) plain accesses are made by the owner (for the lock state: tasks only read it, and then the
    --     caller is not in a position to write it)
    (∀ a s', step s a = some s' → ∀ x, x ∈ accesses s a → x.prot = .owned → OwnedOk s a.thread x) ∧
    -- (c) owners are unique; while the caller may write the lock state no task is running
    (∀ a b t, OwnsTask s a t → OwnsTask s b t → a = b) ∧
    (∀ a b th, OwnsTemp s a th → OwnsTemp s b th → a = b) ∧
    (ExtOwnsLock s → ∀ th t q : Nat, s.pcs[th]? ≠ some (Pc.running t q)) ∧
    -- (d) ownership of a task's data changes hands only at a pop under the mutex — of a task that `submit`
    --     queued under the same mutex — or at the parallel barrier, where every worker has gone idle since
    (∀ a s' o t, step s a = some s' → OwnsTask s' o t →
      OwnsTask s o t ∨ ((∀ x, ¬OwnsTask s x t) ∧
        ((a = .wScan o ∧ o ≠ 0 ∧ ∃ q, t ∈ s.jobs q) ∨ (a = .waitPop ∧ o = 0 ∧ ∃ q, t ∈ s.jobs q) ∨
         (a = .spinExit ∧ o = 0 ∧ s.mode = .spin 0 ∧ t ∈ s.done ∧
            ∀ th, 1 ≤ th → th ≤ n → ∃ p, s.pcs[th]? = some p ∧ isWaiting p = true)))) := by
  have hi := reachable_inv hr
  have he := reachable_invE hr
  refine ⟨discipline_consistent, fun a s' hs => owned_ok hr hs, fun a b t => owner_unique_task hi,
    fun a b th => owner_unique_temp hi, ?_, ?_⟩
  · intro hl th t q hrun
    exact not_quiet_of_running hi hrun hl.1
  · intro a s' o t hs hown
    rcases acquire_points hi he hs hown with h | ⟨hnobody, h⟩
    · exact Or.inl h
    · right
      refine ⟨hnobody, ?_⟩
      rcases h with h | h | ⟨rfl, rfl, hm, hd⟩
      · exact Or.inl h
      · exact Or.inr (Or.inl h)
      · obtain ⟨hw, hl, rfl⟩ := step_spinExit hm hs
        exact Or.inr (Or.inr ⟨rfl, rfl, hm, hd, (wait_exit_ready hr hm hw hl).2.1 rfl⟩)

end Mustache.Props.C06
