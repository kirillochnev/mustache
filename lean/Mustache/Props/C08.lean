import Mustache.Proofs.DispatcherOrder
import Mustache.Proofs.DispatcherWait
import Mustache.Proofs.DispatcherPFor
import Mustache.Proofs.DispatcherMeasure
import Mustache.Proofs.DispatcherFair
import Mustache.Model.DispatcherAccess

/-!
# C08 — the dispatcher runs every submitted task exactly once and waits correctly

Theorems about `Mustache.Dispatcher` (Model/Dispatcher.lean) for ALL schedules (`Reachable n s` =
`s` is the result of some list of enabled actions from `init n`), all worker counts `n ≥ 0`, all
queue configurations.  The model is tied to dispatch.cpp by trace acceptance (tools/props/c08.py).
-/
namespace Mustache.Props.C08
open Mustache.Dispatcher

def Pending (s : State) (t : Nat) : Prop := ∃ q, t ∈ s.jobs q
def Running (s : State) (t : Nat) : Prop := ∃ th q : Nat, s.pcs[th]? = some (Pc.running t q)
def Done (s : State) (t : Nat) : Prop := t ∈ s.done
def Dropped (s : State) (t : Nat) : Prop := t ∈ s.dropped

def ExactlyOne (a b c d : Prop) : Prop :=
  (a ∨ b ∨ c ∨ d) ∧ ¬(a ∧ b) ∧ ¬(a ∧ c) ∧ ¬(a ∧ d) ∧ ¬(b ∧ c) ∧ ¬(b ∧ d) ∧ ¬(c ∧ d)

/-- Every submitted task is in exactly one of pending / running / done / dropped-by-the-destructor;
it sits in at most one queue, at most once; it is popped at most once, finishes at most once, and is
never on two threads.  Unsubmitted ids are nowhere. -/
theorem at_most_once {n : Nat} {s : State} (hr : Reachable n s) :
    (∀ t, t < s.nextId → ExactlyOne (Pending s t) (Running s t) (Done s t) (Dropped s t)) ∧
    (∀ t, s.nextId ≤ t → ¬Pending s t ∧ ¬Running s t ∧ ¬Done s t ∧ ¬Dropped s t) ∧
    s.started.Nodup ∧ s.done.Nodup ∧
    (∀ q q' t : Nat, t ∈ s.jobs q → t ∈ s.jobs q' → q = q') ∧ (∀ q, (s.jobs q).Nodup) ∧
    (∀ th th' t q q' : Nat, s.pcs[th]? = some (Pc.running t q) → s.pcs[th']? = some (Pc.running t q') → th = th') := by
  have hi := (reachable_inv hr).a
  refine ⟨?_, ?_, hi.started_nodup, hi.done_nodup, ?_, fun q => sorted_nodup (hi.jobs_sorted q), ?_⟩
  · intro t ht
    refine ⟨?_, ?_, ?_, ?_, ?_, ?_, ?_⟩
    · rcases hi.cover t ht with ⟨q, hq⟩ | hst | hd
      · exact Or.inl ⟨q, hq⟩
      · rcases hi.started_cases t hst with hd | hrun
        · exact Or.inr (Or.inr (Or.inl hd))
        · exact Or.inr (Or.inl ⟨_, _, hrun⟩)
      · exact Or.inr (Or.inr (Or.inr hd))
    · rintro ⟨⟨q, hq⟩, ⟨th, q', hrun⟩⟩
      exact hi.pending_fresh q t hq (hi.run_started th t q' hrun).1
    · rintro ⟨⟨q, hq⟩, hd⟩
      exact hi.pending_fresh q t hq (hi.done_sub t hd)
    · rintro ⟨⟨q, hq⟩, hd⟩
      exact (hi.dropped_ok t hd).2.2.2 q hq
    · rintro ⟨⟨th, q', hrun⟩, hd⟩
      exact (hi.run_started th t q' hrun).2.1 hd
    · rintro ⟨⟨th, q', hrun⟩, hd⟩
      exact (hi.dropped_ok t hd).2.1 (hi.run_started th t q' hrun).1
    · rintro ⟨hd, hx⟩
      exact (hi.dropped_ok t hx).2.1 (hi.done_sub t hd)
  · intro t ht
    exact ⟨fun ⟨q, hq⟩ => Nat.not_lt.mpr ht (hi.jobs_lt q t hq),
      fun ⟨th, q, hrun⟩ => Nat.not_lt.mpr ht (hi.started_lt t (hi.run_started th t q hrun).1),
      fun hd => Nat.not_lt.mpr ht (hi.started_lt t (hi.done_sub t hd)),
      fun hd => Nat.not_lt.mpr ht (hi.dropped_ok t hd).1⟩
  · intro q q' t h1 h2
    rw [← hi.jobs_tq q t h1, ← hi.jobs_tq q' t h2]
  · intro th th' t q q' h1 h2
    rw [← hi.run_runner th t q h1, ← hi.run_runner th' t q' h2]

/-- non-vacuity: a schedule with two workers in which a task is pending, one running, one done -/
example : accepts 2 [.submit 0, .submit 0, .submit 0, .wScan 1, .wScan 2, .taskEnd 1] = true := by decide

/-- `wait(q)` returns (`spinExit`) only when every task submitted to `q` before the call is done;
for the parallel queue additionally every worker is idle (asleep or about to re-check), so none is
running anything; the waiter itself is not running a task either. -/
theorem wait_post {n : Nat} {s s' : State} {q : Nat} (hr : Reachable n s) (hm : s.mode = .spin q)
    (hs : step s .spinExit = some s') :
    s'.mode = .api ∧
    (∀ t, t < s.waitSnap → s.tq t = q → t ∈ s'.done) ∧
    (q = 0 → ∀ th, 1 ≤ th → th ≤ n → ∃ p, s'.pcs[th]? = some p ∧ isWaiting p = true) ∧
    s'.pcs[0]? = some Pc.idle := by
  obtain ⟨hw, hl, rfl⟩ := step_spinExit hm hs
  exact ⟨rfl, wait_exit_ready hr hm hw hl⟩

/-- non-vacuity: one worker, two parallel tasks, the waiter helps with one; `wait` returns -/
example : accepts 1 [.submit 0, .submit 0, .waitBegin 0, .wScan 1, .waitPop, .taskEnd 0, .relock 0,
    .taskEnd 1, .waitEmpty, .spinRetry, .relock 1, .wScan 1, .spinExit] = true := by decide

/-- Jobs of one serial queue (`q ≠ 0`) are started in submission order (task ids are handed out in
submission order), no job is skipped, and at no time do two threads work for the same serial queue
(a thread "works for" `q` from the pop until it has marked the queue idle again). -/
theorem serial_fifo_exclusive {n : Nat} {s : State} (hr : Reachable n s) {q : Nat} (hq : q ≠ 0) :
    (s.started.filter (fun t => s.tq t == q)).Pairwise (· < ·) ∧
    (∀ t t', t ∈ s.started → s.tq t = q → t' < t → s.tq t' = q → t' ∈ s.started) ∧
    (∀ th th' : Nat, Holds s th q → Holds s th' q → th = th') ∧
    (∀ th : Nat, Holds s th q → s.locked q = true) := by
  have hi := reachable_inv hr
  have hd := reachable_invD hr
  refine ⟨?_, ?_, ?_, ?_⟩
  · have h2 := hd.start_order
    have := h2.filter (fun t => s.tq t == q)
    refine List.Pairwise.imp_of_mem ?_ this
    intro a b ha hb hab
    simp only [List.mem_filter, beq_iff_eq] at ha hb
    exact hab (ha.2.trans hb.2.symm) (by rw [ha.2]; exact hq)
  · intro t t' ht htq hlt htq'
    rcases hi.a.cover t' (Nat.lt_trans hlt (hi.a.started_lt t ht)) with ⟨q', hq'⟩ | hst | hdr
    · exfalso
      have : q' = q := by rw [← hi.a.jobs_tq q' t' hq', htq']
      subst this
      exact Nat.lt_asymm hlt (hd.pending_after q' t' t hq hq' ht htq)
    · exact hst
    · exfalso
      have := (hi.a.dropped_ok t' hdr).2.2.1
      rw [htq'] at this
      exact hq this
  · exact fun th th' h1 h2 => (hi.c.of_holds hq h1).2.symm.trans (hi.c.of_holds hq h2).2
  · exact fun th h1 => (hi.c.of_holds hq h1).1

/-- non-vacuity: a serial queue with two jobs, the second one waits until the first has been marked finished -/
example : accepts 2 [.createQueue 0, .submit 1, .submit 1, .wScan 1, .wScan 2, .taskEnd 1, .relock 1, .wake 2,
    .wScan 2] = true := by decide
/-- ... and while the first is running nobody can pop the second (the waiter is blocked, too) -/
example : accepts 2 [.createQueue 0, .submit 1, .submit 1, .wScan 1, .waitBegin 1, .waitPop] = false := by decide
example : accepts 2 [.createQueue 0, .submit 1, .submit 1, .wScan 1, .waitBegin 1, .waitBlocked] = true := by decide

/-- Each running task observes the id of the thread it runs on: the position in the thread table,
`0` for the external thread and `1..n` for workers.  Concurrently running tasks are on distinct
positions (one program counter per position) and a position is `≤ n`. -/
theorem thread_id_unique {n : Nat} {s : State} (hr : Reachable n s) :
    ∀ th th' t t' q q' : Nat, s.pcs[th]? = some (Pc.running t q) → s.pcs[th']? = some (Pc.running t' q') →
      th ≤ n ∧ th' ≤ n ∧ (th = th' ↔ t = t') := by
  intro th th' t t' q q' h1 h2
  have hi := (reachable_inv hr).a
  have hn := reachable_n hr
  have l1 : th < s.pcs.length := (List.getElem?_eq_some_iff.mp h1).1
  have l2 : th' < s.pcs.length := (List.getElem?_eq_some_iff.mp h2).1
  rw [hi.len, hn] at l1 l2
  refine ⟨Nat.le_of_lt_succ l1, Nat.le_of_lt_succ l2, ?_, ?_⟩
  · intro e; subst e; rw [h1] at h2; cases h2; rfl
  · intro e; subst e
    rw [← hi.run_runner th t q h1, ← hi.run_runner th' t q' h2]

example : accepts 2 [.submit 0, .submit 0, .submit 0, .waitBegin 0, .wScan 1, .wScan 2, .waitPop] = true := by decide

/-- After the destructor has set `terminate`, no task is started any more (no pop, no inline run),
nothing new is submitted, and tasks still pending are never run.  Once the destructor has returned
(`destroyed`), every worker has left its loop, nobody is running anything and no action is enabled. -/
theorem shutdown_safe {n : Nat} {s : State} (hr : Reachable n s) :
    (s.terminate = true → ∀ a s', step s a = some s' →
        s'.started = s.started ∧ s'.nextId = s.nextId ∧ s'.terminate = true) ∧
    (s.mode = .destroyed →
        (∀ (th : Nat) (p : Pc), 1 ≤ th → s.pcs[th]? = some p → p = Pc.exited) ∧ s.pcs[0]? = some Pc.idle ∧
        (∀ t, ¬Running s t) ∧ ∀ a, step s a = none) := by
  obtain ⟨hA, hB, hC⟩ := reachable_inv hr
  constructor
  · intro hterm a s' hs
    have hsd : s.mode.isShutdown = true := hB.term_eq ▸ hterm
    -- the caller is in the destructor, so nothing is submitted; a pop needs `terminate = false`
    cases step_iff.mp hs
    case submit hm _ _ | submitInline hm _ => rw [hm] at hsd; cases hsd
    case waitPop ht _ _ => rw [hterm] at ht; cases ht
    case scan th _ _ => rw [scanBody_of_terminate th hterm]; exact ⟨rfl, rfl, hterm⟩
    case rescan th _ _ =>
      rw [scanBody_of_terminate (s := { s with tw := s.tw - 1 }) th hterm]; exact ⟨rfl, rfl, hterm⟩
    case sdFlag => exact ⟨rfl, rfl, rfl⟩
    all_goals exact ⟨rfl, rfl, hterm⟩
  · intro hm
    have hex := hB.destroyed_exited hm
    have hext : s.pcs[0]? = some Pc.idle := hB.ext.idle (Or.inr (Or.inr (by rw [hm]; rfl)))
    have hpc : ∀ {th : Nat} {p : Pc}, s.pcs[th]? = some p → (p = Pc.idle ∧ th = 0) ∨ p = Pc.exited := by
      intro th p hp
      by_cases h0 : th = 0
      · subst h0; rw [hext] at hp; cases hp; exact Or.inl ⟨rfl, rfl⟩
      · exact Or.inr (hex th p (Nat.pos_of_ne_zero h0) hp)
    refine ⟨hex, hext, ?_, ?_⟩
    · rintro t ⟨th, q, hrun⟩
      rcases hpc hrun with ⟨h, _⟩ | h <;> cases h
    · intro a
      cases hst : step s a with
      | none => rfl
      | some s' =>
        exfalso
        cases step_iff.mp hst
        case scan hth hp =>
          rcases hpc hp with ⟨_, h⟩ | h
          · exact hth h
          · cases h
        case rescan hp | wake hp | taskEnd hp | relock hp => rcases hpc hp with ⟨h, _⟩ | h <;> cases h
        case createQueue _ hm' | setSingle _ hm' | submit hm' _ _ | submitInline hm' _ | waitBegin hm' _ |
            waitPop hm' _ _ _ _ | waitBlocked hm' _ _ _ _ | waitEmpty hm' _ _ | spinRetry hm' | spinExit hm' _ _ |
            sdFlag hm' | sdClear hm' | sdNotify hm' | sdJoin hm' _ =>
          exact nomatch hm.symm.trans hm'

/-- non-vacuity: shutdown with a pending task and a sleeping worker reaches `destroyed` -/
example : accepts 1 [.wScan 1, .submit 0, .sdFlag, .sdClear, .sdNotify, .wScan 1, .sdJoin] = true := by decide
example : accepts 1 [.wScan 1, .submit 0, .sdFlag, .wake 1, .wScan 1, .sdClear, .sdNotify, .sdJoin, .wScan 1] = false := by
  decide

/-- `parallelFor(f, b, e, tc)` on a dispatcher with `threads` workers: the index ranges handed to the
tasks, concatenated in task order, are exactly `b, b+1, …, e-1` — every index once, none outside —
for every range (also empty), every explicit task count and every worker count (also zero).
There is always at least one task, each range lies inside `[b, e)`, and sizes differ by at most one. -/
theorem parallelFor_partition (b e tc threads : Nat) (hbe : b ≤ e) :
    ((pforRanges b e tc threads).map rangeItems).flatten = List.range' b (e - b) ∧
    (pforRanges b e tc threads).length = pforTaskCount (e - b) tc threads ∧
    1 ≤ (pforRanges b e tc threads).length ∧
    (∀ r ∈ pforRanges b e tc threads, b ≤ r.1 ∧ r.1 ≤ r.2 ∧ r.2 ≤ e ∧
      ((r.2 - r.1) = (e - b) / pforTaskCount (e - b) tc threads ∨
       (r.2 - r.1) = (e - b) / pforTaskCount (e - b) tc threads + 1)) := by
  have hpos := pforTaskCount_pos (e - b) tc threads
  have hsum := pforSizes_sum (e - b) _ hpos
  have hlen : (pforRanges b e tc threads).length = pforTaskCount (e - b) tc threads := by
    simp [pforRanges, pforRangesFrom_length, pforSizes_length]
  refine ⟨?_, hlen, hlen ▸ hpos, ?_⟩
  · simp only [pforRanges, pforRangesFrom_items, hsum]
  · intro r hr
    have := pforRangesFrom_bounds b _ r hr
    rw [hsum, Nat.add_sub_cancel' hbe] at this
    exact ⟨this.1, this.2.1, this.2.2.1, pforSizes_mem _ _ _ this.2.2.2⟩

/-- the unguarded computation of the pinned tree yields task count 0 — and then divides by it —
exactly for an empty range or a dispatcher without workers (with no explicit task count) -/
theorem pinned_zero_task_count (size tc threads : Nat) :
    pforTaskCountPinned size tc threads = 0 ↔ tc = 0 ∧ (size = 0 ∨ threads = 0) := by
  unfold pforTaskCountPinned
  repeat' split
  all_goals omega

example : pforRanges 3 10 0 3 = [(3, 6), (6, 8), (8, 10)] := by decide
example : pforRanges 5 5 0 4 = [(5, 5)] := by decide
example : pforRanges 0 2 5 0 = [(0, 1), (1, 2), (2, 2), (2, 2), (2, 2)] := by decide
example : pforRanges 0 3 0 0 = [(0, 3)] := by decide

/-- Deadlock freedom: in every reachable state in which the external thread is inside a library call
(inline run, `wait`, destructor) some thread has an enabled action that is neither a busy-wait
iteration / spurious wake-up nor a new API call.  (Between calls — `mode = api` — the caller is free to
do anything, e.g. `setSingle`.) -/
theorem no_deadlock {n : Nat} {s : State} (hr : Reachable n s) (hm : s.mode ≠ .destroyed) :
    s.mode = .api ∨ ∃ a : Action, a.isSpin = false ∧ a.isCall = false ∧ (step s a).isSome = true :=
  no_deadlock_inv (reachable_inv hr) hm

/-- non-vacuity: waiter blocked on a busy serial queue; the worker's `taskEnd` is the progress action -/
example : accepts 1 [.createQueue 0, .submit 1, .submit 1, .wScan 1, .waitBegin 1, .waitBlocked, .taskEnd 1] = true := by
  decide

/-- Bounded progress: while the external thread is blocked inside a library call, every action that is
not a busy-wait iteration / spurious wake-up strictly decreases `progressMeasure` (4 per pending task, 3 per running
task, 2 per finished task not yet signed off, 1 per awake idle thread, plus the phase of the caller);
busy-wait iterations leave it unchanged and a spurious wake-up adds 1. -/
theorem bounded_progress {n : Nat} {s s' : State} {a : Action} (hr : Reachable n s)
    (hb : s.mode.isBlocked = true) (hs : step s a = some s') :
    (a.isSpin = false → progressMeasure s' < progressMeasure s) ∧
    (a = .waitBlocked ∨ a = .spinRetry → progressMeasure s' = progressMeasure s) ∧
    (∀ th, a = .wake th → progressMeasure s' = progressMeasure s + 1) := by
  refine ⟨fun hsp => bounded_progress_inv (reachable_inv hr) hb hsp hs, ?_, ?_⟩
  · rintro (rfl | rfl) <;> exact measure_eq_of_spin hs rfl nofun
  · rintro th rfl
    cases step_iff.mp hs
    rename_i hp
    have h1 := sum_map_set_of pcW s.pcs th Pc.woken _ hp
    have e1 : pcW Pc.woken = 1 := rfl
    have e2 : pcW Pc.sleeping = 0 := rfl
    simp only [progressMeasure, pendingCount] at h1 ⊢
    omega

/-- FULL liveness claim ("a wait call always returns"): on every infinite run of the model, started anywhere
inside `wait(q)`, under a weakly fair scheduler (`WeaklyFair`: a thread that keeps having an enabled action
other than a busy-wait iteration or a new API call eventually takes a non-busy-wait action) and with finitely
many spurious wake-ups, the call returns to the caller. -/
def wait_returns_statement : Prop :=
  ∀ (n : Nat) (r : InfRun n) (q : Nat), InWait q (r.st 0) → WeaklyFair r → FinitelyManyWakes r →
    ∃ i, (r.st i).mode = .api

/-- The full statement holds for the model: `no_deadlock` gives an enabled progress action, it stays enabled
until its thread moves (`progress_persists`), so a weakly fair schedule keeps making progress, and
`bounded_progress` bounds how much progress is possible before the call returns.
What remains OUTSIDE the model (and is therefore only assumed): that the OS scheduler is weakly fair, that
`std::condition_variable` wakes spuriously only finitely often, and that dispatch.cpp follows the model. -/
theorem wait_returns : wait_returns_statement :=
  fun _ r _ h0 hf hw => wait_returns_of_progress r h0 (fun hin => keeps_progressing_of_weakly_fair r hin hf) hw

/-- the same from A1 (`KeepsProgressing`: the schedule keeps taking progress actions) in place of weak fairness -/
theorem wait_returns_partial {n : Nat} (r : InfRun n) (q : Nat) (h0 : InWait q (r.st 0))
    (hA1 : KeepsProgressing r) (hA2 : FinitelyManyWakes r) : ∃ i, (r.st i).mode = .api :=
  wait_returns_of_progress r h0 (fun _ => hA1) hA2

private def s0 : State := { init 0 with mode := .waitLoop 0 }
private def s1 : State := { init 0 with mode := .spin 0 }
private def s2 : State := { init 0 with mode := .api, synced := syncedAfter s1 0 }
private def s3 : State := { s2 with single := true }

/-- non-vacuity of `wait_returns_partial`: a dispatcher without workers, `wait` on the empty parallel queue, then API calls forever -/
def demoRun : InfRun 0 where
  st := fun i => match i with | 0 => s0 | 1 => s1 | 2 => s2 | _ => s3
  act := fun i => match i with | 0 => .waitEmpty | 1 => .spinExit | _ => .setSingle true
  start := Reachable.step (.waitBegin 0) Reachable.init rfl
  steps := by
    intro i
    match i with
    | 0 => rfl
    | 1 => rfl
    | 2 => rfl
    | (k + 3) => rfl

example : InWait 0 (demoRun.st 0) ∧ KeepsProgressing demoRun ∧ FinitelyManyWakes demoRun := by
  refine ⟨Or.inl rfl, ?_, ⟨0, ?_⟩⟩
  · intro i
    refine ⟨i, Nat.le_refl _, ?_⟩
    match i with
    | 0 => rfl
    | 1 => rfl
    | (k + 2) => rfl
  · intro j _ th
    match j with
    | 0 => intro h; cases h
    | 1 => intro h; cases h
    | (k + 2) => intro h; cases h

/-- ... and it is weakly fair (from step 2 on no thread has a pending non-call action) -/
example : WeaklyFair demoRun := by
  intro th i hen
  exfalso
  obtain ⟨a, _, h1, h2, h3⟩ := hen (i + 3) (Nat.le_add_right i 3)
  have : step (demoRun.st (i + 3)) a = none := no_progress_without_workers _ rfl rfl a h1 h2
  rw [this] at h3
  cases h3

end Mustache.Props.C08
