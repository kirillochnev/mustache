import Mustache.Proofs.VersionsTrace
/-!
# C07 — a version-filtered job never misses a component that was modified

Model: `Mustache/Model/Versions.lean` (stamping version = live world version, `Config.live = true`).
Ghost `pending j e c`: set by every mutable access / markDirty of `(e,c)`, by every arrival of `e` in an
archetype (create, assign, remove), by the relocation of `e` by a removal, and by a run of another job
that processes `e` with `c` in its update mask; cleared only when `j` processes `e`.

All theorems quantify over every configuration of jobs and every history of operations.
-/
namespace Mustache.Props.C07

open Mustache.Versions

/-- **C07.** In every reachable state: if `(e,c)` is pending for job `j`, `c` is in `j`'s check mask, and
`e` currently sits (with component `c`) in an archetype having `j`'s required components and in a chunk
the job's own constant archetype / chunk filters accept, then the next run of `j` processes `e`. -/
theorem no_missed_write (cfg : Config) (hl : cfg.live = true) (ops : List Op)
    (j : Nat) (J : Job) (ai : Nat) (a : Arch) (i : Nat) (e : Ent) (c : Comp)
    (hj : (run cfg ops).jobs[j]? = some J) (ha : (run cfg ops).archs[ai]? = some a)
    (he : a.ents[i]? = some e) (hreq : J.reqOk a = true) (hck : J.chunkOk (i / a.cs) = true)
    (hcc : c ∈ J.check) (hcm : c ∈ a.mask)
    (hp : (run cfg ops).pending j e c = true) :
    e ∈ ((run cfg ops).jobRun j).2 :=
  pending_processed (run_inv cfg hl ops) hj ha he hreq hck hcc hcm hp

/-- **C07 with job bodies that modify the world.** The same in every state reachable by a history whose
runs have bodies — bodies that obtain other entities' components for writing, mark them dirty, or create /
assign / remove / destroy through the command buffer applied when the run unlocks: what a body of `j`
itself modifies is pending for `j` and is processed by `j`'s next run. -/
theorem no_missed_write_with_bodies (cfg : Config) (hl : cfg.live = true) (hops : List HOp)
    (j : Nat) (J : Job) (ai : Nat) (a : Arch) (i : Nat) (e : Ent) (c : Comp)
    (hj : (hrun cfg hops).jobs[j]? = some J) (ha : (hrun cfg hops).archs[ai]? = some a)
    (he : a.ents[i]? = some e) (hreq : J.reqOk a = true) (hck : J.chunkOk (i / a.cs) = true)
    (hcc : c ∈ J.check) (hcm : c ∈ a.mask)
    (hp : (hrun cfg hops).pending j e c = true) :
    e ∈ ((hrun cfg hops).jobRun j).2 := by
  obtain ⟨ops, hops'⟩ := hrun_reachable cfg hops
  rw [hops'] at hj ha hp ⊢
  exact no_missed_write cfg hl ops j J ai a i e c hj ha he hreq hck hcc hcm hp

/-- **C07, history form.** Once `(e,c)` is pending for `j`, whatever happens afterwards — `world.update()`,
runs of other jobs, further accesses, structural changes, in any order — short of a run of `j` itself, the
next run of `j` processes `e` (if `e` then sits, with `c`, in an archetype matching `j`). -/
theorem no_missed_write_history (cfg : Config) (hl : cfg.live = true) (ops1 ops2 : List Op)
    (j : Nat) (e : Ent) (c : Comp)
    (hp : (run cfg ops1).pending j e c = true) (hops : ∀ op ∈ ops2, op ≠ .run j)
    (J : Job) (ai : Nat) (a : Arch) (i : Nat)
    (hj : (run cfg (ops1 ++ ops2)).jobs[j]? = some J) (ha : (run cfg (ops1 ++ ops2)).archs[ai]? = some a)
    (he : a.ents[i]? = some e) (hreq : J.reqOk a = true) (hck : J.chunkOk (i / a.cs) = true)
    (hcc : c ∈ J.check) (hcm : c ∈ a.mask) :
    e ∈ ((run cfg (ops1 ++ ops2)).jobRun j).2 :=
  no_missed_write cfg hl (ops1 ++ ops2) j J ai a i e c hj ha he hreq hck hcc hcm
    (run_append .. ▸ exec_pending_mono _ ops2 j e c hops hp)

/-! ### the ghost is set by every kind of modification the property names -/

/-- mutable `getComponent` (and `markDirty`, same transition) of a component the entity has -/
theorem pending_after_write (s : State) (e : Ent) (c : Comp) (j : Nat)
    (hw : (s.step (.getMut e c)).2 = .access true) : (s.step (.getMut e c)).1.pending j e c = true := by
  rcases step_getMut s e c with h0 | ⟨ai, i, a, ha, _, h0⟩
  · rw [h0] at hw; cases hw
  · rw [h0, writeAt_eq ha]; exact if_pos ⟨rfl, rfl⟩

theorem pending_after_markDirty (s : State) (e : Ent) (c : Comp) (j : Nat)
    (hw : (s.step (.markDirty e c)).2 = .access true) :
    (s.step (.markDirty e c)).1.pending j e c = true := pending_after_write s e c j hw

/-- creation: every component of the new entity is pending for every job -/
theorem pending_after_create (s : State) (m : List Comp) (e : Ent) (c : Comp) (j : Nat)
    (hw : (s.step (.create m)).2 = .created e) : (s.step (.create m)).1.pending j e c = true := by
  dsimp only [State.step] at hw ⊢
  split at hw
  · cases hw
  · next s1 ai hg =>
    cases hw
    rw [arrive_eq (s := { s1 with nextEnt := s1.nextEnt + 1 }) (List.getElem?_eq_getElem (getArchClosed_lt hg))]
    exact if_pos rfl

/-- move between archetypes (`assign` / `removeComponent`): every component of the moved entity is
pending for every job -/
theorem pending_after_move (s : State) (ai i : Nat) (e : Ent) (m : List Comp) (same : Out) (c : Comp) (j : Nat)
    (hne : same ≠ .ok)
    (hw : (s.moveTo ai i e m same).2 = .ok) : (s.moveTo ai i e m same).1.pending j e c = true := by
  unfold State.moveTo at hw ⊢
  split at hw
  · cases hw
  · next s1 aj hg =>
    split at hw
    · exact absurd hw hne
    · next hsame =>
      have hlt : aj < (s1.depart ai i).archs.length := (depart_archs_length ..).symm ▸ getArchClosed_lt hg
      rw [if_neg hsame, arrive_eq (List.getElem?_eq_getElem hlt)]
      exact if_pos rfl

/-- relocation by a removal: the entity moved into the hole is pending for every job -/
theorem pending_after_relocation (s : State) (ai i : Nat) (a : Arch) (e' : Ent) (c : Comp) (j : Nat)
    (ha : s.archs[ai]? = some a) (hi : i ≠ a.ents.length - 1)
    (hl : a.ents[a.ents.length - 1]? = some e') : (s.depart ai i).pending j e' c = true := by
  rw [depart_eq ha]
  exact if_pos ⟨hi, hl⟩

/-- another job's write: after a run of `k`, every entity it processed is pending for every other job,
for every component of `k`'s update mask -/
theorem pending_after_other_job (s : State) (k j : Nat) (K : Job) (e : Ent) (c : Comp)
    (hk : s.jobs[k]? = some K) (hjk : j ≠ k) (he : e ∈ (s.jobRun k).2) (hc : c ∈ K.upd) :
    (s.jobRun k).1.pending j e c = true := by
  rw [jobRun_pending hk, if_pos (List.contains_iff_mem.mpr he), if_neg hjk, List.contains_iff_mem.mpr hc,
    Bool.or_true]


/-- job 0 requires and checks component 0; job 1 writes component 0 -/
def cfgEx : Config := { jobs := [{ req := [0], check := [0], upd := [] }, { req := [0], check := [], upd := [0] }] }

/-- `update; run; getComponent (mutable); run` — the history the unrepaired tree gets wrong: in the model
(and on the repaired tree) the second run processes the entity -/
example : let s := run cfgEx [.create [0], .update, .run 0, .getMut 0 0]
    s.pending 0 0 0 = true ∧ (s.jobRun 0).2 = [0] := by decide +kernel

/-- the hypotheses of `no_missed_write` are satisfiable on a history with an intervening `update`, another
job's run and a relocation by removal -/
example : let s := run cfgEx [.create [0], .create [0], .create [0], .run 0, .getMut 2 0, .update,
                             .run 1, .destroyNow 0, .update]
    (∃ J a, s.jobs[0]? = some J ∧ s.archs[0]? = some a ∧ a.ents[0]? = some 2 ∧ J.reqOk a = true ∧
      J.chunkOk (0 / a.cs) = true ∧ 0 ∈ J.check ∧ 0 ∈ a.mask ∧ s.pending 0 2 0 = true) ∧
    (s.jobRun 0).2 = [2, 1] := by
  refine ⟨⟨_, _, rfl, rfl, ?_⟩, ?_⟩ <;> decide

/-- **The defect of the unrepaired tree, as a statement about the model.** With the stamping version cached in
the manager and refreshed only by `update()` (`live := false`), the four-operation history leaves a pending
write that the next run of the job misses. -/
theorem cached_stamp_misses_write :
    ∃ (cfg : Config) (ops : List Op) (j : Nat) (J : Job) (ai : Nat) (a : Arch) (i e c : Nat),
      cfg.live = false ∧ (run cfg ops).jobs[j]? = some J ∧ (run cfg ops).archs[ai]? = some a ∧
      a.ents[i]? = some e ∧ J.reqOk a = true ∧ J.chunkOk (i / a.cs) = true ∧ c ∈ J.check ∧ c ∈ a.mask ∧
      (run cfg ops).pending j e c = true ∧ e ∉ ((run cfg ops).jobRun j).2 := by
  refine ⟨{ jobs := [{ req := [0], check := [0], upd := [] }], live := false },
    [.create [0], .update, .run 0, .getMut 0 0], 0, _, 0, _, 0, 0, 0, rfl, rfl, rfl, ?_⟩
  decide

end Mustache.Props.C07
