import Mustache.Proofs.LayoutBasic
import Mustache.Proofs.LayoutTemp
import Mustache.Proofs.LayoutGen
import Mustache.Proofs.LayoutStore
/-! # C10 — component storage handed out is in-bounds, live and correctly aligned

PARTIAL BY NATURE (DESIGN.md section 6): the theorems cover the address arithmetic and the index ranges of
`DefaultComponentDataStorage` (chunk layout, `getDataUnsafe`) and of the command buffer's
`TemporalStorage::allocate`, for ALL component lists, capacities, slot indices and allocation histories.
Object lifetime, aliasing and the allocator of the C++ abstract machine are outside a value-level model;
they are validated by the sanitizer runs of `tools/props/c10.py`.

Vocabulary: `cs` = the archetype's components in id order (`size`, `align`), `cap` = storage-chunk capacity,
`ca` = `chunk_align_` (the alignment requested from the allocator for every chunk), `base c` = address of
chunk `c`; `offsetOf cap 0 cs i` = `component_getter_info_[i].offset`, `addr cap cs base i j` = the pointer
`getDataUnsafe(i, j)` returns. `WF` = every alignment is positive, `Strided` = `size % align = 0`. -/
namespace Mustache.Props.C10
open Mustache.Gen Mustache.Model.Layout Mustache.Proofs.Layout Mustache.Proofs.LayoutTemp Mustache.Proofs.LayoutGen
  Mustache.Proofs.LayoutStore


/-- the constructor's fold (`layout`, the definition the driver runs against the implementation) produces
exactly the offsets `offsetOf`, the chunk alignment of the chosen rule and the rounded-up chunk size -/
theorem constructor_fold (rule : Rule) (cap : Nat) (cs : List Comp) :
    (layout rule cap cs).getters = colsFrom cap 0 cs ∧
    (∀ i, i < cs.length → (layout rule cap cs).getters[i]? = some ⟨offsetOf cap 0 cs i, sizeAt cs i⟩) ∧
    (layout .largest cap cs).chunkAlign = maxAlign cs ∧
    (layout .first cap cs).chunkAlign = firstAlign cap 0 0 cs ∧
    (cs ≠ [] → (layout rule cap cs).chunkSize = chunkSizeOf cap cs (layout rule cap cs).chunkAlign) := by
  rw [layout_eq rule, layout_eq .largest, layout_eq .first]
  refine ⟨rfl, fun i hi => colsFrom_get cap 0 cs i hi, rfl, rfl, fun hne => ?_⟩
  cases cs with
  | nil => exact absurd rfl hne
  | cons c cs => rfl

example : (layout .largest 4 [⟨1, 1⟩, ⟨64, 64⟩, ⟨24, 8⟩]).getters = [⟨0, 1⟩, ⟨64, 64⟩, ⟨320, 24⟩] ∧
    (layout .largest 4 [⟨1, 1⟩, ⟨64, 64⟩, ⟨24, 8⟩]).chunkSize = 448 ∧
    (layout .largest 4 [⟨1, 1⟩, ⟨64, 64⟩, ⟨24, 8⟩]).chunkAlign = 64 ∧
    (layout .first 4 [⟨1, 1⟩, ⟨64, 64⟩, ⟨24, 8⟩]).chunkAlign = 1 := by decide +kernel

/-- `ComponentOffset::alignAs` as GENERATED from the source equals the model's `alignUp` (no 32-bit overflow) -/
theorem alignUp_eq_generated (off a : Nat) (ha : 0 < a) (ha2 : a < 2 ^ 32) (h : off + a ≤ 2 ^ 32) :
    w_align_defined (b32 off) (b32 a) = true ∧ (w_align (b32 off) (b32 a)).toNat = alignUp off a :=
  ⟨Proofs.BitPack.align_defined _ (b32_ne_zero a ha ha2), align_b32 off a ha ha2 h⟩

example : (0 : Nat) < 64 ∧ 64 < 2 ^ 32 ∧ 4097 + 64 ≤ 2 ^ 32 ∧ alignUp 4097 64 = 4160 := by decide +kernel

/-- the whole offset computation carried out with the generated 32-bit `alignAs` and wrapping `add` gives the
model's offsets and end whenever the chunk (plus one alignment) fits 32 bits -/
theorem layout32_eq_generated (cap A : Nat) (cs : List Comp) (h : WF cs) (hA : ∀ c ∈ cs, c.align ≤ A)
    (hsmall : endOf cap 0 cs + A < 2 ^ 32) :
    colsGen cap (b32 0) cs = colsFrom cap 0 cs ∧ (endGen cap (b32 0) cs).toNat = endOf cap 0 cs := by
  have g := gen_eq cap 0 A cs h hA hsmall
  exact ⟨g.1, by rw [g.2, b32_toNat _ (Nat.lt_of_le_of_lt (Nat.le_add_right _ A) hsmall)]⟩

example : WF [⟨1, 1⟩, ⟨4096, 64⟩] ∧ (∀ c ∈ [(⟨1, 1⟩ : Comp), ⟨4096, 64⟩], c.align ≤ 64) ∧
    endOf 16384 0 [⟨1, 1⟩, ⟨4096, 64⟩] + 64 < 2 ^ 32 := by
  unfold WF; decide +kernel

/-- chunk/item split of `getDataUnsafe` (`index / chunk_capacity_`, `index % chunk_capacity_`) as generated -/
theorem split_index (j cap : Nat) (hj : j < 2 ^ 32) (hc : 0 < cap) (hc2 : cap < 2 ^ 32) :
    w_div_defined (b32 j) (b32 cap) = true ∧ w_mod_defined (b32 j) (b32 cap) = true ∧
    (w_div (b32 j) (b32 cap)).toNat = j / cap ∧ (w_mod (b32 j) (b32 cap)).toNat = j % cap ∧
    j = (j / cap) * cap + j % cap ∧ j % cap < cap := by
  have hne := b32_ne_zero cap hc hc2
  refine ⟨Proofs.BitPack.div_defined _ _, Proofs.BitPack.mod_defined _ _, ?_, ?_, (Nat.div_add_mod' j cap).symm, Nat.mod_lt _ hc⟩
  · rw [Proofs.BitPack.div_eq _ hne, BitVec.toNat_udiv, b32_toNat j hj, b32_toNat cap hc2]
  · rw [Proofs.BitPack.mod_eq _ hne, BitVec.toNat_umod, b32_toNat j hj, b32_toNat cap hc2]

example : (37 : Nat) < 2 ^ 32 ∧ (0 : Nat) < 16 ∧ 16 < 2 ^ 32 := by decide +kernel

/-- a slot below the allocated capacity uses an existing chunk -/
theorem chunk_index_in_range (j cap nchunks : Nat) (h : j < cap * nchunks) : j / cap < nchunks :=
  Nat.div_lt_of_lt_mul h

example : (37 : Nat) < 16 * 3 := by decide +kernel

/-- ALL histories of `emplace` / `decrSize` / `clear` on a storage (non-empty mask, hence `chunk_size_ > 0`;
capacity ≥ 1): every slot below the population is backed by an allocated chunk, so `chunks_[j / cap]` of a
live slot is inside the chunk table -/
theorem storage_slots_backed (cap chunkSize : Nat) (ops : List SOp) (hc : 0 < cap) (hz : 0 < chunkSize) (j : Nat)
    (hj : j < ((⟨cap, chunkSize, 0, 0⟩ : Store).run ops).size) :
    j / cap < ((⟨cap, chunkSize, 0, 0⟩ : Store).run ops).nchunks := by
  have h := run_inv hc hz ⟨cap, chunkSize, 0, 0⟩ ops ⟨rfl, rfl, Nat.zero_le _⟩
  exact chunk_index_in_range j cap _ (Nat.lt_of_lt_of_le hj h.2.2)

example : ((⟨2, 64, 0, 0⟩ : Store).run [.emplace 0, .emplace 1, .emplace 2, .decr, .emplace 2, .clear false, .emplace 0]) =
    ⟨2, 64, 2, 1⟩ := by decide +kernel


/-- Sufficient condition for aligned addresses: if the chunk base is a multiple of `ca` and the component's
alignment divides `ca`, every address handed out for that component is a multiple of its alignment
(`first_component_rule_insufficient`: without the divisibility it fails) -/
theorem layout_aligned (cap : Nat) (cs : List Comp) (ca : Nat) (base : Nat → Nat) (hs : Strided cs)
    (i j : Nat) (hi : i < cs.length) (hbase : base (j / cap) % ca = 0) (hdiv : alignAt cs i ∣ ca) :
    addr cap cs base i j % alignAt cs i = 0 := by
  apply Nat.mod_eq_zero_of_dvd
  unfold addr
  rw [rel_eq]
  have h1 : alignAt cs i ∣ base (j / cap) := Nat.dvd_trans hdiv (Nat.dvd_of_mod_eq_zero hbase)
  have h2 := offsetOf_dvd cap 0 cs i hi
  have h3 : alignAt cs i ∣ j % cap * sizeAt cs i := Nat.dvd_trans (strided_at hs hi) (Nat.dvd_mul_left _ _)
  exact Nat.dvd_add h1 (Nat.dvd_add h2 h3)

example : Strided [⟨1, 1⟩, ⟨64, 64⟩] ∧ (1 : Nat) < [(⟨1, 1⟩ : Comp), ⟨64, 64⟩].length ∧
    (fun _ => 4096) (5 / 4) % 64 = 0 ∧ alignAt [⟨1, 1⟩, ⟨64, 64⟩] 1 ∣ 64 := by
  unfold Strided; decide +kernel

/-- with power-of-two alignments the largest alignment is a multiple of every member's alignment
(so the repaired rule `chunk_align_ = largest` satisfies the hypothesis of `layout_aligned`) -/
theorem chunkAlign_max_divisible (cs : List Comp) (h : ∀ c ∈ cs, IsPow2 c.align) :
    (∀ c ∈ cs, c.align ∣ maxAlign cs) ∧ (∀ i, i < cs.length → alignAt cs i ∣ maxAlign cs) := by
  have m := maxAlign_dvd cs h
  exact ⟨m, fun i hi => m _ (getD_mem cs i hi)⟩

example : ∀ c ∈ [(⟨3, 1⟩ : Comp), ⟨64, 64⟩, ⟨24, 8⟩], IsPow2 c.align := by
  exact List.forall_mem_cons.mpr ⟨⟨0, rfl⟩, List.forall_mem_cons.mpr ⟨⟨6, rfl⟩,
    List.forall_mem_cons.mpr ⟨⟨3, rfl⟩, List.forall_mem_nil _⟩⟩⟩

/-- the repaired constructor hands out only aligned addresses: any component list with power-of-two alignments
and `size % align = 0`, any capacity, any slot, any allocator that honours the requested chunk alignment -/
theorem fixed_rule_aligned (cap : Nat) (cs : List Comp) (base : Nat → Nat) (hp : ∀ c ∈ cs, IsPow2 c.align)
    (hs : Strided cs) (i j : Nat) (hi : i < cs.length)
    (hbase : base (j / cap) % (layout .largest cap cs).chunkAlign = 0) :
    addr cap cs base i j % alignAt cs i = 0 := by
  rw [(constructor_fold .largest cap cs).2.2.1] at hbase
  exact layout_aligned cap cs (maxAlign cs) base hs i j hi hbase ((chunkAlign_max_divisible cs hp).2 i hi)

example : (layout .largest 16384 [⟨1, 1⟩, ⟨64, 64⟩]).chunkAlign = 64 ∧ (fun _ => 8192) (5 / 16384) % 64 = 0 ∧
    addr 16384 [⟨1, 1⟩, ⟨64, 64⟩] (fun _ => 8192) 1 5 = 8192 + 16384 + 5 * 64 := by decide +kernel

/-- the chunk size requested from `aligned_alloc` is a multiple of the requested alignment -/
theorem chunk_size_multiple (cap : Nat) (cs : List Comp) (ca : Nat) (hca : 0 < ca) :
    ca ∣ chunkSizeOf cap cs ca ∧ 0 < chunkSizeOf cap cs ca :=
  ⟨roundChunk_dvd _ _, roundChunk_pos _ _ hca⟩

example : chunkSizeOf 4 [⟨1, 1⟩, ⟨64, 64⟩] 64 = 320 ∧ chunkSizeOf 4 [⟨0, 8⟩, ⟨0, 64⟩] 64 = 64 := by decide +kernel

/-- the rule of the unrepaired tree, `Rule.first` (`chunk_align_` = alignment of the first component), does NOT
satisfy the hypothesis:
`create<A1, A64>()` with a chunk base that honours the requested alignment 1 hands out the 64-aligned
component at a misaligned address -/
theorem first_component_rule_insufficient :
    ∃ (cap : Nat) (cs : List Comp) (base : Nat → Nat) (i j : Nat),
      (∀ c ∈ cs, IsPow2 c.align) ∧ Strided cs ∧ i < cs.length ∧
      base (j / cap) % (layout .first cap cs).chunkAlign = 0 ∧
      addr cap cs base i j % alignAt cs i ≠ 0 := by
  refine ⟨16384, [⟨1, 1⟩, ⟨64, 64⟩], fun _ => 16, 1, 0, ?_, ?_, by decide, by decide +kernel, by decide +kernel⟩
  · exact List.forall_mem_cons.mpr ⟨⟨0, rfl⟩, List.forall_mem_cons.mpr ⟨⟨6, rfl⟩, List.forall_mem_nil _⟩⟩
  · unfold Strided; decide


/-- a column ends before the next one starts and before the end of the chunk -/
theorem layout_in_bounds (cap : Nat) (cs : List Comp) (ca : Nat) (h : WF cs) (hca : 0 < ca) (i : Nat)
    (hi : i < cs.length) :
    (i + 1 < cs.length → offsetOf cap 0 cs i + cap * sizeAt cs i ≤ offsetOf cap 0 cs (i + 1)) ∧
    offsetOf cap 0 cs i + cap * sizeAt cs i ≤ endOf cap 0 cs ∧
    offsetOf cap 0 cs i + cap * sizeAt cs i ≤ chunkSizeOf cap cs ca := by
  have e := col_end cap 0 cs h i hi
  exact ⟨fun h1 => col_before cap 0 cs h i (i + 1) (Nat.lt_succ_self i) h1, e, Nat.le_trans e (roundChunk_ge _ ca hca)⟩

example : WF [⟨3, 1⟩, ⟨64, 64⟩, ⟨0, 8⟩] := by
  unfold WF; decide +kernel

/-- every address of slot `j` lies inside the chunk `j / cap`: `[base, base + chunk_size_)` -/
theorem addr_in_chunk (cap : Nat) (cs : List Comp) (ca : Nat) (base : Nat → Nat) (h : WF cs) (hca : 0 < ca)
    (hcap : 0 < cap) (i j : Nat) (hi : i < cs.length) :
    base (j / cap) ≤ addr cap cs base i j ∧
    addr cap cs base i j + sizeAt cs i ≤ base (j / cap) + chunkSizeOf cap cs ca := by
  have r := rel_in_chunk cap cs ca h hca i (j % cap) hi (Nat.mod_lt _ hcap)
  unfold addr
  exact ⟨Nat.le_add_right _ _, by rw [Nat.add_assoc]; exact Nat.add_le_add_left r _⟩

example : addr 4 [⟨1, 1⟩, ⟨64, 64⟩] (fun c => 1024 * c) 1 6 = 1024 + 64 + 2 * 64 ∧
    chunkSizeOf 4 [⟨1, 1⟩, ⟨64, 64⟩] 64 = 320 := by decide +kernel

/-- distinct (component, slot) pairs of one chunk occupy disjoint byte ranges relative to its base: no hypothesis on
the allocator -/
theorem layout_disjoint_in_chunk (cap : Nat) (cs : List Comp) (h : WF cs) (i i' k k' : Nat)
    (hi : i < cs.length) (hi' : i' < cs.length) (hk : k < cap) (hk' : k' < cap) (hne : i ≠ i' ∨ k ≠ k') :
    rel cap cs i k + sizeAt cs i ≤ rel cap cs i' k' ∨ rel cap cs i' k' + sizeAt cs i' ≤ rel cap cs i k := by
  rcases Nat.lt_trichotomy i i' with hlt | heq | hgt
  · exact Or.inl (rel_before cap cs h k k' hlt hi' hk)
  · subst heq
    have hkk : k ≠ k' := hne.resolve_left (fun h => h rfl)
    rw [rel_eq, rel_eq, Nat.add_assoc, Nat.add_assoc]
    rcases Nat.lt_or_gt_of_ne hkk with hl | hg
    · exact Or.inl (Nat.add_le_add_left (slots_apart _ hl) _)
    · exact Or.inr (Nat.add_le_add_left (slots_apart _ hg) _)
  · exact Or.inr (rel_before cap cs h k' k hgt hi hk')

example : rel 4 [⟨3, 1⟩, ⟨24, 8⟩] 0 3 = 9 ∧ rel 4 [⟨3, 1⟩, ⟨24, 8⟩] 1 0 = 16 := by decide +kernel

/-- distinct (component, slot) pairs occupy disjoint byte ranges (chunks themselves are disjoint allocations) -/
theorem layout_disjoint (cap : Nat) (cs : List Comp) (ca : Nat) (base : Nat → Nat) (h : WF cs) (hca : 0 < ca)
    (hcap : 0 < cap)
    (hchunks : ∀ c c', c ≠ c' → base c + chunkSizeOf cap cs ca ≤ base c' ∨ base c' + chunkSizeOf cap cs ca ≤ base c)
    (i i' j j' : Nat) (hi : i < cs.length) (hi' : i' < cs.length) (hne : i ≠ i' ∨ j ≠ j') :
    addr cap cs base i j + sizeAt cs i ≤ addr cap cs base i' j' ∨
    addr cap cs base i' j' + sizeAt cs i' ≤ addr cap cs base i j := by
  by_cases hc : j / cap = j' / cap
  · -- same chunk: the slots differ in column or in position, and `layout_disjoint_in_chunk` applies
    have hk : i ≠ i' ∨ j % cap ≠ j' % cap :=
      hne.imp_right (fun h1 hm => h1 (by rw [← Nat.div_add_mod j cap, ← Nat.div_add_mod j' cap, hc, hm]))
    unfold addr
    rw [hc, Nat.add_assoc, Nat.add_assoc]
    exact (layout_disjoint_in_chunk cap cs h i i' _ _ hi hi' (Nat.mod_lt _ hcap) (Nat.mod_lt _ hcap) hk).imp
      (Nat.add_le_add_left · _) (Nat.add_le_add_left · _)
  · -- different chunks: each address lies inside its own chunk
    have a := addr_in_chunk cap cs ca base h hca hcap i j hi
    have a' := addr_in_chunk cap cs ca base h hca hcap i' j' hi'
    exact (hchunks _ _ hc).imp (fun d => Nat.le_trans a.2 (Nat.le_trans d a'.1))
      (fun d => Nat.le_trans a'.2 (Nat.le_trans d a.1))

/-- the hypothesis on the chunk table is satisfiable: allocations 1024 bytes apart, chunk size 320 -/
example : ∀ c c' : Nat, c ≠ c' →
    (fun c => 1024 * c) c + chunkSizeOf 4 [⟨1, 1⟩, ⟨64, 64⟩] 64 ≤ (fun c => 1024 * c) c' ∨
    (fun c => 1024 * c) c' + chunkSizeOf 4 [⟨1, 1⟩, ⟨64, 64⟩] 64 ≤ (fun c => 1024 * c) c := by
  have key (a b : Nat) (h : a < b) : 1024 * a + chunkSizeOf 4 [⟨1, 1⟩, ⟨64, 64⟩] 64 ≤ 1024 * b :=
    Nat.le_trans (Nat.add_le_add_left (by decide +kernel) _) (Nat.mul_le_mul_left 1024 h)
  exact fun c c' h => (Nat.lt_or_gt_of_ne h).imp (key c c') (key c' c)

/-- the address of a slot depends only on its chunk-table entry: a call that leaves `chunks_[j / cap]`
unchanged (everything except `clear(free_chunks)` and the destructor) leaves the address unchanged -/
theorem addr_stable (cap : Nat) (cs : List Comp) (base base' : Nat → Nat) (i j : Nat)
    (h : base (j / cap) = base' (j / cap)) : addr cap cs base i j = addr cap cs base' i j := by
  unfold addr; rw [h]

example : addr 4 [⟨8, 8⟩] (fun c => 64 * c) 0 5 = addr 4 [⟨8, 8⟩] (fun c => if c = 0 then 7 else 64 * c) 0 5 := by decide +kernel


/-- the returned address is aligned, the block lies inside its chunk, the chunk exists -/
theorem talloc_sound (s : TState) (r : TReq) (hinv : TInv s) (ha : r.align = 0 ∨ 0 < r.align) :
    let res := (allocate s r.nb r.size r.align).2
    let s' := (allocate s r.nb r.size r.align).1
    res.chunk < s'.chunks.length ∧ res.size = r.size ∧
    res.offset + r.size ≤ chunkCapacity s' res.chunk ∧
    (0 < r.align → (chunkBase s' res.chunk + res.offset) % r.align = 0) ∧ TInv s' := by
  -- `ha` is not needed here or below: a natural number is 0 or positive (`Nat.eq_zero_or_pos`)
  have h := sound_alloc s r hinv
  have hb := h.2.2.1
  rw [h.2.1] at hb
  exact ⟨h.1, h.2.1, hb, h.2.2.2, allocate_inv s r.nb r.size r.align hinv⟩

example : TInv TState.init := fun _ hc => absurd hc List.not_mem_nil

example : (allocate TState.init 4112 24 64).2 = ⟨0, 48, 24⟩ := by decide +kernel

/-- consecutive allocations do not overlap: the second one lies in a later chunk or behind the first -/
theorem talloc_consecutive (s : TState) (r1 r2 : TReq) (hinv : TInv s) (h1 : r1.align = 0 ∨ 0 < r1.align)
    (h2 : r2.align = 0 ∨ 0 < r2.align) :
    let a := (allocate s r1.nb r1.size r1.align)
    let b := (allocate a.1 r2.nb r2.size r2.align)
    a.2.chunk < b.2.chunk ∨ (a.2.chunk = b.2.chunk ∧ a.2.offset + r1.size ≤ b.2.offset) := by
  intro a b
  have h : After a.2 b.2 := above_allocate s r1.nb r1.size r1.align hinv _
    (allocate_above a.1 r2.nb r2.size r2.align (allocate_inv s r1.nb r1.size r1.align hinv))
  have hs : a.2.size = r1.size := (sound_alloc s r1 hinv).2.1
  exact h.imp id (fun ⟨e, l⟩ => ⟨e.symm, hs ▸ l⟩)

example : (allocate TState.init 4112 24 8).2 = ⟨0, 0, 24⟩ ∧
    (allocate (allocate TState.init 4112 24 8).1 0 64 64).2 = ⟨0, 48, 64⟩ := by decide +kernel

/-- ALL histories of one locked section: any two allocations of the same chunk are disjoint, each one is
aligned and inside its chunk in the final state -/
theorem talloc_history (s : TState) (rs : List TReq) (hinv : TInv s) (hr : ∀ r ∈ rs, r.align = 0 ∨ 0 < r.align) :
    (runAllocs s rs).2.Pairwise (fun a b => a.chunk = b.chunk → a.offset + a.size ≤ b.offset) ∧
    (runAllocs s rs).2.length = rs.length ∧
    (∀ p ∈ List.zip rs (runAllocs s rs).2,
       p.2.chunk < (runAllocs s rs).1.chunks.length ∧ p.2.size = p.1.size ∧
       p.2.offset + p.2.size ≤ chunkCapacity (runAllocs s rs).1 p.2.chunk ∧
       (0 < p.1.align → (chunkBase (runAllocs s rs).1 p.2.chunk + p.2.offset) % p.1.align = 0)) ∧
    TInv (runAllocs s rs).1 :=
  ⟨(run_after s rs hinv).imp After.disjoint, run_length s rs, run_sound s rs hinv, run_inv s rs hinv⟩

example : (runAllocs TState.init [⟨4112, 24, 8⟩, ⟨0, 64, 64⟩, ⟨0, 4096, 16⟩, ⟨8208, 1, 1⟩]).2 =
    [⟨0, 0, 24⟩, ⟨0, 48, 64⟩, ⟨1, 0, 4096⟩, ⟨1, 4096, 1⟩] := by decide +kernel

/-- `clear()` (end of the locked section) re-establishes the allocator's invariant, so the next section is
covered by `talloc_history` again -/
theorem talloc_clear (s : TState) : TInv (clear s) := by
  intro c hc
  unfold clear at hc
  simp only at hc
  split at hc
  · rw [List.mem_singleton.mp hc]; exact Nat.le_refl _
  · exact absurd hc List.not_mem_nil

example : (clear (runAllocs TState.init [⟨4112, 24, 8⟩, ⟨0, 64, 64⟩]).1).chunks = [⟨4112, 4096, 4096⟩] ∧
    (clear (runAllocs TState.init [⟨4112, 24, 8⟩, ⟨0, 64, 64⟩]).1).target = 112 := by decide +kernel

end Mustache.Props.C10
