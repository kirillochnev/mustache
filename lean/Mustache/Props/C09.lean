import Mustache.Model.World
import Mustache.Driver.World
import Mustache.Proofs.RowsCtl
/-!
# C09 — operations through dead, null or foreign handles are harmless

Model: `Mustache.Model.WM` (`Model/World.lean`). Every theorem quantifies over EVERY state `w : WM`
(reachable or not) and EVERY handle `h` with `w.isValid h = false` — null, other world, id out of
range, stale version; there is no other hypothesis. The conclusion is always "returns null/false and
the WHOLE concrete state is returned unchanged" (hence every other live entity is untouched).
`destroy` is the one entry point that records the handle (in `marked`); `update` then drops it.
-/
namespace Mustache.Props.C09
open Mustache.Model

/-! ## sample states for the non-vacuity examples -/

abbrev cat := Mustache.Driver.World.catalogue

/-- two entities {A,B} / {A}, the first one destroyed: its handle `⟨0,0,0⟩` is stale -/
def sampleW : WM :=
  let w : WM := {}
  let (w, _, _) := w.create cat 0 [0, 1] Shared.null
  let (w, h1, _) := w.create cat 0 [0] Shared.null
  let (w, _, _) := w.assign cat 0 h1 2 (some 77)
  (w.destroyNowU cat ⟨0, 0, 0⟩).1

def stale : Handle := ⟨0, 0, 0⟩
def foreign : Handle := ⟨1, 0, 5⟩
def outOfRange : Handle := ⟨9, 0, 0⟩
def live1 : Handle := ⟨1, 0, 0⟩

example : sampleW.isValid stale = false ∧ sampleW.isValid foreign = false ∧
    sampleW.isValid outOfRange = false ∧ sampleW.isValid Handle.null = false ∧
    sampleW.isValid live1 = true := by decide +kernel
example : sampleW.getComp live1 2 = some (some 77) := by decide +kernel

/-- `isEntityValid` is exactly: not the null pattern, issued by this world, id inside the table, the
version stored there equals the handle's version and the slot is live (stores its own id). -/
theorem isValid_spec (w : WM) (h : Handle) :
    w.isValid h = true ↔
      h ≠ Handle.null ∧ h.world = w.worldId ∧
        ∃ s, w.slots[h.id]? = some s ∧ s.ver = h.ver ∧ s.idf = h.id := by
  unfold WM.isValid Handle.isNull
  cases hs : w.slots[h.id]? with
  | none => simp
  | some s => simp [and_assoc]

example : sampleW.isValid live1 = true ∧ live1 ≠ Handle.null ∧ live1.world = sampleW.worldId ∧
    sampleW.slots[live1.id]? = some ⟨1, 0⟩ := by decide +kernel

/-- the five ways of being invalid: null, foreign world, id out of range, stale version, free slot -/
theorem isValid_false_iff (w : WM) (h : Handle) :
    w.isValid h = false ↔
      h = Handle.null ∨ h.world ≠ w.worldId ∨ w.slots.length ≤ h.id ∨
        ∃ s, w.slots[h.id]? = some s ∧ (s.ver ≠ h.ver ∨ s.idf ≠ h.id) := by
  rw [← Bool.not_eq_true, isValid_spec]
  cases hs : w.slots[h.id]? with
  | none =>
    have : w.slots.length ≤ h.id := List.getElem?_eq_none_iff.mp hs
    simp [this]
  | some s =>
    have hn : ¬ w.slots.length ≤ h.id := Nat.not_le.mpr (List.getElem?_eq_some_iff.mp hs).1
    simp only [Option.some.injEq, exists_eq_left', hn, false_or, Classical.not_and_iff_not_or_not, ne_eq,
      Classical.not_not]

example : sampleW.isValid Handle.null = false := by decide +kernel
/-- the stale handle's slot: version bumped AND on the free list -/
example : sampleW.slots[stale.id]? = some ⟨1, 1⟩ := by decide +kernel

theorem getComp_invalid (w : WM) (h : Handle) (c : CompId) (hv : w.isValid h = false) :
    w.getComp h c = none := by
  simp [WM.getComp, hv]

theorem hasComp_invalid (w : WM) (h : Handle) (c : CompId) (hv : w.isValid h = false) :
    w.hasComp h c = false := by
  simp [WM.hasComp, hv]

theorem hasShared_invalid (w : WM) (h : Handle) (sid : Nat) (hv : w.isValid h = false) :
    w.hasShared h sid = false := by
  simp [WM.hasShared, hv]

theorem archOf_invalid (w : WM) (h : Handle) (hv : w.isValid h = false) :
    w.archOf h = none := by
  simp [WM.archOf, hv]

example : sampleW.getComp stale 0 = none ∧ sampleW.hasComp stale 0 = false ∧
    sampleW.archOf stale = none ∧ sampleW.archOf live1 = some 2 := by decide +kernel

theorem destroyNowU_invalid (info : CompId → CompInfo) (w : WM) (h : Handle)
    (hv : w.isValid h = false) : w.destroyNowU info h = (w, []) := by
  simp [WM.destroyNowU, hv]

/-- the public `destroyNow`, unlocked -/
theorem destroyNow_invalid (info : CompId → CompInfo) (w : WM) (t : Nat) (h : Handle)
    (hl : w.isLocked = false) (hv : w.isValid h = false) : w.destroyNow info t h = (w, []) := by
  simp [WM.destroyNow, hl, destroyNowU_invalid info w h hv]

theorem removeComp_invalid (info : CompId → CompInfo) (w : WM) (t : Nat) (h : Handle) (c : CompId)
    (hl : w.isLocked = false) (hv : w.isValid h = false) : w.removeComp info t h c = (w, []) := by
  simp [WM.removeComp, hl, hv]

theorem sremove_invalid (info : CompId → CompInfo) (w : WM) (h : Handle) (sid : Nat)
    (hv : w.isValid h = false) : w.sremove info h sid = (w, false, []) := by
  simp [WM.sremove, hv]

theorem clone_invalid (w : WM) (h : Handle) (hv : w.isValid h = false) :
    w.clone h = (w, none) := by
  simp [WM.clone, hv]

example : sampleW.isLocked = false := by decide +kernel

/-- `applyCommandPack` on a pack that does not start with a creation and whose target handle is
invalid at that moment: nothing is applied, nothing fires, the state is the same. -/
theorem applyPack_invalid (info : CompId → CompInfo) (w : WM) (first : Cmd) (rest : List Cmd)
    (hnc : ∀ e m sh, first ≠ .create e m sh) (hv : w.isValid first.entity = false) :
    w.applyPack info (first :: rest) = (w, []) := by
  cases first with
  | create e m sh => exact absurd rfl (hnc e m sh)
  | _ => rw [Mustache.Proofs.Rows.applyPack_eq, Mustache.Proofs.Rows.packStart_other _ _ rfl, hv]; rfl

example : (Cmd.remove stale 0).entity = stale := rfl

/-- the packs of a flush: folding `applyPack` over a list of packs that all target invalid handles
(valid-ness taken in the state where the fold starts — the state never changes, so it is the state
at the time each pack is applied) leaves the state unchanged. -/
theorem applyPacks_invalid (info : CompId → CompInfo) (w : WM) (ps : List (List Cmd)) (cbs : List Cb)
    (hps : ∀ p ∈ ps, ∃ first rest, p = first :: rest ∧ (∀ e m sh, first ≠ .create e m sh) ∧
      w.isValid first.entity = false) :
    ps.foldl (fun (acc : WM × List Cb) p =>
      let (w', c) := acc.1.applyPack info p
      (w', acc.2 ++ c)) (w, cbs) = (w, cbs) := by
  induction ps with
  | nil => rfl
  | cons p ps ih =>
    rcases hps p (by simp) with ⟨first, rest, rfl, hnc, hv⟩
    rw [List.foldl_cons]
    simp only [applyPack_invalid info w first rest hnc hv, List.append_nil]
    exact ih (fun q hq => hps q (by simp [hq]))

/-- unlocked `destroy` of a live entity changes `marked` only -/
theorem destroy_marks_only (w : WM) (t : Nat) (h : Handle) (hl : w.isLocked = false) (hv : w.isValid h = true) :
    w.destroy t h = { w with marked := insertSorted w.marked h } := by
  simp [WM.destroy, hl, hv]

/-- unlocked `destroy` through a handle that is not alive (null, stale, foreign, never issued) does nothing at all -/
theorem destroy_invalid_noop (w : WM) (t : Nat) (h : Handle) (hl : w.isLocked = false) (hv : w.isValid h = false) :
    w.destroy t h = w := by
  simp [WM.destroy, hl, hv]

/-- the observable state does not depend on `marked` -/
theorem marked_unobservable (w : WM) (m : List Handle) (e : Handle) (c : CompId) :
    ({ w with marked := m }).isValid e = w.isValid e ∧
    ({ w with marked := m }).getComp e c = w.getComp e c ∧
    ({ w with marked := m }).hasComp e c = w.hasComp e c ∧
    ({ w with marked := m }).archOf e = w.archOf e ∧
    ({ w with marked := m }).archs = w.archs ∧ ({ w with marked := m }).locs = w.locs ∧
    ({ w with marked := m }).slots = w.slots :=
  ⟨rfl, rfl, rfl, rfl, rfl, rfl, rfl⟩

/-- the loop of `update()` -/
def updFold (info : CompId → CompInfo) (acc : WM × List Cb) (l : List Handle) : WM × List Cb :=
  l.foldl (fun (acc : WM × List Cb) h =>
    let (w', c) := acc.1.destroyNowU info h
    (w', acc.2 ++ c)) acc

theorem update_eq (info : CompId → CompInfo) (w : WM) (hl : w.isLocked = false) :
    w.update info = ({ (updFold info (w, []) w.marked).1 with marked := [] }, .ok,
      (updFold info (w, []) w.marked).2) := by
  simp [WM.update, hl, updFold]

theorem updFold_append (info : CompId → CompInfo) (acc : WM × List Cb) (l₁ l₂ : List Handle) :
    updFold info acc (l₁ ++ l₂) = updFold info (updFold info acc l₁) l₂ := by
  simp [updFold, List.foldl_append]

/-- An entry of the pending-destroy set that is invalid when `update()` reaches it is discarded: the
loop over `pre ++ h :: post` ends in the same state, with the same callbacks, as the loop over
`pre ++ post`. ("invalid at that time" = in the state after the entries before it were processed.) -/
theorem updFold_drop_invalid (info : CompId → CompInfo) (acc : WM × List Cb) (pre post : List Handle)
    (h : Handle) (hv : (updFold info acc pre).1.isValid h = false) :
    updFold info acc (pre ++ h :: post) = updFold info acc (pre ++ post) := by
  rw [updFold_append, updFold_append]
  generalize updFold info acc pre = a at hv
  show updFold info (updFold info a [h]) post = _
  have : updFold info a [h] = a := by
    simp [updFold, destroyNowU_invalid info a.1 h hv]
  rw [this]

theorem updFold_marked (info : CompId → CompInfo) (w : WM) (cbs : List Cb) (m l : List Handle) :
    updFold info ({ w with marked := m }, cbs) l =
      ({ (updFold info (w, cbs) l).1 with marked := m }, (updFold info (w, cbs) l).2) := by
  induction l generalizing w cbs with
  | nil => rfl
  | cons h l ih =>
    simp only [updFold, List.foldl_cons] at ih ⊢
    rw [Proofs.Refine.destroyNowU_setMarked]
    exact ih _ _

/-- `update()` on a state whose pending set contains an entry `h` that is invalid when the loop
reaches it = `update()` on the same state without that entry (same final state, same result, same
callbacks). -/
theorem destroy_invalid_dropped_by_update (info : CompId → CompInfo) (w : WM) (pre post : List Handle)
    (h : Handle) (hl : w.isLocked = false) (hm : w.marked = pre ++ h :: post)
    (hv : (updFold info (w, []) pre).1.isValid h = false) :
    w.update info = ({ w with marked := pre ++ post }).update info := by
  have hl' : ({ w with marked := pre ++ post }).isLocked = false := hl
  rw [update_eq info w hl, update_eq info _ hl', hm]
  simp only [updFold_marked, updFold_drop_invalid info (w, []) pre post h hv]

/-- processing handles with other ids does not revive an invalid handle -/
theorem updFold_keeps_invalid (info : CompId → CompInfo) (h : Handle) (pre : List Handle)
    (acc : WM × List Cb) (hv : acc.1.isValid h = false) (hids : ∀ x ∈ pre, x.id ≠ h.id) :
    (updFold info acc pre).1.isValid h = false := by
  induction pre generalizing acc with
  | nil => exact hv
  | cons x pre ih =>
    have hx : x.id ≠ h.id := hids x (by simp)
    have : updFold info acc (x :: pre) = updFold info (updFold info acc [x]) pre := by
      simp [updFold]
    rw [this]
    apply ih
    · show (acc.1.destroyNowU info x).1.isValid h = false
      rw [(Mustache.Proofs.Rows.destroyNowU_frame info acc.1 x).2.2 h (Ne.symm hx)]; exact hv
    · exact fun y hy => hids y (by simp [hy])

/-- the usual case: `h` is invalid when `update()` starts and no pending entry processed before it
names the same id (entries are ordered by packed value, so e.g. `h` is the only or the
lowest-versioned entry of its id): `update()` = `update()` without the entry -/
theorem destroy_invalid_dropped_by_update_ids (info : CompId → CompInfo) (w : WM) (pre post : List Handle)
    (h : Handle) (hl : w.isLocked = false) (hm : w.marked = pre ++ h :: post)
    (hv : w.isValid h = false) (hids : ∀ x ∈ pre, x.id ≠ h.id) :
    w.update info = ({ w with marked := pre ++ post }).update info :=
  destroy_invalid_dropped_by_update info w pre post h hl hm
    (updFold_keeps_invalid info h pre (w, []) hv hids)

/-- `destroy stale; update` on a state with an empty pending set = `update` alone: nothing at all
happened to the world -/
theorem destroy_invalid_then_update (info : CompId → CompInfo) (w : WM) (t : Nat) (h : Handle)
    (hl : w.isLocked = false) (hv : w.isValid h = false) :
    (w.destroy t h).update info = w.update info := by
  rw [destroy_invalid_noop w t h hl hv]

example : sampleW.marked = [] ∧ sampleW.isValid stale = false := by decide +kernel

example : (sampleW.destroy 0 stale).marked = [] := by decide +kernel
example : ((sampleW.destroy 0 stale).update cat).1.archs.map (·.rows.length) = [0, 0, 1] := by decide +kernel

end Mustache.Props.C09
