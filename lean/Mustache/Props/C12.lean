import Mustache.Proofs.SharedInfo
import Mustache.Proofs.SharedMove

/-!
# C12 — shared components: one instance per distinct value, never lost by other edits

Model side (`Mustache.Model`, tied to component_mask.hpp `SharedComponentsInfo` and entity_manager.cpp
`getCreatedSharedComponent` / `getArchetype` by the world harness): `Shared` (`ids`, `data`),
`Shared.add/remove/merge/get?/has`, `WM.poolGet`, `WM.sassign`, `WM.sremove`, `WM.findArch`, `WM.getArch`.

* `Shared.WF s` : `ids`/`data` aligned, ids duplicate-free and ascending (the canonical descriptor).
* `PoolInv w`   : per shared type no two pooled entries with the same value, none with the same instance,
  instances below `nextInst`, an instance belongs to one shared type.
* `LocAt w e ai i row`: `e` valid (and its id not the null id), `locOf e = ⟨some ai, i⟩`, row `i` of archetype
  `ai` exists and holds `e`; `LocOK w e` = ∃ ai i row, `LocAt` ∧ the row is as wide as the mask (the
  consistency the id-table/location invariant C01/C02 provides).
-/
namespace Mustache.Props.C12
open Mustache.Model

/-- `sharedinfo_aligned`: the empty descriptor is well-formed; `add`, `remove`, `merge` keep a descriptor
well-formed (`merge` for ANY left operand: it only goes through `add`). -/
theorem sharedinfo_aligned :
    Shared.null.WF ∧
    (∀ (s : Shared) (id x : Nat), s.WF → (s.add id x).WF) ∧
    (∀ (s : Shared) (id : Nat), s.WF → (s.remove id).WF) ∧
    (∀ (s oth : Shared), oth.WF → (s.merge oth).WF) :=
  ⟨Shared.wf_null, fun _ id x h => Shared.wf_add id x h, fun _ id h => Shared.wf_remove id h,
   fun s _ h => Shared.wf_merge s h⟩

/-- lookup laws of a well-formed descriptor: `add` sets exactly one type, `remove` clears exactly one,
`merge` lets the left operand win, the builder's `null.merge s` is `s`. -/
theorem sharedinfo_lookup (s : Shared) (h : s.WF) (id x : Nat) :
    (s.add id x).get? id = some x ∧
    (∀ j, j ≠ id → (s.add id x).get? j = s.get? j) ∧
    (s.remove id).get? id = none ∧
    (∀ j, j ≠ id → (s.remove id).get? j = s.get? j) ∧
    (∀ j, (s.add id x).has j = true ↔ j = id ∨ s.has j = true) ∧
    (∀ j, (s.remove id).has j = true ↔ j ≠ id ∧ s.has j = true) ∧
    (∀ j, s.has j = true ↔ (s.get? j).isSome = true) ∧
    (∀ oth : Shared, oth.WF → ∀ j, (s.merge oth).get? j = (match s.get? j with | some v => some v | none => oth.get? j)) ∧
    Shared.null.merge s = s :=
  ⟨Shared.get?_add_self id x h.len, fun _ hj => Shared.get?_add_ne x h.len hj,
   Shared.get?_remove_self id h, fun _ hj => Shared.get?_remove_ne h.len hj,
   fun j => Shared.has_add s id x j, fun j => Shared.has_remove id j h, fun j => Shared.has_iff_get? j h.len,
   fun _ ho j => Shared.get?_merge j h ho.len, Shared.null_merge s⟩

/-- order independence: assigning two different shared types in either order gives the SAME descriptor,
re-assigning a type overwrites, and a well-formed descriptor is determined by its map — so "same shared
values ⇒ same archetype key" does not depend on the order of assignment. -/
theorem sharedinfo_order_independent (s : Shared) (h : s.WF) :
    (∀ i j x y, i ≠ j → (s.add i x).add j y = (s.add j y).add i x) ∧
    (∀ i x y, (s.add i x).add i y = s.add i y) ∧
    (∀ t : Shared, t.WF → (∀ j, s.get? j = t.get? j) → s = t) :=
  ⟨fun _ _ x y hij => Shared.add_comm x y h hij, fun i x y => Shared.add_add_self i x y h,
   fun _ ht hg => Shared.ext_get? h ht hg⟩

/-- non-vacuity: types 2 then 1 or 1 then 2; remove; merge -/
example : (Shared.null.add 2 20).add 1 10 = ⟨[1, 2], [10, 20]⟩ ∧ (Shared.null.add 1 10).add 2 20 = ⟨[1, 2], [10, 20]⟩ ∧
    (⟨[1, 2], [10, 20]⟩ : Shared).WF ∧ ((⟨[1, 2], [10, 20]⟩ : Shared).remove 1).get? 2 = some 20 ∧
    ((⟨[1], [11]⟩ : Shared).merge ⟨[1, 2], [10, 20]⟩) = ⟨[1, 2], [11, 20]⟩ := by
  refine ⟨by decide +kernel, by decide +kernel, ⟨by decide +kernel, by decide +kernel, by decide +kernel⟩, by decide +kernel, by decide +kernel⟩

/-- `one_instance_per_value`: the pool invariant holds initially and is kept by `poolGet` and `freshInst`;
after `poolGet sid v` returned an instance, ANY later `poolGet sid v'` (after any number of further pool
operations, `PoolReach`) returns that same instance iff `v' = v`: equal values ⇒ one instance, different
values ⇒ different instances; the returned instance is pooled under `v` and a pooled value is found again
without changing the state. -/
theorem one_instance_per_value {w : WM} (h : PoolInv w) (sid v : Nat) :
    PoolInv (w.poolGet sid v).1 ∧ PoolInv w.freshInst.1 ∧
    (v, (w.poolGet sid v).2) ∈ poolEntries (w.poolGet sid v).1.pool sid ∧
    (∀ i, (v, i) ∈ poolEntries w.pool sid → w.poolGet sid v = (w, i)) ∧
    (∀ v', ((w.poolGet sid v).1.poolGet sid v').2 = (w.poolGet sid v).2 ↔ v' = v) ∧
    (∀ w', PoolReach (w.poolGet sid v).1 w' → PoolInv w' ∧
      ∀ v', (w'.poolGet sid v').2 = (w.poolGet sid v).2 ↔ v' = v) :=
  ⟨poolGet_inv sid v h, freshInst_inv h, poolGet_mem w sid v, fun _ hm => poolGet_stable h hm,
   fun v' => poolGet_same_iff sid v v' h,
   fun _ hr => ⟨PoolReach.inv (poolGet_inv sid v h) hr, fun v' => one_instance_core sid v v' h hr⟩⟩

theorem pool_invariant_initially : PoolInv {} := poolInv_init

/-- non-vacuity: values 5, 6, 5 of shared type 0 get instances 0, 1, 0 -/
example : (({} : WM).poolGet 0 5).2 = 0 ∧ ((({} : WM).poolGet 0 5).1.poolGet 0 6).2 = 1 ∧
    (((({} : WM).poolGet 0 5).1.poolGet 0 6).1.poolGet 0 5).2 = 0 := by decide +kernel

/-- `shared_edit_frames_components`: for an entity at a consistent location (`LocAt`), `assignShared` and
`removeSharedComponent` leave every component the entity has in place with the same value; the entity then
has exactly `closedMask deps mask` — i.e. exactly its old component set whenever that set is closed under
the current dependency table (always, unless a dependency was declared after the entity got the master) —
and it is again at a consistent location. `sremove` of an absent shared type changes nothing at all. -/
theorem shared_edit_frames_components (info : CompId → CompInfo) {w : WM} {e : Handle} {ai i : Nat} {row : Row}
    (h : LocAt w e ai i row) (hlen : row.vals.length = (w.arch ai).mask.length) (sid v : Nat) :
    ((∀ c, w.hasComp e c = true →
        (w.sassign info e sid v).1.hasComp e c = true ∧ (w.sassign info e sid v).1.getComp e c = w.getComp e c) ∧
     (∀ c, (w.sassign info e sid v).1.hasComp e c = (closedMask w.deps (w.arch ai).mask).contains c) ∧
     (closedMask w.deps (w.arch ai).mask = (w.arch ai).mask →
        ∀ c, (w.sassign info e sid v).1.hasComp e c = w.hasComp e c) ∧
     LocOK (w.sassign info e sid v).1 e) ∧
    ((∀ c, w.hasComp e c = true →
        (w.sremove info e sid).1.hasComp e c = true ∧ (w.sremove info e sid).1.getComp e c = w.getComp e c) ∧
     ((w.arch ai).shared.has sid = false → w.sremove info e sid = (w, false, [])) ∧
     ((w.arch ai).shared.has sid = true →
        ∀ c, (w.sremove info e sid).1.hasComp e c = (closedMask w.deps (w.arch ai).mask).contains c) ∧
     (closedMask w.deps (w.arch ai).mask = (w.arch ai).mask →
        ∀ c, (w.sremove info e sid).1.hasComp e c = w.hasComp e c) ∧
     LocOK (w.sremove info e sid).1 e) := by
  have ha := sassign_post info h hlen sid v
  refine ⟨⟨ha.keep h, ha.has, ha.same h, ha.locOK⟩, ?_⟩
  rcases sremove_post info h hlen sid with ⟨hf, he⟩ | ⟨ht, hp⟩
  · rw [he]
    refine ⟨fun c hc => ⟨hc, rfl⟩, fun _ => rfl, fun hh => ?_, fun _ _ => rfl, ⟨ai, i, row, h, hlen⟩⟩
    rw [hf] at hh; cases hh
  · refine ⟨hp.keep h, fun hh => ?_, fun _ => hp.has, hp.same h, hp.locOK⟩
    rw [ht] at hh; cases hh

/-- a world for the examples: entity ⟨0,0,0⟩ in archetype 0 (components 1 and 3, values 11 and 33) -/
def w0 : WM := { slots := [⟨0, 0⟩], locs := [⟨some 0, 0⟩], archs := [⟨[1, 3], Shared.null, [⟨⟨0, 0, 0⟩, [some 11, some 33]⟩]⟩] }
def info0 : CompId → CompInfo := fun _ => ⟨false, none, none, false, false⟩

example : LocAt w0 ⟨0, 0, 0⟩ 0 0 ⟨⟨0, 0, 0⟩, [some 11, some 33]⟩ ∧ LocOK w0 ⟨0, 0, 0⟩ :=
  ⟨⟨by decide +kernel, by decide +kernel, by decide +kernel, by decide +kernel, rfl⟩,
   ⟨0, 0, ⟨⟨0, 0, 0⟩, [some 11, some 33]⟩, ⟨by decide +kernel, by decide +kernel, by decide +kernel, by decide +kernel, rfl⟩, by decide +kernel⟩⟩

/-- the same for `LocOK w e` (= ∃ archetype, row index, row: `LocAt` and the row as wide as the mask):
    a shared edit keeps `LocOK` and every component with its value -/
theorem shared_edit_frames_components_locOK (info : CompId → CompInfo) {w : WM} {e : Handle} (h : LocOK w e)
    (sid v : Nat) :
    (LocOK (w.sassign info e sid v).1 e ∧ ∀ c, w.hasComp e c = true →
        (w.sassign info e sid v).1.hasComp e c = true ∧ (w.sassign info e sid v).1.getComp e c = w.getComp e c) ∧
    (LocOK (w.sremove info e sid).1 e ∧ ∀ c, w.hasComp e c = true →
        (w.sremove info e sid).1.hasComp e c = true ∧ (w.sremove info e sid).1.getComp e c = w.getComp e c) := by
  obtain ⟨ai, i, row, hl, hlen⟩ := h
  obtain ⟨⟨a1, _, _, a4⟩, ⟨b1, _, _, _, b5⟩⟩ := shared_edit_frames_components info hl hlen sid v
  exact ⟨⟨a4, a1⟩, ⟨b5, b1⟩⟩
/-- the shared assignment moves the entity to a new archetype (index 1) and keeps both values -/
example : ((w0.sassign info0 ⟨0, 0, 0⟩ 7 5).1.locOf ⟨0, 0, 0⟩) = ⟨some 1, 0⟩ ∧
    (w0.sassign info0 ⟨0, 0, 0⟩ 7 5).1.getComp ⟨0, 0, 0⟩ 3 = some (some 33) ∧
    (w0.sassign info0 ⟨0, 0, 0⟩ 7 5).1.hasShared ⟨0, 0, 0⟩ 7 = true ∧
    ((w0.sassign info0 ⟨0, 0, 0⟩ 7 5).1.sremove info0 ⟨0, 0, 0⟩ 7).1.getComp ⟨0, 0, 0⟩ 1 = some (some 11) := by decide +kernel

/-- `findArch_key`: the archetype lookup is keyed by (closed component mask, shared instances).
`getArch` returns an existing archetype (state unchanged) iff one has that key, else appends exactly that
archetype; lookups with equal keys return the same index, and a repeated lookup returns the archetype of
the first without changing the state; archetype keys stay pairwise distinct, so an index is returned
exactly for its key. -/
theorem findArch_key (w : WM) (m : Mask) (sh : Shared) :
    (((w.getArch m sh).1 = w ∧ (w.getArch m sh).2 < w.archs.length) ↔
      ∃ a ∈ w.archs, a.mask = closedMask w.deps m ∧ a.shared.data = sh.data) ∧
    ((∀ a ∈ w.archs, ¬ (a.mask = closedMask w.deps m ∧ a.shared.data = sh.data)) →
      w.getArch m sh = ({ w with archs := w.archs ++ [⟨closedMask w.deps m, sh, []⟩] }, w.archs.length)) ∧
    (((w.getArch m sh).1.arch (w.getArch m sh).2).mask = closedMask w.deps m ∧
      ((w.getArch m sh).1.arch (w.getArch m sh).2).shared.data = sh.data) ∧
    (∀ m' sh', closedMask w.deps m = closedMask w.deps m' → sh.data = sh'.data →
      (w.getArch m sh).2 = (w.getArch m' sh').2 ∧
      (w.getArch m sh).1.getArch m' sh' = ((w.getArch m sh).1, (w.getArch m sh).2)) ∧
    (ArchsDistinct w → ArchsDistinct (w.getArch m sh).1 ∧
      ∀ i, i < w.archs.length → ((w.getArch m sh).2 = i ↔ (w.arch i).key = (closedMask w.deps m, sh.data))) :=
  ⟨getArch_existing_iff w m sh, getArch_new w m sh,
   ⟨(getArch_post w m sh).mask, (getArch_post w m sh).data⟩,
   fun _ _ hm hd => ⟨getArch_same_key w hm hd, getArch_twice w hm hd⟩,
   fun hd => ⟨getArch_distinct hd m sh, fun _ hi => getArch_eq_iff_key hd m sh hi⟩⟩

/-- the key compares instance lists only; it determines the whole descriptor when instances are typed
    (every instance belongs to one shared type, cf. `PoolInv.inst_sid`) -/
theorem key_determines_descriptor (f : Nat → Nat) (s1 s2 : Shared) (h1 : s1.Typed f) (h2 : s2.Typed f)
    (h : s1.data = s2.data) : s1 = s2 := Shared.eq_of_data_eq h1 h2 h

example : ArchsDistinct ({} : WM) := archsDistinct_init
/-- two lookups of [1] with instance 9 of type 4 return archetype 0; another instance gives archetype 1 -/
example : (({} : WM).getArch [1] ⟨[4], [9]⟩).2 = 0 ∧
    ((({} : WM).getArch [1] ⟨[4], [9]⟩).1.getArch [1] ⟨[4], [9]⟩).2 = 0 ∧
    ((({} : WM).getArch [1] ⟨[4], [9]⟩).1.getArch [1] ⟨[4], [8]⟩).2 = 1 := by decide +kernel

end Mustache.Props.C12
