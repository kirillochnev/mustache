import Mustache.Proofs.EventsHist
/-!
# C15 — events reach exactly the current subscribers, once, in any manager

Model: `Mustache.Model.Events` (process-global type-id registry, per-manager slot vectors created on
first use, `weak_ptr`-style receiver homes). Specification: `Mustache.Spec.Events`
(`subs : manager → type → list of receivers`, nothing else).

All theorems quantify over ALL histories `h : List Op` — any number of managers, event types and
receivers, in any order — that stay within the API contract `Legal` (objects named by an op are
alive; `subscribe_` is given a receiver that is not subscribed at that moment).
-/
namespace Mustache.Props.C15
open Mustache.Model.Events
open Mustache.Proofs.Events
open Mustache.Spec.Events (subsAfter)

/-- the history of DESIGN section 5: the second manager meets the two types in the opposite order -/
def sampleHistory : List Op :=
  [.newManager, .subscribeFn 0 0, .subscribeFn 0 1, .newManager, .newReceiver 1, .newReceiver 0,
   .subscribe 1 2, .subscribe 1 3]

/-- a type first seen by the later manager, a post on a type the manager never saw, unsubscribe,
a manager dropped before its receiver, a re-subscription in a third manager -/
def sampleHistory2 : List Op :=
  [.newManager, .newManager, .subscribeFn 1 5, .subscribeFn 0 2, .post 0 5, .subscribeFn 1 2,
   .newReceiver 2, .subscribe 1 3, .unsubscribe 2, .dropManager 0, .dropReceiver 1,
   .newManager, .unsubscribe 3, .subscribe 2 3]


/-- Every output of the model along a legal history — manager / receiver ordinals and the delivery
list of EVERY `post` — is the output of the specification. -/
theorem model_refines_spec (h : List Op) (hl : Legal h) :
    (run h).2 = (Mustache.Spec.Events.run h).2 :=
  (reachable h hl).2.2

example : Legal sampleHistory := by decide +kernel
example : Legal sampleHistory2 := by decide +kernel
example : (run sampleHistory2).2 ≠ [] := by decide +kernel

/-- `post m T` after ANY legal history `h` invokes exactly the receivers subscribed to `(m, T)` at that
moment — the list `subsAfter h m T` of the specification, in subscription order — and nobody else. -/
theorem post_delivers_subscribers (h : List Op) (m : MgrId) (T : TypeName)
    (hl : Legal (h ++ [.post m T])) :
    (run (h ++ [.post m T])).2 = (run h).2 ++ [.delivered (subsAfter h m T)] :=
  run_snoc_out h (.post m T) hl

example : Legal (sampleHistory ++ [.post 1 1]) := by decide +kernel
example : subsAfter sampleHistory 1 1 = [2] := by decide +kernel
example : subsAfter sampleHistory 1 0 = [3] ∧ subsAfter sampleHistory 0 1 = [1] := by decide +kernel
example : (run (sampleHistory ++ [.post 1 1])).2.getLast? = some (.delivered [2]) := by decide +kernel
example : subsAfter sampleHistory2 2 2 = [3] ∧ subsAfter sampleHistory2 1 5 = [0] ∧
    subsAfter sampleHistory2 1 2 = [] := by decide +kernel


/-- nobody is invoked twice -/
theorem each_subscriber_once (h : List Op) (hl : Legal h) (m : MgrId) (T : TypeName) :
    (subsAfter h m T).Nodup := by
  rw [subsAfter_eq_lookup hl]
  exact (reachable h hl).1.nodup m T

/-- Whoever is invoked by `post m T` is a receiver of event type `T` that has not been destroyed, on a
manager that has not been destroyed, and it is subscribed to no other manager and no other type. -/
theorem nobody_else (h : List Op) (hl : Legal h) (m : MgrId) (T : TypeName) (r : Rcv)
    (hr : r ∈ subsAfter h m T) :
    (Mustache.Spec.Events.run h).1.rty r = T ∧ Op.dropReceiver r ∉ h ∧ Op.dropManager m ∉ h ∧
      ∀ m' T', r ∈ subsAfter h m' T' → m' = m ∧ T' = T := by
  rcases reachable h hl with ⟨hI, hS, _⟩
  rw [subsAfter_eq_lookup hl] at hr
  rcases hI.info m T r hr with ⟨ri, hri, hra, hty, _⟩
  refine ⟨(hS.rty r ri hri).trans hty, fun hd => ?_, fun hd => ?_,
    fun m' T' h' => single_home hI hr (subsAfter_eq_lookup hl m' T' ▸ h')⟩
  · -- a destroyed receiver stays dead, a stored one is alive
    rcases dropReceiver_mem_dead hl hd with ⟨ri', hri', hdead⟩
    cases hri'.symm.trans hri
    exact Bool.false_ne_true (hdead.symm.trans hra)
  · -- a destroyed manager stays dead, and a dead manager shows no list
    rcases dropManager_mem_dead hl hd with ⟨mg, hmg, hdead⟩
    rcases mgrAlive_iff.mp (mgrAlive_of_mem_lookup hr) with ⟨mg', hmg', ha⟩
    cases hmg.symm.trans hmg'
    exact Bool.false_ne_true (hdead.symm.trans ha)

example : 2 ∈ subsAfter sampleHistory 1 1 := by decide +kernel

/-- a receiver that has unsubscribed is not invoked (by any manager, for any type) -/
theorem unsubscribed_not_invoked (h : List Op) (r : Rcv) (m : MgrId) (T : TypeName) :
    r ∉ subsAfter (h ++ [.unsubscribe r]) m T := by
  rw [subsAfter_snoc]
  exact not_mem_filter_bne

/-- a destroyed receiver is not invoked -/
theorem destroyed_not_invoked (h : List Op) (r : Rcv) (m : MgrId) (T : TypeName) :
    r ∉ subsAfter (h ++ [.dropReceiver r]) m T := by
  rw [subsAfter_snoc]
  exact not_mem_filter_bne

/-- subscription order: a new subscriber is invoked after all earlier ones, whose order is kept -/
theorem subscription_order (h : List Op) (m : MgrId) (r : Rcv) :
    subsAfter (h ++ [.subscribe m r]) m ((Mustache.Spec.Events.run h).1.rty r) =
      subsAfter h m ((Mustache.Spec.Events.run h).1.rty r) ++ [r] := by
  rw [subsAfter_snoc]
  exact if_pos ⟨rfl, rfl⟩

example : subsAfter (sampleHistory ++ [.subscribeFn 1 1]) 1 1 = [2, 4] := by decide +kernel

/-- The contract of `subscribe_` in terms of the specification: "not in the list of the manager its
`events_` points to" (what `legal` tests on the model state) is "subscribed nowhere". -/
theorem subscribe_contract_means_unsubscribed (h : List Op) (hl : Legal h) (r : Rcv) :
    subscribedAtHome (run h).1 r = false ↔ ∀ m T, r ∉ subsAfter h m T := by
  simp only [subsAfter_eq_lookup hl]
  exact subscribedAtHome_false_iff (reachable h hl).1

example : subscribedAtHome (run sampleHistory2).1 2 = false ∧ subscribedAtHome (run sampleHistory2).1 3 = true := by
  decide +kernel


/-- No operation other than destroying the manager itself shortens a manager's slot table or removes /
nulls a slot that exists — whatever the state, whatever the type ids involved. -/
theorem slots_grow_only (s : State) (op : Op) (m : MgrId) (mg : Mgr)
    (hmg : s.mgrs[m]? = some mg) (hop : op ≠ .dropManager m) :
    ∃ mg', (step s op).1.mgrs[m]? = some mg' ∧ mg'.alive = mg.alive ∧
      mg.slots.length ≤ mg'.slots.length ∧
      ∀ (j : Nat) (l : List Rcv), mg.slots[j]? = some (some l) → ∃ l', mg'.slots[j]? = some (some l') := by
  rcases step_grownIn hmg op hop with ⟨mg', h', hg⟩
  exact ⟨mg', h', hg.alive, hg.length, hg.keeps⟩

/-- the same along a whole history that does not destroy the manager -/
theorem slots_grow_only_history (s : State) (h : List Op) (m : MgrId) (mg : Mgr)
    (hmg : s.mgrs[m]? = some mg) (hno : Op.dropManager m ∉ h) :
    ∃ mg', (runFrom s h).1.mgrs[m]? = some mg' ∧ mg'.alive = mg.alive ∧
      mg.slots.length ≤ mg'.slots.length ∧
      ∀ (j : Nat) (l : List Rcv), mg.slots[j]? = some (some l) → ∃ l', mg'.slots[j]? = some (some l') := by
  rcases run_grownIn h hmg hno with ⟨mg', h', hg⟩
  exact ⟨mg', h', hg.alive, hg.length, hg.keeps⟩

example : (run sampleHistory).1.mgrs[1]? = some ⟨true, [some [3], some [2]]⟩ := by decide +kernel


/-- every state reachable by a legal history satisfies the model invariant
(no slot beyond the registered ids; stored receivers are alive, of the slot's type, homed at the
manager; no duplicates) -/
theorem reachable_wellformed (h : List Op) (hl : Legal h) : Inv (run h).1 :=
  (reachable h hl).1

/-- Along a legal history the model never takes an undefined-behaviour branch — `subscriptions_[id]`
is always in range and non-null when `subscribe_` / `unsubscribe` / `post` dereference it — and never
rejects an operation. -/
theorem model_never_ub (h : List Op) (hl : Legal h) :
    Out.ub ∉ (run h).2 ∧ Out.illegal ∉ (run h).2 := by
  rw [model_refines_spec h hl]
  -- every output of the specification is one of `mgr`, `rcv`, `ok`, `delivered`
  have key : ∀ (t : List Op) (sp : SState) (o : Out), o ∈ (Mustache.Spec.Events.runFrom sp t).2 →
      o ≠ .ub ∧ o ≠ .illegal := by
    intro t
    induction t with
    | nil => intro sp o ho; cases ho
    | cons op t ih =>
      intro sp o ho
      rcases List.mem_cons.mp ho with rfl | ho
      · cases op <;> exact ⟨Out.noConfusion, Out.noConfusion⟩
      · exact ih _ o ho
  exact ⟨fun hm => (key h _ _ hm).1 rfl, fun hm => (key h _ _ hm).2 rfl⟩

end Mustache.Props.C15
