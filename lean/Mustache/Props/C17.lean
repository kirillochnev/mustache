import Mustache.Proofs.Worlds
import Mustache.Proofs.WorldsId
import Mustache.Proofs.WorldsHandle
import Mustache.Driver.Worlds
import Mustache.Props.C16
/-! # C17 — worlds are independent, however many a process creates

Process model: `Model/Worlds.lean` (world-id allocator of the FIXED code + the live worlds, each with its own world model
`WM`). A history is ANY list of process operations (`POp`): worlds built with automatic or explicit ids, bare
`nextWorldId()` calls, destructions, and arbitrary per-world operations, in any order and of any length.
`Proc.run init ops` is the state after the history. -/
namespace Mustache.Props.C17
open Mustache.Model Mustache.Proofs.Worlds Mustache.Proofs.WorldsId Mustache.Proofs.WorldsHandle

def init : Proc := {}

def sampleInfo : CompId → CompInfo := fun _ => ⟨false, none, none, false, false⟩
/-- sample history used by the non-vacuity examples: two worlds, an entity in the first, the first destroyed, a third
    world built (it gets the recycled id 0), a bare `nextWorldId()`, an explicitly numbered world -/
def sampleOps : List POp :=
  [.newAuto true, .newAuto false, POp.ofW sampleInfo 0 (.create 0 [0] []), .drop 0, .newAuto true, .reserve,
   .newExplicit 7 true, POp.ofW sampleInfo 2 (.create 0 [] [])]


/-- an automatically numbered world never shares its id with a world that was alive when it was built — explicitly
    numbered ones included (`worlds` is in creation order) -/
theorem auto_id_fresh (ops : List POp) : (init.run ops).worlds.Pairwise (fun a b => b.auto = true → a.id ≠ b.id) :=
  run_freshIf (· = true) ops init List.Pairwise.nil (fun h => Bool.noConfusion h)

/-- two different live automatically numbered worlds have different ids, after every history -/
theorem live_worlds_distinct_ids (ops : List POp) (a b : WEntry)
    (ha : a ∈ (init.run ops).worlds) (hb : b ∈ (init.run ops).worlds) (hne : a.slot ≠ b.slot)
    (haa : a.auto = true) (hba : b.auto = true) : a.id ≠ b.id :=
  (pairwise_members (auto_id_fresh ops) ha hb hne).elim (fun h => h hba) (fun h e => h haa e.symm)

example : ((init.run sampleOps).worlds.map (fun e => (e.slot, e.id, e.auto))) = [(1, 1, true), (2, 0, true), (3, 7, false)] := by
  decide +kernel

/-- when the caller's explicit ids do not name a live world either, ALL live worlds have different ids -/
theorem all_live_ids_distinct (ops : List POp) (hx : ExplicitFresh init ops) (a b : WEntry)
    (ha : a ∈ (init.run ops).worlds) (hb : b ∈ (init.run ops).worlds) (hne : a.slot ≠ b.slot) : a.id ≠ b.id :=
  (pairwise_members (run_freshIf (fun _ => True) ops init List.Pairwise.nil (fun _ => hx)) ha hb hne).elim
    (fun h => h trivial) (fun h e => h trivial e.symm)

example : ExplicitFresh init sampleOps := by
  simp only [ExplicitFresh, sampleOps, POp.ofW]
  decide +kernel


/-- `nextWorldId()` in ANY state: the id is at most (live worlds + outstanding bare reservations) -/
theorem next_id_le_load (p : Proc) : p.nextWorldId.2 ≤ p.load := nextWorldId_le_load p

/-- if automatically numbered worlds are only built while fewer than 2^10 worlds (plus outstanding bare reservations)
    exist — i.e. at most 2^10 alive at once, no bound on the number ever built — every live automatically numbered world
    has an id below 2^10 -/
theorem auto_id_in_range (ops : List POp) (h : Admissible (2^10) init ops) :
    ∀ e ∈ (init.run ops).worlds, e.auto = true → e.id < 2^10 :=
  run_autoInRange (2^10) ops init (fun _ he => absurd he List.not_mem_nil) h

example : Admissible (2^10) init sampleOps := by
  simp only [Admissible, sampleOps, POp.ofW]
  decide +kernel

def churnOps : Nat → Nat → List POp
  | _, 0 => []
  | k, n + 1 => .newAuto true :: .drop k :: churnOps (k + 1) n

theorem churn_step (k : Nat) :
    (({ reserved := [], worlds := [], nextSlot := k } : Proc).step (.newAuto true)).step (.drop k) =
      { reserved := [], worlds := [], nextSlot := k + 1 } := by
  simp [Proc.step, Proc.nextWorldId, Proc.construct, Proc.destroy, Proc.world?, Proc.liveIds, leastFree, leastFreeFrom]

/-- the hypothesis of `auto_id_in_range` is satisfied by histories of ANY length: n worlds built and destroyed in turn
    (n = 10 000, n = 10^9 …) are admissible, and every one of them gets id 0 -/
theorem churn_admissible (n : Nat) : ∀ k, Admissible (2^10) { reserved := [], worlds := [], nextSlot := k } (churnOps k n) := by
  induction n with
  | zero => intro k; exact trivial
  | succ n ih =>
    intro k
    refine ⟨(by decide : (0 : Nat) < 2^10), ?_⟩
    show Admissible _ ((({ reserved := [], worlds := [], nextSlot := k } : Proc).step (.newAuto true)).step (.drop k)) _
    rw [churn_step]
    exact ih (k + 1)

theorem churn_run (n : Nat) : ∀ k, ({ reserved := [], worlds := [], nextSlot := k } : Proc).run (churnOps k n) =
    { reserved := [], worlds := [], nextSlot := k + n } := by
  induction n with
  | zero => intro k; rfl
  | succ n ih =>
    intro k
    show Proc.run ((({ reserved := [], worlds := [], nextSlot := k } : Proc).step (.newAuto true)).step (.drop k)) _ = _
    rw [churn_step, ih (k + 1), Nat.add_right_comm]
    rfl

/-- the world built after ANY number of build/destroy rounds gets id 0 again -/
theorem id_after_churn (n : Nat) : ((init.run (churnOps 0 n)).nextWorldId).2 = 0 := by
  have : init = ({ reserved := [], worlds := [], nextSlot := 0 } : Proc) := rfl
  rw [this, churn_run]
  rfl


/-- every world's entity manager is stamped with the world's id, after every history of id-preserving operations -/
theorem worlds_stamped (ops : List POp) (hid : IdPreserving ops) : ∀ e ∈ (init.run ops).worlds, e.wm.worldId = e.id :=
  run_stamped ops init (fun _ he => absurd he List.not_mem_nil) hid

/-- every operation of the world model (`WM.step`, the function the single-world checks run against the library) is
    id-preserving, so histories built from them satisfy `IdPreserving` -/
theorem world_ops_preserve_id (info : CompId → CompInfo) (w : WM) (op : Op Handle) : (w.step info op).1.worldId = w.worldId :=
  step_wid info w op

/-- so is every per-world operation the executable model driver (`driver worlds`, the stream diffed against the real
    library) issues: whatever the op line, the bookkeeping and the world, `lineEffect` (the world driver's `step` behind a
    guard on the id) leaves `worldId` alone — the histories the tie runs are inside `IdPreserving` -/
theorem driver_ops_preserve_id (side : Mustache.Driver.World.St) (line : String) (w : WM) :
    (Mustache.Driver.Worlds.lineEffect side line w).worldId = w.worldId := by
  unfold Mustache.Driver.Worlds.lineEffect
  simp only []
  split
  · assumption
  · rfl

example : IdPreserving sampleOps := by
  intro s f hm w
  simp only [sampleOps, POp.ofW, List.mem_cons, reduceCtorEq, false_or, or_false, List.mem_nil_iff, POp.onWorld.injEq] at hm
  rcases hm with ⟨_, rfl⟩ | ⟨_, rfl⟩ <;> exact step_wid _ _ _

/-- own handles: in every live automatically numbered world of an admissible history, an entity created outside a locked
    section gets a handle that (1) carries the world's id, which (2) is below 2^10, and (3) is valid in that world at
    once; (4) when id and version are in their ranges the library reads the handle back from its packed 64-bit value
    unchanged. (`isNull = false` excludes only the all-ones pattern — C16 `max_triple_is_null`.) -/
theorem own_handles_valid (info : CompId → CompInfo) (ops : List POp) (hid : IdPreserving ops)
    (hadm : Admissible (2^10) init ops) (e : WEntry) (he : e ∈ (init.run ops).worlds) (hauto : e.auto = true)
    (t : Nat) (mask : Mask) (sh : Shared) (hl : e.wm.isLocked = false)
    (hnn : (e.wm.create info t mask sh).2.1.isNull = false) :
    (e.wm.create info t mask sh).2.1.world = e.id ∧ e.id < 2^10 ∧
    (e.wm.create info t mask sh).1.isValid (e.wm.create info t mask sh).2.1 = true ∧
    ((e.wm.create info t mask sh).2.1.id < 2^30 → (e.wm.create info t mask sh).2.1.ver < 2^24 →
      (e.wm.create info t mask sh).2.1.seen = (e.wm.create info t mask sh).2.1) := by
  have hst := worlds_stamped ops hid e he
  have hr := auto_id_in_range ops hadm e he hauto
  have hc := create_unlocked info e.wm t mask sh hl hnn
  refine ⟨hc.1.trans hst, hr, hc.2, fun hi hv => seen_eq _ ⟨hi, hv, ?_⟩⟩
  rw [hc.1, hst]; exact hr

example : ∃ e ∈ (init.run sampleOps).worlds, e.auto = true ∧ e.wm.isLocked = false ∧
    (e.wm.create sampleInfo 0 [0] Shared.null).2.1.isNull = false := by
  refine ⟨(init.run sampleOps).worlds[0]'(by decide +kernel), List.getElem_mem _, ?_, ?_, ?_⟩ <;> decide +kernel

/-- the same through the functions GENERATED from the library's own `Entity::reset` / `Entity::worldId` (C16 tie): for a
    live automatically numbered world of an admissible history, packing any in-range id and version with the world's id
    and reading the world field back returns the world's id -/
theorem own_handle_roundtrip (ops : List POp) (hadm : Admissible (2^10) init ops) (e : WEntry)
    (he : e ∈ (init.run ops).worlds) (hauto : e.auto = true) (i v : Nat) (hi : i < 2^30) (hv : v < 2^24) :
    (Mustache.Gen.w_world (Mustache.Gen.w_reset (BitVec.ofNat 32 i) (BitVec.ofNat 32 v) (BitVec.ofNat 32 e.id))).toNat = e.id ∧
    (Mustache.Gen.w_id (Mustache.Gen.w_reset (BitVec.ofNat 32 i) (BitVec.ofNat 32 v) (BitVec.ofNat 32 e.id))).toNat = i ∧
    (Mustache.Gen.w_version (Mustache.Gen.w_reset (BitVec.ofNat 32 i) (BitVec.ofNat 32 v) (BitVec.ofNat 32 e.id))).toNat = v := by
  have hr := auto_id_in_range ops hadm e he hauto
  have small {n k : Nat} (h : n < 2 ^ k) (hk : k ≤ 32) : (BitVec.ofNat 32 n).toNat = n :=
    Nat.mod_eq_of_lt (Nat.lt_of_lt_of_le h (Nat.pow_le_pow_right (by decide) hk))
  have e1 := small hi (by decide)
  have e2 := small hv (by decide)
  have e3 := small hr (by decide)
  have h := Mustache.Props.C16.roundtrip (BitVec.ofNat 32 i) (BitVec.ofNat 32 v) (BitVec.ofNat 32 e.id)
    (e1.symm ▸ hi) (e2.symm ▸ hv) (e3.symm ▸ hr)
  rw [h.1, h.2.1, h.2.2]
  exact ⟨e3, e1, e2⟩


/-- a handle stamped with world A's id is invalid in every simultaneously live world B with a different id -/
theorem foreign_handles_invalid (ops : List POp) (hid : IdPreserving ops) (a b : WEntry)
    (_ha : a ∈ (init.run ops).worlds) (hb : b ∈ (init.run ops).worlds) (hne : a.id ≠ b.id)
    (h : Handle) (hw : h.world = a.id) : b.wm.isValid h = false := by
  apply isValid_foreign
  rw [hw, worlds_stamped ops hid b hb]
  exact hne

/-- no handle is valid in two different live automatically numbered worlds -/
theorem valid_in_one_world_only (ops : List POp) (hid : IdPreserving ops) (a b : WEntry)
    (ha : a ∈ (init.run ops).worlds) (hb : b ∈ (init.run ops).worlds) (hne : a.slot ≠ b.slot)
    (haa : a.auto = true) (hba : b.auto = true) (h : Handle) (hv : a.wm.isValid h = true) : b.wm.isValid h = false := by
  refine foreign_handles_invalid ops hid a b ha hb (live_worlds_distinct_ids ops a b ha hb hne haa hba) h ?_
  rw [isValid_world a.wm h hv, worlds_stamped ops hid a ha]

/-- … so the checked entry points of B ignore it: no component, no archetype, `destroyNow` changes nothing -/
theorem foreign_handle_harmless (info : CompId → CompInfo) (b : WM) (h : Handle) (hv : b.isValid h = false) :
    (∀ c, b.getComp h c = none) ∧ (∀ c, b.hasComp h c = false) ∧ b.archOf h = none ∧ b.destroyNowU info h = (b, []) ∧
    (b.clone h) = (b, none) := by
  refine ⟨fun c => ?_, fun c => ?_, ?_, ?_, ?_⟩
  · simp [WM.getComp, hv]
  · simp [WM.hasComp, hv]
  · simp [WM.archOf, hv]
  · simp [WM.destroyNowU, hv]
  · simp [WM.clone, hv]

example : ∃ a ∈ (init.run sampleOps).worlds, ∃ b ∈ (init.run sampleOps).worlds, a.slot ≠ b.slot ∧ a.auto = true ∧
    b.auto = true ∧ a.wm.isValid ⟨0, 0, a.id⟩ = true := by
  refine ⟨(init.run sampleOps).worlds[1]'(by decide +kernel), List.getElem_mem _,
    (init.run sampleOps).worlds[0]'(by decide +kernel), List.getElem_mem _, ?_, ?_, ?_, ?_⟩ <;> decide +kernel


/-- an operation on world `slot` — whatever it does — leaves every other live world exactly as it was, and does not touch
    the process-global allocator -/
theorem frame (p : Proc) (slot : Nat) (f : WM → WM) :
    (∀ other, other ≠ slot → (p.step (.onWorld slot f)).world? other = p.world? other) ∧
    (p.step (.onWorld slot f)).reserved = p.reserved ∧ (p.step (.onWorld slot f)).nextSlot = p.nextSlot ∧
    (p.step (.onWorld slot f)).world? slot = (p.world? slot).map (fun e => { e with wm := f e.wm }) :=
  ⟨fun other hne => world?_onWorld_ne p slot f other hne, rfl, rfl, world?_onWorld_eq p slot f⟩

/-- destroying a world leaves every other live world exactly as it was -/
theorem frame_drop (p : Proc) (slot other : Nat) (hne : other ≠ slot) :
    (p.step (.drop slot)).world? other = p.world? other := by
  show (p.destroy slot).world? other = _
  unfold Proc.world?
  rw [worlds_destroy, List.find?_filter]
  refine congrArg (fun r => List.find? r p.worlds) (funext fun e => ?_)
  by_cases hs : e.slot = other
  · simp [hs, hne]
  · simp [hs]

/-- building a world (or a bare `nextWorldId()`) leaves every live world exactly as it was -/
theorem frame_new (p : Proc) (other : Nat) (e : WEntry) (h : p.world? other = some e) :
    (∀ s, (p.step (.newAuto s)).world? other = some e) ∧ (∀ i s, (p.step (.newExplicit i s)).world? other = some e) ∧
    (p.step .reserve).world? other = some e :=
  ⟨fun s => world?_construct_old p.nextWorldId.1 _ true s other e h, fun i s => world?_construct_old p i false s other e h, h⟩

/-- frame for whole histories: a history that never addresses world `k` (no operation on it, no destruction of it)
    leaves it exactly as it was, whatever happens to the other worlds and however many are built and destroyed -/
theorem frame_history (ops : List POp) (k : Nat)
    (hk : ∀ op ∈ ops, (∀ f, op ≠ .onWorld k f) ∧ op ≠ .drop k) :
    ∀ (p : Proc) (e : WEntry), p.world? k = some e → (p.run ops).world? k = some e := by
  intro p e h
  refine List.foldlRecOn ops Proc.step (motive := fun q => q.world? k = some e) h (fun q hq op hm => ?_)
  have hop := hk op hm
  cases op with
  | newAuto s => exact (frame_new q k e hq).1 s
  | newExplicit i s => exact (frame_new q k e hq).2.1 i s
  | reserve => exact hq
  | drop slot => exact (frame_drop q slot k (fun hc => hop.2 (by rw [hc]))).trans hq
  | onWorld slot f => exact ((frame q slot f).1 k (fun hc => hop.1 f (by rw [hc]))).trans hq

example : (init.run sampleOps).world? 1 = ((init.run (sampleOps.take 2)).world? 1) := by
  simp only [sampleOps, List.take]
  rfl

/-! ## the unfixed allocator (`LegacyAlloc`): ids are never reused, the 1025th world's handles are rejected -/

theorem legacy_churn (n : Nat) : ∀ k, (⟨[], k⟩ : LegacyAlloc).churn n = (⟨[], k + n⟩, List.range' k n) := by
  induction n with
  | zero => intro k; rfl
  | succ n ih =>
    intro k
    -- with an empty pool the allocator hands out `k` and the release erases nothing
    show (((⟨[], k + 1⟩ : LegacyAlloc).churn n).1, k :: ((⟨[], k + 1⟩ : LegacyAlloc).churn n).2) = _
    rw [ih (k + 1), Nat.add_right_comm]
    rfl

/-- with the unfixed allocator the (k+1)-th world of a process gets id k even when every earlier world is long gone -/
theorem legacy_ids_never_reused (k : Nat) : (({} : LegacyAlloc).churn (k + 1)).2[k]? = some k := by
  rw [show ({} : LegacyAlloc) = ⟨[], 0⟩ from rfl, legacy_churn]
  simp

/-- … so the 1025th world has id 2^10 and rejects the handle of the first entity it creates: the packed handle reads
    back with world 0 and version 1 -/
theorem legacy_1025th_world_rejects_own_handle (shared : Bool) :
    (({} : LegacyAlloc).churn 1025).2[1024]? = some (2^10) ∧
    (freshWM (2^10) shared).allocId.2 = ⟨0, 0, 2^10⟩ ∧
    (freshWM (2^10) shared).allocId.1.isValid (Handle.seen ⟨0, 0, 2^10⟩) = false := by
  refine ⟨legacy_ids_never_reused 1024, rfl, ?_⟩
  apply isValid_foreign
  rw [seen_overflow 0 (by decide)]
  show 0 ≠ 2^10
  decide

end Mustache.Props.C17
