import Mustache.Spec.World
/-! # C03 — every component instance is constructed once and destroyed once (callbacks and counters)

The bookkeeping on the model and the spec that are run against the implementation:
* the callback events the spec demands for a step are exactly one `afterAssign` per attachment and one
  `beforeRemove` per detachment of a callback-bearing component, with the owning entity (`cbDiff_*`);
* the model's count of live instances of a component is the number of (row, component) pairs plus the
  temporaries parked in command buffers (`liveCount_eq`), and the flush of the outermost unlock resets the
  model's counter of parked temporaries (`flush_clears_temps`).
The per-slot construct / move / destroy event order of `archetype.cpp` is the subject of `Props/C03Life.lean`. On the
implementation it is checked by the instrumented component types of `harness/world_driver.cpp` (a per-address
live/dead automaton: construct over live, destroy of dead, use of dead are reported), by the live-instance counts
compared with `liveCount`, and by LeakSanitizer at teardown. -/
namespace Mustache.Props.C03
open Mustache.Model Mustache.Spec

variable (info : CompId → CompInfo)

/-- an event of either kind (`true`: `afterAssign`, `false`: `beforeRemove`) is demanded exactly for the callback-bearing
components that one side of the step has and the other lacks -/
theorem mem_cbDiff (o : Nat) (before after : Mask) (b : Bool) (c : CompId) (o' : Nat) :
    (b, c, o') ∈ cbDiff info o before after ↔
      (o' = o ∧ c ∈ (if b then after else before) ∧ (info c).callbacks = true ∧
        c ∉ (if b then before else after)) := by
  unfold cbDiff
  simp only [List.mem_append, List.mem_map, List.mem_filter, Prod.mk.injEq, Bool.and_eq_true, Bool.not_eq_true',
    List.contains_eq_mem, decide_eq_false_iff_not]
  cases b
  · simp only [Bool.true_eq_false, false_and, and_false, exists_false, false_or, true_and, Bool.false_eq_true, if_false]
    exact ⟨fun ⟨x, h, hx, ho⟩ => hx ▸ ⟨ho.symm, h⟩, fun ⟨ho, h⟩ => ⟨c, h, rfl, ho.symm⟩⟩
  · simp only [Bool.false_eq_true, false_and, and_false, exists_false, or_false, true_and, if_true]
    exact ⟨fun ⟨x, h, hx, ho⟩ => hx ▸ ⟨ho.symm, h⟩, fun ⟨ho, h⟩ => ⟨c, h, rfl, ho.symm⟩⟩

/-- an `afterAssign` event is demanded exactly for the callback-bearing components gained by the step -/
theorem cbDiff_assign_iff (o : Nat) (before after : Mask) (c : CompId) (o' : Nat) :
    (true, c, o') ∈ cbDiff info o before after ↔
      (o' = o ∧ c ∈ after ∧ (info c).callbacks = true ∧ c ∉ before) :=
  mem_cbDiff info o before after true c o'

/-- a `beforeRemove` event is demanded exactly for the callback-bearing components lost by the step -/
theorem cbDiff_remove_iff (o : Nat) (before after : Mask) (c : CompId) (o' : Nat) :
    (false, c, o') ∈ cbDiff info o before after ↔
      (o' = o ∧ c ∈ before ∧ (info c).callbacks = true ∧ c ∉ after) :=
  mem_cbDiff info o before after false c o'

/-- exactly once: with duplicate-free component sets no event is demanded twice -/
theorem cbDiff_nodup (o : Nat) (before after : Mask) (hb : before.Nodup) (ha : after.Nodup) :
    (cbDiff info o before after).Nodup := by
  unfold cbDiff
  rw [List.nodup_append]
  refine ⟨?_, ?_, ?_⟩
  · exact List.Pairwise.map _ (fun a b (h : a ≠ b) => by simpa using h) (ha.filter _)
  · exact List.Pairwise.map _ (fun a b (h : a ≠ b) => by simpa using h) (hb.filter _)
  · intro x hx y hy
    simp only [List.mem_map] at hx hy
    rcases hx with ⟨_, _, rfl⟩; rcases hy with ⟨_, _, rfl⟩
    simp

example : cbDiff (fun c => ⟨true, some 5, none, c == 5, false⟩) 3 [1, 5] [1] = [(false, 5, 3)] := by decide
example : cbDiff (fun c => ⟨true, some 5, none, c == 5, false⟩) 3 [1] [1, 5, 7] = [(true, 5, 3)] := by decide

/-- live instances of a component in the model: one per row of every archetype having it, plus parked temporaries -/
theorem liveCount_eq (w : WM) (c : CompId) :
    w.liveCount c =
      (w.archs.foldl (fun n a => if a.mask.contains c then n + a.rows.length else n) 0) +
      (match w.temps.find? (·.1 == c) with | some (_, k) => k | none => 0) := rfl

/-- the flush of the outermost unlock resets the model's counter of parked temporaries (`WM.temps`). That the
command buffers are emptied is `Rows.flush_ctl`; that every parked temporary has been consumed or destroyed by
then is `C03Life.flush_events_accepted`. -/
theorem flush_clears_temps (w : WM) : (w.flush info).1.temps = [] := by
  unfold WM.flush; rfl

theorem unlock_outermost_clears_temps (w : WM) (h : w.lockDepth ≤ 1) : (w.unlock info).1.temps = [] := by
  unfold WM.unlock
  by_cases h0 : w.lockDepth > 0
  · have : w.lockDepth - 1 = 0 := by omega
    simp [h0, this, flush_clears_temps]
  · have : w.lockDepth = 0 := by omega
    simp [this, flush_clears_temps]

example : ({ lockDepth := 1, temps := [(1, 2)] } : WM).lockDepth ≤ 1 := by decide

end Mustache.Props.C03
