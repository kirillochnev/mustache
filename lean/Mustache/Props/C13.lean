import Mustache.Proofs.ClosureSpec
import Mustache.Proofs.PackMask
import Mustache.Model.WorldStep

/-!
# C13 — declared component dependencies always hold

Model side (`Mustache.Model`, tied to /repo/src/mustache/ecs/entity_manager.cpp by the world harness):
`depsOf`, `closureRound`, `closureLoop` (the do-while loop of `getExtraComponents`, fuel 130),
`extraComponents`, `addDependency`, `WM.getArch`.  Spec side (`Mustache.Spec`): `closed`, `WS.doCreate`,
`WS.doAssign`, `WS.doBuild`, `WS.doBuildNew`, `WS.applyCmd`, `WS.doRemove`.

`DepsBounded deps` (decidable): every stored dependency mask only mentions ids < 128, the width of
`ComponentIdMask`.  It is kept by `addDependency` for dependents < 128 (`Model.addDependency_bounded`).
No acyclicity hypothesis anywhere: chains, diamonds and cycles are covered alike.

Late declarations: a declaration made after an entity exists does not touch that entity (neither in the
code nor in WM/WS), so the removal theorems ask that the entity's component set is closed under the
current table (`EntClosed`); every record produced by create / assign / builder / deferred command is
(`entClosed_of_gain`).
-/
namespace Mustache.Props.C13
open Mustache.Model Mustache.Spec

/-- `closure_lfp`: for every dependency table within the mask width and EVERY requested mask `m`
(a) the fuel of the loop suffices — the result is a fixpoint of the round (one more round changes
nothing) and any larger fuel gives the same list; (b) `closed deps m` contains `m`, (c) is closed under
`deps`, (d) is the least such mask. -/
theorem closure_lfp (deps : List (CompId × Mask)) (hb : DepsBounded deps) (m : Mask) :
    (closureRound deps (extraComponents deps m) (extraComponents deps m) = extraComponents deps m ∧
      ∀ k, closureLoop deps (130 + k) [] m = closureLoop deps 130 [] m) ∧
    (∀ x ∈ m, x ∈ closed deps m) ∧
    (∀ c ∈ closed deps m, ∀ d ∈ depsOf deps c, d ∈ closed deps m) ∧
    (∀ S : Mask, (∀ x ∈ m, x ∈ S) → (∀ c ∈ S, ∀ d ∈ depsOf deps c, d ∈ S) → ∀ x ∈ closed deps m, x ∈ S) :=
  ⟨⟨(extraComponents_post hb m).fix, extraComponents_fuel hb m⟩,
   fun _ hx => subset_closedMask hx,
   closedMask_closed hb m,
   fun _ hm hS => closedMask_least hS hm⟩

/-- idempotent (as a set for any list, as the very same list for a sorted mask) and monotone -/
theorem closure_idempotent_monotone (deps : List (CompId × Mask)) (hb : DepsBounded deps) (m : Mask) :
    (∀ x, x ∈ closed deps (closed deps m) ↔ x ∈ closed deps m) ∧
    (m.Pairwise (· < ·) → closed deps (closed deps m) = closed deps m) ∧
    (∀ m' : Mask, (∀ x ∈ m, x ∈ m') → ∀ x ∈ closed deps m, x ∈ closed deps m') :=
  ⟨closedMask_idem_mem hb m, fun hs => closedMask_idem hb hs, fun _ h => closedMask_mono hb h⟩

/-- a chain 0→1→2, a diamond 0→{1,2}→3 and a 2-cycle 0⇄1 -/
def chain : List (CompId × Mask) := [(0, [1]), (1, [2])]
def diamond : List (CompId × Mask) := [(0, [1, 2]), (1, [3]), (2, [3])]
def cycle2 : List (CompId × Mask) := [(0, [1]), (1, [0])]

example : DepsBounded chain ∧ DepsBounded diamond ∧ DepsBounded cycle2 := by decide +kernel
example : closed chain [0] = [0, 1, 2] ∧ closed chain [1] = [1, 2] := by decide +kernel
example : closed diamond [0] = [0, 1, 2, 3] ∧ closed diamond [2] = [2, 3] := by decide +kernel
example : closed cycle2 [0] = [0, 1] ∧ closed cycle2 [1] = [0, 1] ∧ closed cycle2 [5] = [5] := by decide +kernel
/-- the hypothesis is needed: ids ≥ 128 do not fit a mask -/
example : ¬ DepsBounded [(0, [128])] := by decide +kernel

/-- `addDependency_stores_closure`: the declaration `m requires extra` stores exactly
old ∪ extra ∪ closure(extra) for `m` and leaves every other entry as it was. -/
theorem addDependency_stores_closure (deps : List (CompId × Mask)) (m : CompId) (extra : Mask) :
    (∀ x, x ∈ depsOf (addDependency deps m extra) m ↔
        x ∈ depsOf deps m ∨ x ∈ extra ∨ x ∈ extraComponents deps extra) ∧
    (∀ k, k ≠ m → depsOf (addDependency deps m extra) k = depsOf deps k) ∧
    (DepsBounded deps → (∀ x ∈ extra, x < 128) → DepsBounded (addDependency deps m extra)) :=
  ⟨fun x => by rw [depsOf_addDependency, if_pos rfl]; exact mem_storedDeps,
   fun k hk => by rw [depsOf_addDependency, if_neg hk],
   fun hb he => addDependency_bounded hb m he⟩

/-- declaring 0→1 after 1→2: the stored mask of 0 is {1,2}; declaring 1→2 after 0→1 leaves 0 alone
    (the closure loop, not the table, makes it transitive) -/
example : depsOf (addDependency [(1, [2])] 0 [1]) 0 = [1, 2] ∧
    depsOf (addDependency [(0, [1])] 1 [2]) 0 = [1] ∧
    closed (addDependency [(0, [1])] 1 [2]) [0] = [0, 1, 2] := by decide +kernel

/-- `archetype_masks_closed`: the archetype `getArch` returns (found or created) has exactly the closure of
the requested mask: it contains the request and is closed under the current table, which `getArch`
does not change; and a world whose archetype masks are all closed stays so. -/
theorem archetype_masks_closed (w : WM) (hb : DepsBounded w.deps) (mask : Mask) (sh : Shared) :
    (w.getArch mask sh).1.deps = w.deps ∧
    ((w.getArch mask sh).1.arch (w.getArch mask sh).2).mask = closed w.deps mask ∧
    (∀ c ∈ ((w.getArch mask sh).1.arch (w.getArch mask sh).2).mask,
      ∀ d ∈ depsOf (w.getArch mask sh).1.deps c, d ∈ ((w.getArch mask sh).1.arch (w.getArch mask sh).2).mask) ∧
    (∀ c ∈ mask, c ∈ ((w.getArch mask sh).1.arch (w.getArch mask sh).2).mask) ∧
    ((∀ a ∈ w.archs, ∀ c ∈ a.mask, ∀ d ∈ depsOf w.deps c, d ∈ a.mask) →
      ∀ a ∈ (w.getArch mask sh).1.archs, ∀ c ∈ a.mask, ∀ d ∈ depsOf (w.getArch mask sh).1.deps c, d ∈ a.mask) := by
  have hm := (getArch_post w mask sh).mask
  have hd := (Mustache.Proofs.Rows.getArch_sameTable w mask sh).deps
  refine ⟨hd, hm, ?_, ?_, fun h => getArch_archsClosed hb h mask sh⟩
  · rw [hd, hm]; exact closedMask_closed hb mask
  · rw [hm]; exact fun _ hc => subset_closedMask hc

example : (({ deps := diamond } : WM).getArch [0] Shared.null).2 = 0 ∧
    ((({ deps := diamond } : WM).getArch [0] Shared.null).1.arch 0).mask = [0, 1, 2, 3] := by decide +kernel

/-- `gain_master_has_dependents`: after any of the six ways entity `o` can gain components in WS
(`GainStep`: create, assign, builder edit, builder create, deferred create, deferred assign) the entity is
alive, the table is unchanged, and (`GainPost`) every component `m` it has now and lacked before comes
with every member of `closed deps [m]` — all direct and transitive dependents declared so far —, every
new component carries the supplied value or else `defaultVal`, and components it keeps keep their value. -/
theorem gain_master_has_dependents (info : CompId → CompInfo) {s s' : WS} (hb : DepsBounded s.deps) {o : Nat}
    {old given : List (CompId × Val)} (h : GainStep info s s' o old given) :
    ∃ e', s'.alive o = some e' ∧ s'.deps = s.deps ∧
      (∀ m ∈ compSet e', m ∉ old.map (·.1) → ∀ d ∈ closed s.deps [m], d ∈ compSet e') ∧
      (∀ d ∈ compSet e', d ∉ old.map (·.1) → compVal e' d = some (givenOrDefault info given d)) ∧
      (∀ d ∈ compSet e', d ∈ old.map (·.1) → d ∉ given.map (·.1) → compVal e' d = lookupC old d) := by
  obtain ⟨e', h1, h2, h3⟩ := gainStep_post info hb h
  exact ⟨e', h1, h2, h3.dependents, h3.constructed, h3.kept⟩

/-- exact component sets after each gaining step (the closure of what was asked for) -/
theorem gain_component_sets (info : CompId → CompInfo) (s : WS) (hb : DepsBounded s.deps) :
    (∀ mask sh, ∃ e', (s.doCreate info mask sh).1.alive s.ents.length = some e' ∧
        (s.doCreate info mask sh).2.1 = s.ents.length ∧ compSet e' = closed s.deps mask ∧ e'.shared = sh) ∧
    (∀ o c v e, s.alive o = some e → ∃ e', (s.doAssign info o c v).1.alive o = some e' ∧ e'.shared = e.shared ∧
        compSet e' = (if c ∈ compSet e then compSet e else closed s.deps (Mask.insert (compSet e) c)) ∧
        (c ∈ compSet e → compVal e' c = some v)) ∧
    (∀ o adds rems e s' cbs, s.alive o = some e → s.doBuild info o adds rems = some (s', cbs) →
        ∃ e', s'.alive o = some e' ∧ e'.shared = e.shared ∧
        compSet e' = closed s.deps (Mask.diff (Mask.union (Mask.ofList (adds.map (·.1))) (compSet e)) rems)) := by
  refine ⟨fun mask sh => doCreate_compSet info s mask sh, ?_, ?_⟩
  · intro o c v e he
    obtain ⟨e', h1, h2, _, h3, h4⟩ := doAssign_post info hb c v he
    exact ⟨e', h1, h2, h3, h4⟩
  · intro o adds rems e s' cbs he hs
    obtain ⟨e', h1, _, h2, _, h3⟩ := doBuild_post info hb he hs
    exact ⟨e', h1, h2, h3⟩

/-- every record a gaining step produces from a sorted request is sorted and closed (`EntClosed`) -/
theorem entClosed_of_gain (deps : List (CompId × Mask)) (hb : DepsBounded deps) (X : Mask)
    (hs : X.Pairwise (· < ·)) (e : SEnt) (h : compSet e = closed deps X) : EntClosed deps e :=
  entClosed_of_closed hb hs h

/-- a component catalogue for the examples: component 3 is default-constructed to token 7 -/
def info0 : CompId → CompInfo := fun c => ⟨c == 3, some 7, none, false, false⟩

/-- non-vacuity: create [0] under the diamond gives {0,1,2,3} with 3 default-constructed (token 7);
    assigning 0 := 42 to an entity {5} under the chain gives {0,1,2,5} with 0 = 42;
    a deferred create under the 2-cycle of [1] gives {0,1} -/
example :
    ((({ deps := diamond } : WS).doCreate info0 [0] []).1.alive 0).map (·.comps) =
      some [(0, none), (1, none), (2, none), (3, some 7)] ∧
    ((({ deps := chain, ents := [some ⟨[(5, some 1)], []⟩] } : WS).doAssign info0 0 0 (some 42)).1.alive 0).map (·.comps) =
      some [(0, some 42), (1, none), (2, none), (5, some 1)] ∧
    ((({ deps := cycle2, ents := [none] } : WS).applyCmd info0 (.create 0 [1] [])).1.alive 0).map (·.comps) =
      some [(0, none), (1, none)] ∧
    (((({ deps := diamond, ents := [some ⟨[(5, some 1)], []⟩] } : WS).doBuild info0 0 [(1, some 9)] [5]).map
        (fun r => (r.1.alive 0).map (·.comps))) = some (some [(1, some 9), (3, some 7)])) := by decide +kernel

example : GainStep info0 ({ deps := diamond } : WS) (({ deps := diamond } : WS).doCreate info0 [0] []).1 0 [] [] :=
  GainStep.create [0] []

/-- `remove_dependent_noop`: removing a direct or transitive dependent `c` of a master `m` the entity has
leaves the whole spec state unchanged and fires no callback (entity record sorted and closed under the
current table, as every gaining step leaves it). -/
theorem remove_dependent_noop (info : CompId → CompInfo) {s : WS} (hb : DepsBounded s.deps) {o : Nat} {e : SEnt}
    (he : s.alive o = some e) (hok : EntClosed s.deps e) {m c : CompId} (hm : m ∈ compSet e) (hne : m ≠ c)
    (hc : c ∈ closed s.deps [m]) : s.doRemove info o c = (s, []) :=
  doRemove_dependent_noop info hb he hok hm hne hc

/-- chain 0→1→2, entity {0,1,2}: removing 2 (transitive dependent of 0) or 1 changes nothing -/
example : EntClosed chain ⟨[(0, none), (1, none), (2, none)], []⟩ ∧ (2 : Nat) ∈ closed chain [0] ∧
    (((({ deps := chain, ents := [some ⟨[(0, none), (1, none), (2, none)], []⟩] } : WS).doRemove info0 0 2).1.alive 0).map
      (·.comps) = some [(0, none), (1, none), (2, none)]) := by
  refine ⟨⟨by decide +kernel, by decide +kernel⟩, by decide +kernel, by decide +kernel⟩

/-- `remove_master_keeps_dependents`: removing a present component `m` leaves the entity with exactly
`closed deps (set − m)`, a superset of `set − m`: every other component is still there with its value
(the dependents stay; `m` itself stays only if something left requires it); the shared part is untouched. -/
theorem remove_master_keeps_dependents (info : CompId → CompInfo) {s : WS} {o : Nat} {e : SEnt}
    (he : s.alive o = some e) {m : CompId} (hm : m ∈ compSet e) :
    ∃ e', (s.doRemove info o m).1.alive o = some e' ∧ (s.doRemove info o m).1.deps = s.deps ∧
      e'.shared = e.shared ∧
      compSet e' = closed s.deps (Mask.erase (compSet e) m) ∧
      (∀ d ∈ compSet e, d ≠ m → d ∈ compSet e' ∧ compVal e' d = compVal e d) := by
  obtain ⟨e', h1, h2, h3, h4⟩ := doRemove_post info he hm
  exact ⟨e', h1, doRemove_deps info s o m, h2, h3, h4⟩

/-- chain 0→1→2, entity {0,1,2} with values: removing the master 0 keeps 1 and 2 and their values -/
example : ((({ deps := chain, ents := [some ⟨[(0, some 4), (1, some 5), (2, some 6)], []⟩] } : WS).doRemove info0 0 0).1.alive 0).map
    (·.comps) = some [(1, some 5), (2, some 6)] := by decide +kernel

/-! ## deferred command packs on archetypes that predate a declaration

`seqMask deps m cmds` (`Mustache.Proofs.PackMask`): fold of `seqMaskStep`, the effect of the matching immediate
operation on a component set — `assign c`: `m` if `c ∈ m`, else `closedMask deps (m ∪ {c})`; `remove c`:
`closedMask deps (m − {c})` if `c ∈ m`, else `m`; `destroy`: `m`.  `HasMask w e m`: `e`'s location names an
existing archetype of `w` whose mask is `m`.  None of the theorems below assumes that archetype masks are closed
under `w.deps`: the entity's archetype may have been created before a dependency was declared. -/
section PackMask
open Mustache.Proofs.PackMask Mustache.Proofs.Rows

/-- `pack_final_eq_seqMask`: the component set `applyCommandPack` folds over a pack without creation / immediate
destruction is `seqMask w.deps m pack`, from ANY start mask `m`; the pack stays alive and the table is unchanged. -/
theorem pack_final_eq_seqMask (info : CompId → CompInfo) (e : Handle) (w : WM) (m : Mask) (pack : List Cmd)
    (hp : ∀ c ∈ pack, plainCmd c = true) :
    (pack.foldl (packStep info e false) (w, { final := m }, [])).2.1.final = seqMask w.deps m pack ∧
    (pack.foldl (packStep info e false) (w, { final := m }, [])).2.1.dead = false ∧
    (pack.foldl (packStep info e false) (w, { final := m }, [])).1.deps = w.deps :=
  Mustache.Proofs.PackMask.pack_final_eq_seqMask info e w m pack hp

/-- `immediate_ops_mask`: on the unlocked world, for an entity located in the existing archetype `pi`
(mask `m = (w.arch pi).mask`, any list): `assign<C>(e)` of an absent `c` leaves it in an archetype with mask
`closedMask w.deps (m ∪ {c})`, `removeComponent<C>(e)` of a valid `e` in one with mask `closedMask w.deps (m − {c})`
if `c ∈ m` and `m` otherwise — also when `getArchetype` returns the entity's own archetype and nothing moves.
(An `assign` of a PRESENT component — outside the API contract — gives `closedMask w.deps m`: first conjunct.) -/
theorem immediate_ops_mask (info : CompId → CompInfo) (w : WM) (t : Nat) (e : Handle) (c : CompId) (pi idx : Nat)
    (hul : w.isLocked = false) (hn : e.id ≠ nullId) (hloc : w.locOf e = ⟨some pi, idx⟩)
    (hpi : pi < w.archs.length) :
    (∀ v, HasMask (w.assign info t e c v).1 e (closedMask w.deps (Mask.insert (w.arch pi).mask c))) ∧
    (c ∉ (w.arch pi).mask →
      ∀ v, HasMask (w.assign info t e c v).1 e (seqMaskStep w.deps (w.arch pi).mask (.assign e c v))) ∧
    (w.isValid e = true →
      HasMask (w.removeComp info t e c).1 e (seqMaskStep w.deps (w.arch pi).mask (.remove e c))) :=
  ⟨fun v => (immediate_assign_closed info w t e c v pi idx hul hn hloc).1,
   fun hc v => (immediate_assign_mask info w t e c v pi idx hul hn hloc hc).1,
   fun hv => (immediate_remove_mask info w t e c pi idx hul hv hn hloc hpi).1⟩

/-- `deferred_pack_mask`: a pack of assigns / removes / destroy marks (no creation, no `destroyNow`) applied to
an existing valid entity `e` located in archetype `pi` with sorted mask `m` — closed under `w.deps` or not —
leaves `e` valid, the table unchanged, and `e` in an archetype whose mask is exactly `seqMask w.deps m pack`;
and if that differs from `m` it is closed under the current table. -/
theorem deferred_pack_mask (info : CompId → CompInfo) (w : WM) (e : Handle) (pack : List Cmd) (pi idx : Nat)
    (hb : DepsBounded w.deps) (hv : w.isValid e = true) (hn : e.id ≠ nullId)
    (hloc : w.locOf e = ⟨some pi, idx⟩) (hpi : pi < w.archs.length) (hs : (w.arch pi).mask.Pairwise (· < ·))
    (hent : ∀ c ∈ pack, c.entity = e) (hp : ∀ c ∈ pack, plainCmd c = true) :
    HasMask (w.applyPack info pack).1 e (seqMask w.deps (w.arch pi).mask pack) ∧
    (w.applyPack info pack).1.isValid e = true ∧ (w.applyPack info pack).1.deps = w.deps ∧
    (seqMask w.deps (w.arch pi).mask pack ≠ (w.arch pi).mask →
      ∀ c ∈ seqMask w.deps (w.arch pi).mask pack, ∀ d ∈ depsOf w.deps c,
        d ∈ seqMask w.deps (w.arch pi).mask pack) :=
  have h := Mustache.Proofs.PackMask.deferred_pack_mask info w e pack pi idx hb hv hn hloc hpi hs hent hp
  ⟨h.1, h.2.1, h.2.2, seqMask_closedUnder_of_ne hb pack hs⟩

/-- `deferred_pack_mask_eq_immediate`: the deferred path gives the entity exactly the component set that issuing
the same commands immediately, one by one (`immRun`: unlocked `assign` / `removeComponent` / `destroy` calls), gives
— for every dependency table within the mask width and every sorted start mask, including archetypes that predate
a declaration. Side condition `hre`: the start mask is closed, or no assign names a component of the start mask
(an immediate `assign` of a present component looks the archetype of `m` up again and so closes an unclosed `m`;
the pack does not — see the example below). -/
theorem deferred_pack_mask_eq_immediate (info : CompId → CompInfo) (t : Nat) (w : WM) (e : Handle)
    (pack : List Cmd) (pi idx : Nat) (hb : DepsBounded w.deps) (hul : w.isLocked = false)
    (hv : w.isValid e = true) (hn : e.id ≠ nullId) (hloc : w.locOf e = ⟨some pi, idx⟩)
    (hpi : pi < w.archs.length) (hs : (w.arch pi).mask.Pairwise (· < ·))
    (hent : ∀ c ∈ pack, c.entity = e) (hp : ∀ c ∈ pack, plainCmd c = true)
    (hre : closedMask w.deps (w.arch pi).mask = (w.arch pi).mask ∨
      ∀ e' c v, Cmd.assign e' c v ∈ pack → c ∉ (w.arch pi).mask) :
    HasMask (w.applyPack info pack).1 e (seqMask w.deps (w.arch pi).mask pack) ∧
    HasMask (immRun info t w pack) e (seqMask w.deps (w.arch pi).mask pack) ∧
    maskOf (w.applyPack info pack).1 e = maskOf (immRun info t w pack) e :=
  have h := deferred_eq_immediate info t w e pack pi idx hb hul hv hn hloc hpi hs hent hp hre
  ⟨h.1, h.2, h.1.maskOf.trans h.2.maskOf.symm⟩

/-- the world of the examples: `7 requires 3` declared up front, an entity with components {2,3,5}, and then
`3 requires 7` declared late: the entity's archetype [2,3,5] is no longer closed under the table -/
def lateOps : List (Op Handle) := [.dep 7 [3], .create 0 [2, 3, 5] [], .dep 3 [7]]
def lateW : WM := lateOps.foldl (fun w op => (w.step info0 op).1) {}
def lateE : Handle := ⟨0, 0, 0⟩

/-- every hypothesis of the theorems holds in `lateW` for `lateE` (archetype 0, row 0), and its archetype mask is
NOT closed: 3 is there, its late dependent 7 is not -/
example : DepsBounded lateW.deps ∧ lateW.isLocked = false ∧ lateW.isValid lateE = true ∧ lateE.id ≠ nullId ∧
    lateW.locOf lateE = ⟨some 0, 0⟩ ∧ 0 < lateW.archs.length ∧ (lateW.arch 0).mask = [2, 3, 5] ∧
    (lateW.arch 0).mask.Pairwise (· < ·) ∧ lateW.deps = [(7, [3]), (3, [3, 7])] ∧
    closedMask lateW.deps (lateW.arch 0).mask = [2, 3, 5, 7] := by
  refine ⟨by decide +kernel, by decide +kernel, by decide +kernel, by decide +kernel, by decide +kernel,
    by decide +kernel, by decide +kernel, by decide +kernel, by decide +kernel, by decide +kernel⟩

/-- deferred `assign<7>`: {2,3,5,7}; deferred `assign<9>`: {2,3,5,7,9} (7 caught up with); deferred `remove<2>`:
{3,5,7}; assign 9, remove 9, remove 7: {2,3,5,7} (7 comes back as dependent of 3) — the model computes what
`seqMask` says, and the immediate calls give the same -/
example :
    maskOf (lateW.applyPack info0 [.assign lateE 7 (some 9)]).1 lateE = some [2, 3, 5, 7] ∧
    seqMask lateW.deps [2, 3, 5] [.assign lateE 7 (some 9)] = [2, 3, 5, 7] ∧
    maskOf (lateW.applyPack info0 [.assign lateE 9 (some 9)]).1 lateE = some [2, 3, 5, 7, 9] ∧
    maskOf (lateW.applyPack info0 [.remove lateE 2]).1 lateE = some [3, 5, 7] ∧
    maskOf (lateW.applyPack info0 [.assign lateE 9 (some 9), .remove lateE 9, .remove lateE 7]).1 lateE =
      some [2, 3, 5, 7] ∧
    maskOf (immRun info0 0 lateW [.assign lateE 9 (some 9), .remove lateE 9, .remove lateE 7]) lateE =
      some [2, 3, 5, 7] ∧
    maskOf (immRun info0 0 lateW [.assign lateE 7 (some 9)]) lateE = some [2, 3, 5, 7] := by
  refine ⟨by decide +kernel, by decide +kernel, by decide +kernel, by decide +kernel, by decide +kernel,
    by decide +kernel, by decide +kernel⟩

/-- the theorem applied to the concrete world (all hypotheses decided) -/
example : HasMask (lateW.applyPack info0 [.assign lateE 7 (some 9)]).1 lateE [2, 3, 5, 7] ∧
    HasMask (immRun info0 0 lateW [.assign lateE 7 (some 9)]) lateE [2, 3, 5, 7] := by
  have h := deferred_pack_mask_eq_immediate info0 0 lateW lateE [.assign lateE 7 (some 9)] 0 0
    (by decide +kernel) (by decide +kernel) (by decide +kernel) (by decide +kernel) (by decide +kernel)
    (by decide +kernel) (by decide +kernel) (by decide +kernel) (by decide +kernel)
    (Or.inr (fun e' c v h => by rw [List.mem_singleton] at h; cases h; decide))
  have hm : seqMask lateW.deps (lateW.arch 0).mask [.assign lateE 7 (some 9)] = [2, 3, 5, 7] := by decide +kernel
  rw [hm] at h
  exact ⟨h.1, h.2.1⟩

/-- through the API: lock, deferred `assign<7>`, unlock on the late-declaration world gives {2,3,5,7} -/
example : maskOf ((lateOps ++ [Op.lock, Op.assign 0 lateE 7 (some 9), Op.unlock]).foldl
    (fun w op => (w.step info0 op).1) ({} : WM)) lateE = some [2, 3, 5, 7] := by decide +kernel

/-- the side condition `hre` is needed: re-assigning the present component 3 on the unclosed archetype {2,3,5}
leaves {2,3,5} when deferred, but the immediate call looks {2,3,5} up again and lands in {2,3,5,7} -/
example : maskOf (lateW.applyPack info0 [.assign lateE 3 (some 1)]).1 lateE = some [2, 3, 5] ∧
    maskOf (immRun info0 0 lateW [.assign lateE 3 (some 1)]) lateE = some [2, 3, 5, 7] := by
  refine ⟨by decide +kernel, by decide +kernel⟩

end PackMask

end Mustache.Props.C13
