import Mustache.Proofs.BitPack
/-! # C16 — handle packing is lossless for every id, version and world in range

All statements are about `Mustache.Gen.*`: the definitions regenerated on every run by
`tools/ir2lean.py` from the LLVM IR of thin wrappers around the real inline functions of
`/repo/src/mustache/ecs/entity.hpp` and `id_deff.hpp`. A changed shift, mask or field width in the
source changes those definitions and the theorems below stop checking.
Quantifiers are over ALL bit-vector arguments (2^64 patterns / all 32-bit arguments). -/
namespace Mustache.Props.C16
open Mustache.Gen Mustache.Proofs.BitPack

/-- reading the three fields back from a packed in-range triple returns the triple -/
theorem roundtrip (i v w : BitVec 32) (hi : i.toNat < 2^30) (hv : v.toNat < 2^24) (hw : w.toNat < 2^10) :
    w_id (w_reset i v w) = i ∧ w_version (w_reset i v w) = v ∧ w_world (w_reset i v w) = w := by
  have f := fields_of_sum _ _ hi hw (reset_toNat i v w hi hv hw)
  exact ⟨BitVec.eq_of_toNat_eq f.1, BitVec.eq_of_toNat_eq f.2.2, BitVec.eq_of_toNat_eq f.2.1⟩

example : (5#32).toNat < 2^30 ∧ (16777215#32).toNat < 2^24 ∧ (1023#32).toNat < 2^10 := by decide +kernel

/-- distinct in-range triples give distinct handles -/
theorem pack_injective (i v w i' v' w' : BitVec 32)
    (hi : i.toNat < 2^30) (hv : v.toNat < 2^24) (hw : w.toNat < 2^10)
    (hi' : i'.toNat < 2^30) (hv' : v'.toNat < 2^24) (hw' : w'.toNat < 2^10)
    (h : w_reset i v w = w_reset i' v' w') : i = i' ∧ v = v' ∧ w = w' := by
  have a := roundtrip i v w hi hv hw
  have b := roundtrip i' v' w' hi' hv' hw'
  exact ⟨a.1.symm.trans ((congrArg w_id h).trans b.1), a.2.1.symm.trans ((congrArg w_version h).trans b.2.1),
    a.2.2.symm.trans ((congrArg w_world h).trans b.2.2)⟩

/-- the constructor packs exactly like `reset` -/
theorem ctor_eq_reset (i v w : BitVec 32) : w_ctor i v w = w_reset i v w := rfl

/-- the three fields partition the 64 bits: two handles are equal exactly when all three fields agree -/
theorem fields_partition (x y : BitVec 64) :
    x = y ↔ (w_id x = w_id y ∧ w_world x = w_world y ∧ w_version x = w_version y) := by
  constructor
  · rintro rfl; exact ⟨rfl, rfl, rfl⟩
  · rintro ⟨h1, h2, h3⟩
    apply BitVec.eq_of_toNat_eq
    rw [fields_sum x, fields_sum y, h1, h2, h3]

/-- `operator==` / `operator!=` are value equality -/
theorem eq_iff (x y : BitVec 64) : w_eq x y = 1#32 ↔ x = y := by
  unfold w_eq; by_cases h : x = y <;> simp [h]

theorem ne_iff (x y : BitVec 64) : w_ne x y = 1#32 ↔ x ≠ y := by
  unfold w_ne; by_cases h : x = y <;> simp [h]

/-- equality of handles ⇔ all three fields agree (composition of the two facts above) -/
theorem eq_iff_fields (x y : BitVec 64) :
    w_eq x y = 1#32 ↔ (w_id x = w_id y ∧ w_world x = w_world y ∧ w_version x = w_version y) :=
  (eq_iff x y).trans (fields_partition x y)

/-- field ranges: id < 2^30, world < 2^10, version < 2^24 for every 64-bit pattern -/
theorem field_ranges (x : BitVec 64) :
    (w_id x).toNat < 2^30 ∧ (w_world x).toNat < 2^10 ∧ (w_version x).toNat < 2^24 := by
  rw [id_toNat, world_toNat, version_toNat, Nat.div_div_eq_div_mul]
  have h : x.toNat < 2 ^ (30 : Nat) * 2 ^ (10 : Nat) * 2 ^ (24 : Nat) := x.isLt
  exact ⟨Nat.mod_lt _ (Nat.two_pow_pos _), Nat.mod_lt _ (Nat.two_pow_pos _), Nat.div_lt_of_lt_mul h⟩

/-- advancing the version changes only the version field and wraps within it -/
theorem next_version (x : BitVec 64) :
    w_id (w_next x) = w_id x ∧ w_world (w_next x) = w_world x ∧
    (w_version (w_next x)).toNat = ((w_version x).toNat + 1) % 2^24 := by
  have hr := field_ranges x
  -- adding `2^40` adds one to the version field; reducing modulo `2^64` truncates that field to 24 bits
  have key : (w_next x).toNat = (w_id x).toNat +
      2 ^ (30 : Nat) * ((w_world x).toNat + 2 ^ (10 : Nat) * (((w_version x).toNat + 1) % 2 ^ (24 : Nat))) := by
    have e : (w_next x).toNat =
        (x.toNat + 2 ^ (30 : Nat) * (2 ^ (10 : Nat) * 1)) % (2 ^ (30 : Nat) * (2 ^ (10 : Nat) * 2 ^ (24 : Nat))) :=
      BitVec.toNat_add _ _
    rw [e, fields_sum x, Nat.add_assoc, ← Nat.mul_add, Nat.add_assoc, ← Nat.mul_add, field_mod _ _ hr.1,
      field_mod _ _ hr.2.1]
  have f := fields_of_sum (w_next x) _ hr.1 hr.2.1 key
  exact ⟨BitVec.eq_of_toNat_eq f.1, BitVec.eq_of_toNat_eq f.2.1, f.2.2⟩

/-- `incrementVersion` is the same function as `makeEntityWithNextVersion` -/
theorem incr_eq_next (x : BitVec 64) : w_incr x = w_next x := rfl

/-- only the all-ones pattern is null; a default-constructed handle is null -/
theorem null_iff_all_ones (x : BitVec 64) : w_isnull x = 1#32 ↔ x = BitVec.allOnes 64 := by
  unfold w_isnull
  by_cases h : x = 18446744073709551615#64
  · subst h; decide
  · simp [h]

theorem default_is_null : w_isnull w_default = 1#32 := by decide

/-- remark recorded in DESIGN.md: the in-range triple (2^30-1, 2^24-1, 2^10-1) packs to the null pattern -/
theorem max_triple_is_null : w_reset 1073741823#32 16777215#32 1023#32 = BitVec.allOnes 64 := by decide

/-- align-up (`ComponentOffset::alignAs` / `makeAligned`): for a non-zero alignment and no 32-bit overflow,
    the result is the least multiple of `a` that is ≥ `off` -/
theorem align_up (off a : BitVec 32) (ha : a ≠ 0#32) (hov : off.toNat + a.toNat ≤ 2^32) :
    w_align_defined off a = true ∧
    (w_align off a).toNat % a.toNat = 0 ∧ off.toNat ≤ (w_align off a).toNat ∧
    (w_align off a).toNat < off.toNat + a.toNat := by
  rw [align_toNat off a ha hov]
  have ha' := toNat_pos ha
  open Mustache.Proofs.Layout in
  exact ⟨align_defined off ha, alignUp_mod _ _, alignUp_ge _ _ ha', alignUp_lt _ _ ha'⟩

example : (4#32 : BitVec 32) ≠ 0#32 ∧ (13#32).toNat + (4#32).toNat ≤ 2^32 := by decide +kernel

theorem makealigned_eq_align (off a : BitVec 32) : w_makealigned off a = w_align off a := rfl

/-- chunk/item split (`ComponentStorageIndex / ChunkCapacity`, `%`) -/
theorem split (i cap : BitVec 32) (hc : cap ≠ 0#32) :
    w_div_defined i cap = true ∧ w_mod_defined i cap = true ∧
    i.toNat = (w_div i cap).toNat * cap.toNat + (w_mod i cap).toNat ∧
    (w_mod i cap).toNat < cap.toNat := by
  rw [div_eq i hc, mod_eq i hc, BitVec.toNat_udiv, BitVec.toNat_umod, Nat.mul_comm]
  exact ⟨div_defined i cap, mod_defined i cap, (Nat.div_add_mod _ _).symm, Nat.mod_lt _ (toNat_pos hc)⟩

/-- a null (zero) capacity yields the null index from both operators, never a division by zero -/
theorem split_null (i : BitVec 32) :
    w_div i 0#32 = BitVec.allOnes 32 ∧ w_mod i 0#32 = BitVec.allOnes 32 ∧
    w_div_defined i 0#32 = true ∧ w_mod_defined i 0#32 = true :=
  ⟨rfl, rfl, rfl, rfl⟩

end Mustache.Props.C16
