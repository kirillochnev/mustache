import Mustache.Model.World
import Mustache.Driver.World
import Mustache.Proofs.RowsPackOne
/-!
# C05 — changes made while locked are isolated, then applied at the outermost unlock in program order

Model: `Mustache.Model.WM`. `locked_isolation_*`: while `lockDepth > 0` every structural call (`create`,
`assign`, `removeComp`, `destroy`, `destroyNow`, from any thread index `t`) returns a state that agrees
with the state before the call on every field except `buffers`, `nextEntityId`, `temps` (`Frozen`);
`frozen_observations`: such states answer every query alike and have the same archetype rows and
locations (iterated set, membership and row addresses are fixed). `unlock_inner_noop` / `lock_inner`:
only the outermost unlock flushes. `packs_*`: the split of a command log into packs loses nothing and
keeps program order. `flush_order`: buffers in index order, packs in log order.
-/
namespace Mustache.Props.C05
open Mustache.Model

abbrev cat := Mustache.Driver.World.catalogue

/-- `w'` differs from `w` at most in the command buffers, the reserved-id counter and the count of
buffered temporaries -/
structure Frozen (w w' : WM) : Prop where
  worldId : w'.worldId = w.worldId
  slots : w'.slots = w.slots
  next : w'.next = w.next
  empty : w'.empty = w.empty
  locs : w'.locs = w.locs
  archs : w'.archs = w.archs
  deps : w'.deps = w.deps
  pool : w'.pool = w.pool
  nextInst : w'.nextInst = w.nextInst
  lockDepth : w'.lockDepth = w.lockDepth
  nthreads : w'.nthreads = w.nthreads
  marked : w'.marked = w.marked

theorem frozen_update (w : WM) (b : List (List Cmd)) (n : Nat) (t : List (CompId × Nat)) :
    Frozen w { w with buffers := b, nextEntityId := n, temps := t } :=
  ⟨rfl, rfl, rfl, rfl, rfl, rfl, rfl, rfl, rfl, rfl, rfl, rfl⟩

theorem Frozen.refl (w : WM) : Frozen w w := frozen_update w w.buffers w.nextEntityId w.temps

theorem Frozen.trans {a b c : WM} (h₁ : Frozen a b) (h₂ : Frozen b c) : Frozen a c :=
  ⟨h₂.worldId.trans h₁.worldId, h₂.slots.trans h₁.slots, h₂.next.trans h₁.next,
   h₂.empty.trans h₁.empty, h₂.locs.trans h₁.locs, h₂.archs.trans h₁.archs, h₂.deps.trans h₁.deps,
   h₂.pool.trans h₁.pool, h₂.nextInst.trans h₁.nextInst, h₂.lockDepth.trans h₁.lockDepth,
   h₂.nthreads.trans h₁.nthreads, h₂.marked.trans h₁.marked⟩

/-- what queries and iteration can see is a function of the frozen fields -/
theorem frozen_observations {w w' : WM} (hf : Frozen w w') :
    (∀ h, w'.isValid h = w.isValid h) ∧
    (∀ h c, w'.getComp h c = w.getComp h c) ∧
    (∀ h c, w'.hasComp h c = w.hasComp h c) ∧
    (∀ h s, w'.hasShared h s = w.hasShared h s) ∧
    (∀ h, w'.archOf h = w.archOf h) ∧
    (∀ h, w'.locOf h = w.locOf h) ∧
    (∀ ai, w'.arch ai = w.arch ai) ∧
    w'.isLocked = w.isLocked := by
  cases w; cases w'
  rcases hf with ⟨h1, h2, h3, h4, h5, h6, h7, h8, h9, h10, h11, h12⟩
  simp only at h1 h2 h3 h4 h5 h6 h7 h8 h9 h10 h11 h12
  subst h1 h2 h3 h4 h5 h6 h7 h8 h9 h10 h11 h12
  exact ⟨fun _ => rfl, fun _ _ => rfl, fun _ _ => rfl, fun _ _ => rfl, fun _ => rfl, fun _ => rfl,
    fun _ => rfl, rfl⟩

/-! ## sample: one entity {A}, locked, three commands recorded -/

def base : WM :=
  let w : WM := { nthreads := 2 }
  let (w, _, _) := w.create cat 0 [0] Shared.null
  w.lock

def e0 : Handle := ⟨0, 0, 0⟩

def lockedW : WM :=
  let (w, _, _) := base.assign cat 1 e0 2 (some 5)
  let (w, _, _) := w.create cat 0 [1] Shared.null
  (w.destroyNow cat 1 e0).1

example : base.isLocked = true ∧ base.isValid e0 = true := by decide +kernel
example : lockedW.buffers.map List.length = [1, 2] := by decide +kernel
example : lockedW.archs.map (·.rows.length) = [1] ∧ lockedW.getComp e0 0 = some none := by decide +kernel

theorem pushCmd_frozen (w : WM) (t : Nat) (c : Cmd) : Frozen w (w.pushCmd t c) :=
  frozen_update w _ w.nextEntityId w.temps

theorem locked_isolation_create (info : CompId → CompInfo) (w : WM) (t : Nat) (mask : Mask) (sh : Shared)
    (hl : w.isLocked = true) :
    Frozen w (w.create info t mask sh).1 ∧ (w.create info t mask sh).2.2 = [] := by
  rw [Mustache.Proofs.Rows.create_locked info w t mask sh hl]
  exact ⟨frozen_update w _ _ w.temps, rfl⟩

theorem locked_isolation_assign (info : CompId → CompInfo) (w : WM) (t : Nat) (e : Handle) (c : CompId)
    (v : Option Nat) (hl : w.isLocked = true) :
    Frozen w (w.assign info t e c v).1 ∧ (w.assign info t e c v).2 = (.ok, []) := by
  rw [Mustache.Proofs.Rows.assign_locked info w t e c v hl]
  refine ⟨?_, rfl⟩
  split
  · exact frozen_update w _ w.nextEntityId _
  · exact frozen_update w _ w.nextEntityId w.temps

theorem locked_isolation_removeComp (info : CompId → CompInfo) (w : WM) (t : Nat) (e : Handle)
    (c : CompId) (hl : w.isLocked = true) :
    Frozen w (w.removeComp info t e c).1 ∧ (w.removeComp info t e c).2 = [] := by
  unfold WM.removeComp
  rw [if_pos hl]
  exact ⟨pushCmd_frozen _ _ _, rfl⟩

theorem locked_isolation_destroy (w : WM) (t : Nat) (e : Handle) (hl : w.isLocked = true) :
    Frozen w (w.destroy t e) := by
  simp only [WM.destroy, hl, if_true]
  exact pushCmd_frozen _ _ _

theorem locked_isolation_destroyNow (info : CompId → CompInfo) (w : WM) (t : Nat) (e : Handle)
    (hl : w.isLocked = true) :
    Frozen w (w.destroyNow info t e).1 ∧ (w.destroyNow info t e).2 = [] := by
  unfold WM.destroyNow
  rw [if_pos hl]
  exact ⟨pushCmd_frozen _ _ _, rfl⟩

/-- `update()` while locked is refused and changes nothing at all -/
theorem locked_update_refused (info : CompId → CompInfo) (w : WM) (hl : w.isLocked = true) :
    w.update info = (w, .lockedUpdate, []) := by
  simp [WM.update, hl]

/-- the handle reserved by a locked `create` is not valid until the flush: it names an id beyond the
table, or carries the successor of the current version of its slot -/
theorem locked_create_handle (info : CompId → CompInfo) (w : WM) (t : Nat) (mask : Mask) (sh : Shared)
    (hl : w.isLocked = true) :
    (w.create info t mask sh).2.1.id = w.nextEntityId ∧
    (w.create info t mask sh).1.nextEntityId = w.nextEntityId + 1 ∧
    (w.create info t mask sh).1.buffers =
      w.buffers.set t (w.buffers.getD t [] ++ [.create (w.create info t mask sh).2.1 mask sh]) := by
  rw [Mustache.Proofs.Rows.create_locked info w t mask sh hl]
  exact ⟨rfl, rfl, rfl⟩

/-- all five in one statement: whatever structural call is issued while locked, from whatever thread,
every query and every archetype row reads the same before and after -/
theorem locked_isolation (info : CompId → CompInfo) (w : WM) (t : Nat) (hl : w.isLocked = true)
    (w' : WM)
    (hop : (∃ m sh, w' = (w.create info t m sh).1) ∨ (∃ e c v, w' = (w.assign info t e c v).1) ∨
           (∃ e c, w' = (w.removeComp info t e c).1) ∨ (∃ e, w' = w.destroy t e) ∨
           (∃ e, w' = (w.destroyNow info t e).1)) :
    Frozen w w' ∧ w'.isLocked = true ∧
    (∀ h c, w'.isValid h = w.isValid h ∧ w'.getComp h c = w.getComp h c ∧
      w'.hasComp h c = w.hasComp h c ∧ w'.archOf h = w.archOf h ∧ w'.locOf h = w.locOf h) ∧
    (∀ ai, (w'.arch ai).rows = (w.arch ai).rows ∧ (w'.arch ai).mask = (w.arch ai).mask) := by
  have hf : Frozen w w' := by
    rcases hop with ⟨m, sh, rfl⟩ | ⟨e, c, v, rfl⟩ | ⟨e, c, rfl⟩ | ⟨e, rfl⟩ | ⟨e, rfl⟩
    · exact (locked_isolation_create info w t m sh hl).1
    · exact (locked_isolation_assign info w t e c v hl).1
    · exact (locked_isolation_removeComp info w t e c hl).1
    · exact locked_isolation_destroy w t e hl
    · exact (locked_isolation_destroyNow info w t e hl).1
  have ho := frozen_observations hf
  refine ⟨hf, ho.2.2.2.2.2.2.2.trans hl, fun h c => ⟨ho.1 h, ho.2.1 h c, ho.2.2.1 h c, ho.2.2.2.2.1 h,
    ho.2.2.2.2.2.1 h⟩, fun ai => by rw [ho.2.2.2.2.2.2.1 ai]; exact ⟨rfl, rfl⟩⟩

example : Frozen base lockedW ∧ lockedW.isLocked = true := by
  refine ⟨⟨rfl, rfl, rfl, rfl, rfl, rfl, rfl, rfl, rfl, rfl, rfl, rfl⟩, by decide +kernel⟩
example : lockedW.buffers.map List.length ≠ base.buffers.map List.length := by decide +kernel

/-- `lock` at depth ≥ 1 only increments the counter -/
theorem lock_inner (w : WM) (hd : 1 ≤ w.lockDepth) :
    w.lock = { w with lockDepth := w.lockDepth + 1 } := by
  have : ¬ (w.lockDepth + 1 = 1) := fun h =>
    absurd hd (by rw [Nat.succ.inj h]; exact Nat.not_succ_le_zero 0)
  unfold WM.lock
  simp only
  rw [if_neg this]

/-- the outermost `lock` fixes the number of buffers and the first reserved id; nothing else -/
theorem lock_outer (w : WM) (hd : w.lockDepth = 0) :
    w.lock = { w with lockDepth := 1,
                      buffers := w.buffers ++ List.replicate (w.nthreads - w.buffers.length) [],
                      nextEntityId := w.slots.length } := by
  simp [WM.lock, hd]

/-- `unlock` at depth ≥ 2 only decrements the counter: no flush, no callback, buffers kept -/
theorem unlock_inner_noop (info : CompId → CompInfo) (w : WM) (hd : 2 ≤ w.lockDepth) :
    w.unlock info = ({ w with lockDepth := w.lockDepth - 1 }, false, []) := by
  rw [Mustache.Proofs.Rows.unlock_eq, if_neg (Nat.sub_ne_zero_of_lt hd)]

/-- the outermost `unlock` is the flush -/
theorem unlock_outer (info : CompId → CompInfo) (w : WM) (hd : w.lockDepth = 1) :
    w.unlock info = (({ w with lockDepth := 0 }.flush info).1, true,
      ({ w with lockDepth := 0 }.flush info).2) := by
  rw [Mustache.Proofs.Rows.unlock_eq, hd]; rfl

example : (lockedW.lock.unlock cat).1.buffers.map List.length = [1, 2] ∧
    (lockedW.lock.unlock cat).2.1 = false := by decide +kernel
example : (lockedW.unlock cat).2.1 = true ∧ (lockedW.unlock cat).1.isValid e0 = false := by decide +kernel

open Mustache.Proofs.Rows (isCreateCmd)

/-- one step of the split: the new command joins the next pack iff it targets the same handle and
that pack does not start with a creation (a creation always opens a pack) -/
theorem packs_cons (c : Cmd) (cs : List Cmd) :
    packs (c :: cs) =
      match packs cs with
      | [] => [[c]]
      | [] :: ps => [c] :: ps
      | (d :: ds) :: ps =>
        if c.entity = d.entity ∧ isCreateCmd d = false then (c :: d :: ds) :: ps
        else [c] :: (d :: ds) :: ps := by
  rw [packs]
  cases packs cs with
  | nil => rfl
  | cons p ps =>
    cases p with
    | nil => rfl
    | cons d ds => cases d <;> simp [isCreateCmd]

/-- induction along the way `packs` builds its result: a command either joins the pack that follows it
(same handle, and that pack is not a creation) or opens a pack of its own -/
theorem packs_rec {P : List Cmd → List (List Cmd) → Prop} (hnil : P [] []) (hone : ∀ c, P [c] [[c]])
    (hjoin : ∀ c cs d ds ps, packs cs = (d :: ds) :: ps → c.entity = d.entity → isCreateCmd d = false →
      P cs ((d :: ds) :: ps) → P (c :: cs) ((c :: d :: ds) :: ps))
    (hopen : ∀ c cs d ds ps, packs cs = (d :: ds) :: ps → ¬ (c.entity = d.entity ∧ isCreateCmd d = false) →
      P cs ((d :: ds) :: ps) → P (c :: cs) ([c] :: (d :: ds) :: ps)) :
    ∀ buf, P buf (packs buf) := by
  -- together with: no pack is empty, and only the empty log has no pack
  have key : ∀ buf, P buf (packs buf) ∧ (∀ ps, packs buf ≠ [] :: ps) ∧ (packs buf = [] → buf = []) := by
    intro buf
    induction buf with
    | nil => exact ⟨hnil, nofun, fun _ => rfl⟩
    | cons c cs ih =>
      rw [packs_cons]
      rcases ih with ⟨ihP, ihne, ihnil⟩
      cases hp : packs cs with
      | nil => rw [ihnil hp]; exact ⟨hone c, nofun, nofun⟩
      | cons p ps =>
        rw [hp] at ihP
        cases p with
        | nil => exact absurd hp (ihne ps)
        | cons d ds =>
          simp only
          split
          · rename_i hcd; exact ⟨hjoin c cs d ds ps hp hcd.1 hcd.2 ihP, nofun, nofun⟩
          · rename_i hcd; exact ⟨hopen c cs d ds ps hp hcd ihP, nofun, nofun⟩
  exact fun buf => (key buf).1

theorem packs_concat (buf : List Cmd) : (packs buf).flatten = buf :=
  packs_rec (P := fun buf ps => ps.flatten = buf) rfl (fun _ => rfl)
    (fun c _ _ _ _ _ _ _ ih => congrArg (c :: ·) ih) (fun c _ _ _ _ _ _ ih => congrArg (c :: ·) ih) buf

/-- every pack is a run of commands on ONE entity handle -/
theorem packs_one_entity (buf : List Cmd) :
    ∀ p ∈ packs buf, ∀ c ∈ p, ∀ d ∈ p, c.entity = d.entity := by
  refine packs_rec (P := fun _ ps => ∀ p ∈ ps, ∀ c ∈ p, ∀ d ∈ p, c.entity = d.entity) nofun ?_ ?_ ?_ buf
  · intro c p hp x hx y hy
    cases List.mem_singleton.mp hp
    rw [List.mem_singleton.mp hx, List.mem_singleton.mp hy]
  · intro c cs d ds ps _ hcd _ ih p hp
    rcases List.mem_cons.mp hp with rfl | hp
    · -- every member of `c :: d :: ds` targets `d`'s handle
      have hd : ∀ x ∈ c :: d :: ds, x.entity = d.entity := fun x hx => by
        rcases List.mem_cons.mp hx with rfl | hx
        · exact hcd
        · exact ih (d :: ds) List.mem_cons_self x hx d List.mem_cons_self
      exact fun x hx y hy => (hd x hx).trans (hd y hy).symm
    · exact ih p (List.mem_cons_of_mem _ hp)
  · intro c cs d ds ps _ _ ih p hp
    rcases List.mem_cons.mp hp with rfl | hp
    · intro x hx y hy; rw [List.mem_singleton.mp hx, List.mem_singleton.mp hy]
    · exact ih p hp

/-- a creation is only ever the FIRST command of its pack ("Create command should be first") -/
theorem packs_create_first (buf : List Cmd) :
    ∀ p ∈ packs buf, ∀ c ∈ p.tail, isCreateCmd c = false := by
  refine packs_rec (P := fun _ ps => ∀ p ∈ ps, ∀ c ∈ p.tail, isCreateCmd c = false) nofun ?_ ?_ ?_ buf
  · intro c p hp; cases List.mem_singleton.mp hp; exact fun _ hx => absurd hx List.not_mem_nil
  · intro c cs d ds ps _ _ hd ih p hp
    rcases List.mem_cons.mp hp with rfl | hp
    · intro x hx
      rcases List.mem_cons.mp hx with rfl | hx
      · exact hd
      · exact ih (d :: ds) List.mem_cons_self x hx
    · exact ih p (List.mem_cons_of_mem _ hp)
  · intro c cs d ds ps _ _ ih p hp
    rcases List.mem_cons.mp hp with rfl | hp
    · exact fun _ hx => absurd hx List.not_mem_nil
    · exact ih p hp

/-- pack boundaries are exactly the places where the target handle changes or a creation starts: of
two consecutive packs either the targets differ or the second one starts with a creation (the split
is maximal) -/
def Maximal : List (List Cmd) → Prop
  | [] => True
  | [_] => True
  | p :: q :: rest =>
    ((∀ c ∈ p, ∀ d ∈ q, c.entity ≠ d.entity) ∨ (q.head?.map isCreateCmd = some true)) ∧ Maximal (q :: rest)

theorem packs_maximal (buf : List Cmd) : Maximal (packs buf) := by
  refine packs_rec (P := fun _ ps => Maximal ps) trivial (fun _ => trivial) ?_ ?_ buf
  · intro c cs d ds ps _ hcd _ ih
    cases ps with
    | nil => trivial
    | cons q rest =>
      refine ⟨ih.1.imp (fun h1 x hx y hy => ?_) id, ih.2⟩
      rcases List.mem_cons.mp hx with rfl | hx
      · rw [hcd]; exact h1 d List.mem_cons_self y hy
      · exact h1 x hx y hy
  · intro c cs d ds ps hp hcd ih
    refine ⟨?_, ih⟩
    by_cases hcr : isCreateCmd d = true
    · exact Or.inr (congrArg some hcr)
    · refine Or.inl (fun x hx y hy he => hcd ⟨?_, by simpa using hcr⟩)
      rw [← List.mem_singleton.mp hx, he]
      exact packs_one_entity cs (d :: ds) (hp ▸ List.mem_cons_self) y hy d List.mem_cons_self

example : (packs lockedW.buffers[1]!).map List.length = [2] := by decide +kernel
/-- same handle, but the creation opens its own pack -/
example : (packs [Cmd.destroyNow e0, .create e0 [0] Shared.null, .assign e0 0 none]).map List.length = [1, 2] := by
  decide +kernel
example : (packs [Cmd.assign e0 0 none, .remove e0 0, .destroy ⟨1, 0, 0⟩, .assign e0 1 none]).map List.length
    = [2, 1, 1] := by decide +kernel

open Mustache.Proofs.Rows (applyPacks detached SameCtl)

/-- `onUnlock`: all buffers are detached (emptied) first; then buffer 0's packs in log order, then
buffer 1's, …; finally the temporaries are dropped. Equivalently: ONE left fold of `applyPack`
(`applyPacks`) over the concatenation `packs buffers[0] ++ packs buffers[1] ++ …`. -/
theorem flush_order (info : CompId → CompInfo) (w : WM) :
    w.flush info =
      (let r := applyPacks info ({ w with buffers := w.buffers.map (fun _ => []) }, [])
                  (w.buffers.map packs).flatten
       ({ r.1 with temps := [] }, r.2)) :=
  Mustache.Proofs.Rows.flush_eq info w

theorem applyPacks_append (info : CompId → CompInfo) (acc : WM × List Cb) (p q : List (List Cmd)) :
    applyPacks info acc (p ++ q) = applyPacks info (applyPacks info acc p) q := by
  simp [applyPacks, List.foldl_append]

/-- `applyCommandPack` never writes the buffers, the lock depth, the dependency table, the reserved-id
counter or the shared pool: whatever the pack -/
theorem applyPack_keeps_control (info : CompId → CompInfo) (w : WM) (pack : List Cmd) :
    (w.applyPack info pack).1.buffers = w.buffers ∧ (w.applyPack info pack).1.lockDepth = w.lockDepth ∧
    (w.applyPack info pack).1.deps = w.deps ∧ (w.applyPack info pack).1.nextEntityId = w.nextEntityId :=
  let h := Mustache.Proofs.Rows.applyPack_ctl info w pack
  ⟨h.buffers, h.lockDepth, h.deps, h.nextEntityId⟩

/-- after the flush every buffer is empty (same number of buffers), the temporaries are gone and the
lock depth is what it was -/
theorem flush_leaves_buffers_empty (info : CompId → CompInfo) (w : WM) :
    (w.flush info).1.buffers = w.buffers.map (fun _ => []) ∧
    (∀ b ∈ (w.flush info).1.buffers, b = []) ∧
    (w.flush info).1.buffers.length = w.buffers.length ∧
    (w.flush info).1.temps = [] ∧ (w.flush info).1.lockDepth = w.lockDepth := by
  have h := Mustache.Proofs.Rows.flush_ctl info w
  refine ⟨h.1, ?_, by rw [h.1]; simp, h.2.1, h.2.2.1⟩
  intro b hb
  rw [h.1] at hb
  simp at hb
  exact hb.2

/-- the outermost `unlock`: depth 0 afterwards, everything recorded has been consumed -/
theorem unlock_outer_result (info : CompId → CompInfo) (w : WM) (hd : w.lockDepth = 1) :
    (w.unlock info).1.lockDepth = 0 ∧ (∀ b ∈ (w.unlock info).1.buffers, b = []) ∧
    (w.unlock info).2.1 = true := by
  rw [unlock_outer info w hd]
  have h := flush_leaves_buffers_empty info { w with lockDepth := 0 }
  exact ⟨h.2.2.2.2, h.2.1, rfl⟩

example : (lockedW.unlock cat).1.buffers = [[], []] ∧ (lockedW.unlock cat).1.lockDepth = 0 := by
  constructor
  · have := (unlock_outer_result cat lockedW (by decide +kernel)).2.1
    have hl : (lockedW.unlock cat).1.buffers.length = 2 := by decide +kernel
    match hb : (lockedW.unlock cat).1.buffers, hl with
    | [a, b], _ =>
      rw [hb] at this
      rw [this a (by simp), this b (by simp)]
  · decide +kernel

/-- the commands the flush consumes are exactly the recorded ones, thread by thread, in program order -/
theorem flush_consumes_all (w : WM) :
    ((w.buffers.map packs).flatten).flatten = w.buffers.flatten := by
  induction w.buffers with
  | nil => rfl
  | cons b bs ih => simp [packs_concat, ih]

/-- `[destroyNow e]`: the pack is exactly the unlocked `destroyNow e` (state AND callbacks) for every
handle that is invalid (skipped, C09) or located -/
theorem pack_singleton_eq_unlocked_destroyNow (info : CompId → CompInfo) (w : WM) (t : Nat) (e : Handle)
    (hl : w.isLocked = false) (h : w.isValid e = false ∨ (w.locOf e).arch.isSome = true) :
    w.applyPack info [.destroyNow e] = w.destroyNow info t e := by
  rw [Mustache.Proofs.Rows.applyPack_destroyNow info w e h]
  simp [WM.destroyNow, hl]

/-- `[remove e c]`: the pack is exactly the unlocked `removeComponent<c>(e)` (state AND callbacks) on a
valid located entity. Hypotheses named after C13: `hclosed` (the entity's archetype mask is closed:
`archetype_masks_closed`), `hidem` (closure idempotent: `closure_idempotent_monotone`); `hout`: the
removal is effective — `c` is not a dependent of a component that stays (`remove_dependent_noop` is
the other case, where both paths leave the component set alone). -/
theorem pack_singleton_eq_unlocked_remove (info : CompId → CompInfo) (w : WM) (t : Nat) (e : Handle)
    (c : CompId) (pi : Nat) (hl : w.isLocked = false) (hv : w.isValid e = true)
    (hla : (w.locOf e).arch = some pi) (hpi : pi < w.archs.length)
    (hclosed : closedMask w.deps (w.arch pi).mask = (w.arch pi).mask)
    (hidem : closedMask w.deps (closedMask w.deps (Mask.erase (w.arch pi).mask c)) =
      closedMask w.deps (Mask.erase (w.arch pi).mask c))
    (hout : c ∈ (w.arch pi).mask → c ∉ closedMask w.deps (Mask.erase (w.arch pi).mask c)) :
    w.applyPack info [.remove e c] = w.removeComp info t e c :=
  Mustache.Proofs.Rows.applyPack_remove info w t e c pi hl hv hla hpi hclosed hidem hout

/-- `[assign e c v]`, `v` being the value the locked `assign<c>(e, tok)` records: the pack yields the
state and the callbacks of the unlocked `assign<c>(e, tok)` (which succeeds), for a valid located
entity that does not have `c` yet. Same C13 hypotheses. -/
theorem pack_singleton_eq_unlocked_assign (info : CompId → CompInfo) (w : WM) (t : Nat) (e : Handle)
    (c : CompId) (tok : Nat) (pi : Nat) (hl : w.isLocked = false) (hv : w.isValid e = true)
    (hla : (w.locOf e).arch = some pi) (hpi : pi < w.archs.length)
    (hclosed : closedMask w.deps (w.arch pi).mask = (w.arch pi).mask)
    (hidem : closedMask w.deps (closedMask w.deps (Mask.insert (w.arch pi).mask c)) =
      closedMask w.deps (Mask.insert (w.arch pi).mask c))
    (hnew : c ∉ (w.arch pi).mask) :
    w.applyPack info [.assign e c (Mustache.Proofs.Rows.storedOf info c (some tok))] =
      ((w.assign info t e c (some tok)).1, (w.assign info t e c (some tok)).2.2) ∧
    (w.assign info t e c (some tok)).2.1 = .ok :=
  Mustache.Proofs.Rows.applyPack_assign info w t e c tok pi hl hv hla hpi hclosed hidem hnew

/-- the locked `assign` records exactly that value -/
theorem locked_assign_records (info : CompId → CompInfo) (w : WM) (t : Nat) (e : Handle) (c : CompId)
    (tok : Nat) (hl : w.isLocked = true) :
    (w.assign info t e c (some tok)).1.buffers =
      w.buffers.set t (w.buffers.getD t [] ++
        [.assign e c (Mustache.Proofs.Rows.storedOf info c (some tok))]) := by
  rw [Mustache.Proofs.Rows.assign_locked info w t e c (some tok) hl]
  split <;> rfl

/-- one entity {A}: unlocked assign of C = the singleton pack -/
def one : WM := (({} : WM).create cat 0 [0] Shared.null).1

example : (one.applyPack cat [.assign e0 2 (some 9)]).1.getComp e0 2 = some (some 9) ∧
    (one.assign cat 0 e0 2 (some 9)).1.getComp e0 2 = some (some 9) ∧
    (one.applyPack cat [.destroyNow e0]).1.isValid e0 = false := by decide +kernel
example : one.isLocked = false ∧ one.isValid e0 = true ∧ (one.locOf e0).arch = some 0 ∧
    closedMask one.deps (one.arch 0).mask = (one.arch 0).mask ∧ (2 : CompId) ∉ (one.arch 0).mask := by decide +kernel

/-- observational equality of two model states -/
def ObsEq (w w' : WM) : Prop :=
  ∀ (h : Handle) (c : CompId), w'.isValid h = w.isValid h ∧ w'.getComp h c = w.getComp h c ∧
    w'.hasComp h c = w.hasComp h c

/-- pack fusion: applying a pack of several commands on one entity (final mask, single move) is
observationally the same as applying its commands one at a time as singleton packs — together with
the three `pack_singleton_eq_unlocked_*` theorems and `flush_order` this is `flush_eq_sequential`
(outermost unlock = every recorded command in program order, buffers in index order, each with its
unlocked meaning, dead targets skipped). Not proved here: an induction over the pack with the
dependency closure (C13) and the row invariant (C02) as side conditions. -/
def flush_eq_sequential_statement : Prop :=
  ∀ (info : CompId → CompInfo) (w : WM) (pack : List Cmd),
    Mustache.Proofs.Rows.RowsOK w → Mustache.Proofs.Rows.LiveInv w →
    (∀ c ∈ pack, ∀ d ∈ pack, c.entity = d.entity) →
    (∀ c ∈ pack, ∀ e m sh, c ≠ .create e m sh) →
    ObsEq (pack.foldl (fun (acc : WM) c => (acc.applyPack info [c]).1) w) (w.applyPack info pack).1

end Mustache.Props.C05
