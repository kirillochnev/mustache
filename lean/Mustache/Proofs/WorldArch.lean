import Mustache.Model.World
/-! # The archetype table: `arch`, `findArch`, `getArch`

`findArch` returns the first archetype with the key (mask, shared instances); `getArch` returns it, or
appends an empty archetype with the closed mask (`GetArchPost`). Nothing here depends on what the closure is. -/
namespace Mustache.Model

theorem arch_of_getElem? {w : WM} {i : Nat} {a : Arch} (h : w.archs[i]? = some a) : w.arch i = a := by
  rw [WM.arch, List.getD_eq_getElem?_getD, h]; rfl

theorem arch_lt {w : WM} {i : Nat} (h : i < w.archs.length) : w.arch i = w.archs[i] :=
  arch_of_getElem? (List.getElem?_eq_getElem h)

theorem arch_mem_archs {w : WM} {i : Nat} (h : i < w.archs.length) : w.arch i ∈ w.archs :=
  arch_lt h ▸ List.getElem_mem h

theorem arch_ge {w : WM} {i : Nat} (h : w.archs.length ≤ i) : w.arch i = ⟨[], Shared.null, []⟩ := by
  simp [WM.arch, List.getD_eq_getElem?_getD, List.getElem?_eq_none_iff.mpr h]

theorem arch_append_left (w : WM) (l : List Arch) {j : Nat} (hj : j < w.archs.length) :
    WM.arch { w with archs := w.archs ++ l } j = w.arch j := by
  simp only [WM.arch, List.getD_eq_getElem?_getD, List.getElem?_append_left hj]

theorem arch_append_self (w : WM) (a : Arch) :
    WM.arch { w with archs := w.archs ++ [a] } w.archs.length = a := by
  simp only [WM.arch, List.getD_eq_getElem?_getD, List.getElem?_concat_length, Option.getD_some]

/-- the test `findArch` applies to each archetype -/
theorem archKey_beq {a : Arch} {m : List Nat} {sh : Shared} :
    (a.mask == m && a.shared.data == sh.data) = true ↔ a.mask = m ∧ a.shared.data = sh.data := by
  rw [Bool.and_eq_true, beq_iff_eq, beq_iff_eq]

theorem findArch_eq_some_iff {w : WM} {m : List Nat} {sh : Shared} {i : Nat} :
    w.findArch m sh = some i ↔
      i < w.archs.length ∧ (w.arch i).mask = m ∧ (w.arch i).shared.data = sh.data ∧
        ∀ j, j < i → ¬ ((w.arch j).mask = m ∧ (w.arch j).shared.data = sh.data) := by
  have key : ∀ hlt : i < w.archs.length,
      w.archs.findIdx (fun a => a.mask == m && a.shared.data == sh.data) = i ↔
        ((w.arch i).mask = m ∧ (w.arch i).shared.data = sh.data) ∧
          ∀ j, j < i → ¬ ((w.arch j).mask = m ∧ (w.arch j).shared.data = sh.data) := by
    intro hlt
    rw [List.findIdx_eq hlt, ← arch_lt hlt, archKey_beq]
    refine and_congr_right fun _ => forall_congr' fun j => ⟨fun h hj => ?_, fun h hj => ?_⟩
    · rw [← archKey_beq, arch_lt (Nat.lt_trans hj hlt), h hj]; exact Bool.false_ne_true
    · rw [← arch_lt (Nat.lt_trans hj hlt)]; exact Bool.eq_false_iff.mpr (mt archKey_beq.mp (h hj))
  unfold WM.findArch
  constructor
  · intro h
    simp only at h
    split at h
    · rename_i hlt
      cases h
      exact ⟨hlt, ((key hlt).mp rfl).1.1, ((key hlt).mp rfl).1.2, ((key hlt).mp rfl).2⟩
    · cases h
  · rintro ⟨hlt, hm, hd, hfirst⟩
    simp only [(key hlt).mpr ⟨⟨hm, hd⟩, hfirst⟩, if_pos hlt]

theorem findArch_none {w : WM} {m : List Nat} {sh : Shared} :
    w.findArch m sh = none ↔ ∀ a ∈ w.archs, ¬ (a.mask = m ∧ a.shared.data = sh.data) := by
  unfold WM.findArch
  simp only [ite_eq_right_iff, reduceCtorEq, imp_false, List.findIdx_lt_length, not_exists, not_and]
  exact forall_congr' fun a => imp_congr_right fun _ => not_congr archKey_beq |>.trans not_and

theorem getArch_eq (w : WM) (m : List Nat) (sh : Shared) :
    w.getArch m sh = match w.findArch (closedMask w.deps m) sh with
      | some i => (w, i)
      | none => ({ w with archs := w.archs ++ [⟨closedMask w.deps m, sh, []⟩] }, w.archs.length) := rfl

theorem getArch_cases (w : WM) (m : List Nat) (sh : Shared) :
    (∃ i, w.findArch (closedMask w.deps m) sh = some i ∧ w.getArch m sh = (w, i)) ∨
    (w.findArch (closedMask w.deps m) sh = none ∧
      w.getArch m sh = ({ w with archs := w.archs ++ [⟨closedMask w.deps m, sh, []⟩] }, w.archs.length)) := by
  rw [getArch_eq]
  cases h : w.findArch (closedMask w.deps m) sh with
  | some i => exact Or.inl ⟨i, rfl, rfl⟩
  | none => exact Or.inr ⟨rfl, rfl⟩

theorem getArch_arch (w : WM) (m : List Nat) (sh : Shared) (j : Nat) :
    (w.getArch m sh).1.arch j = w.arch j ∨
      ((w.getArch m sh).1.arch j = ⟨closedMask w.deps m, sh, []⟩ ∧ w.arch j = ⟨[], Shared.null, []⟩) := by
  rcases getArch_cases w m sh with ⟨i, _, he⟩ | ⟨_, he⟩ <;> rw [he]
  · exact Or.inl rfl
  · rcases Nat.lt_trichotomy j w.archs.length with h | rfl | h
    · exact Or.inl (arch_append_left w _ h)
    · exact Or.inr ⟨arch_append_self w _, arch_ge (Nat.le_refl _)⟩
    · exact Or.inl ((arch_ge (by rw [List.length_append]; exact h)).trans (arch_ge (Nat.le_of_lt h)).symm)

structure GetArchPost (w : WM) (m : List Nat) (sh : Shared) (w' : WM) (i : Nat) : Prop where
  frame : w' = { w with archs := w'.archs }
  prefix_ : ∃ tail, w'.archs = w.archs ++ tail ∧ (tail = [] ∨ (tail = [⟨closedMask w.deps m, sh, []⟩] ∧ i = w.archs.length))
  lt : i < w'.archs.length
  mask : (w'.arch i).mask = closedMask w.deps m
  data : (w'.arch i).shared.data = sh.data
  old : ∀ j, j < w.archs.length → w'.arch j = w.arch j

theorem getArch_post (w : WM) (m : List Nat) (sh : Shared) :
    GetArchPost w m sh (w.getArch m sh).1 (w.getArch m sh).2 := by
  rcases getArch_cases w m sh with ⟨i, hf, he⟩ | ⟨hf, he⟩
  · rw [he]
    obtain ⟨hlt, hm, hd, _⟩ := findArch_eq_some_iff.mp hf
    exact ⟨rfl, ⟨[], (List.append_nil _).symm, Or.inl rfl⟩, hlt, hm, hd, fun _ _ => rfl⟩
  · rw [he]
    exact ⟨rfl, ⟨_, rfl, Or.inr ⟨rfl, rfl⟩⟩, by rw [List.length_append]; exact Nat.lt_succ_self _,
      by rw [arch_append_self], by rw [arch_append_self], fun j hj => arch_append_left w _ hj⟩

theorem getArch_forall_archs {P : Arch → Prop} {w : WM} (h : ∀ a ∈ w.archs, P a) (m : List Nat) (sh : Shared)
    (hp : P ⟨closedMask w.deps m, sh, []⟩) : ∀ a ∈ (w.getArch m sh).1.archs, P a := by
  rcases getArch_cases w m sh with ⟨i, _, he⟩ | ⟨_, he⟩ <;> rw [he]
  · exact h
  · intro a ha
    rcases List.mem_append.mp ha with ha | ha
    · exact h a ha
    · rw [List.mem_singleton.mp ha]; exact hp

end Mustache.Model
