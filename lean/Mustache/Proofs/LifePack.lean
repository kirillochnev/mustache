import Mustache.Proofs.LifePackFold
/-!
# `applyCommandPack`, second half, on the live-slot set (C03)

After the single insertion / move the target row has raw slots (constructor skipped for the supplied components);
the stale instances are destroyed (and, unless supplied, constructed again in place); every supplied component
present in the target is move-constructed from its temporary. `packTail_accepts`: this leaves every slot of the row live.
-/
namespace Mustache.Proofs.Life
open Mustache.Model Mustache.Proofs.Rows

variable (info : CompId → CompInfo)

theorem accepts_packTail (L : SlotState) (t ti idx : Nat) (tm rawCs stale : List CompId) (supplied : Mask)
    (srcIdx : List (CompId × Nat))
    (hstale_nd : stale.Nodup) (hstale_tm : ∀ c ∈ stale, c ∈ tm) (hdisj : ∀ c ∈ stale, c ∉ rawCs)
    (hraw_tm : ∀ c ∈ rawCs, c ∈ tm)
    (hLrow : ∀ c ∈ tm, L (.stored ti c idx) = true)
    (hLsrc : ∀ ck ∈ srcIdx, L (.temp t ck.2 ck.1) = true)
    (hkeys_nd : (srcIdx.map (·.1)).Nodup)
    (hkey : ∀ x, (x ∈ srcIdx.map (·.1) ∧ x ∈ tm) ↔ (x ∈ rawCs ∨ (x ∈ stale ∧ supplied.contains x = true))) :
    accepts (removeAll L (colSlots ti rawCs idx))
      (stale.flatMap (fun c => Event.destroy (.stored ti c idx) ::
          (if supplied.contains c then [] else [Event.construct (.stored ti c idx)])) ++
        (srcIdx.filter (fun ck => tm.contains ck.1)).map (fun ck =>
          Event.moveConstruct (.stored ti ck.1 idx) (.temp t ck.2 ck.1))) = some L := by
  refine accepts_append_of (accepts_renewRow _ ti idx stale (fun c => supplied.contains c) hstale_nd ?_) ?_
  · intro c hc
    rw [removeAll_apply, mem_colSlots_stored]
    exact ⟨hLrow c (hstale_tm c hc), fun h => hdisj c hc h.2.1⟩
  rw [removeAll_removeAll, ← colSlots_append]
  apply accepts_fillRow (cs := (srcIdx.filter (fun ck => tm.contains ck.1)).map (·.1))
  · simp [colSlots, List.map_map, Event.dst]
  · intro ev hev
    rcases List.mem_map.mp hev with ⟨ck, _, rfl⟩; rfl
  · exact filter_keys_nodup _ _ hkeys_nd
  · intro x
    rw [mem_filter_keys, hkey x, List.mem_append, List.mem_filter]
  · intro c hc
    rw [List.mem_append, List.mem_filter] at hc
    rcases hc with hc | hc
    · exact hLrow c (hraw_tm c hc)
    · exact hLrow c (hstale_tm c hc.1)
  · intro ev hev x hx
    rcases List.mem_map.mp hev with ⟨ck, hck, rfl⟩
    cases hx
    exact ⟨hLsrc ck (List.mem_filter.mp hck).1, not_mem_colSlots_temp⟩

/-- the events of the stale-instance loop and of the supplied values of `packFinishEvents`, on row `idx` of the target `ti`
(mask `tm`) -/
def packTailEvents (t : Nat) (isCreate : Bool) (initial : Mask) (st : PackLife) (ti idx : Nat) (tm : Mask) : List Event :=
  (packStale isCreate initial st.p (Mask.ofList (st.p.src.map (·.1))) tm).flatMap (fun c =>
      Event.destroy (.stored ti c idx) ::
        (if (Mask.ofList (st.p.src.map (·.1))).contains c then [] else [Event.construct (.stored ti c idx)])) ++
    (st.srcIdx.filter (fun ck => tm.contains ck.1)).map (fun ck =>
      Event.moveConstruct (.stored ti ck.1 idx) (.temp t ck.2 ck.1))

/-- the events of the single insertion / move of `packFinishEvents` into the target `ti` of `w`, with the entity's row
afterwards -/
def packMovedEvents (e : Handle) (isCreate : Bool) (initial : Mask) (p : PackSt) (w : WM) (ti : Nat) : List Event × Nat :=
  if isCreate then (w.archInsertEvents ti (Mask.ofList (p.src.map (·.1))), (w.arch ti).rows.length)
  else
    match (w.locOf e).arch with
    | some pi => if pi = ti || initial == p.final then ([], (w.locOf e).idx) else
        (w.externalMoveEvents ti pi (w.locOf e).idx (Mask.ofList (p.src.map (·.1))), (w.arch ti).rows.length)
    | none => ([], (w.locOf e).idx)

theorem packFinishEvents_alive (t : Nat) (e : Handle) (isCreate : Bool) (initial : Mask) (sh : Shared) (st : PackLife)
    (hd : st.p.dead = false) :
    packFinishEvents t e isCreate initial sh st =
      let g := packTarget e isCreate initial sh st.w st.p
      let m := packMovedEvents e isCreate initial st.p g.1 g.2
      st.evs ++ m.1 ++ packTailEvents t isCreate initial st g.2 m.2 (g.1.arch g.2).mask := by
  unfold packFinishEvents
  rw [hd, List.append_assoc _ _ (List.map _ _)]
  rfl

theorem mem_packStale (isCreate : Bool) (initial : Mask) (p : PackSt) (supplied tm : Mask) (c : CompId) :
    c ∈ packStale isCreate initial p supplied tm ↔
    c ∈ p.final ∧ c ∈ p.replaced ∧ c ∈ initial ∧ ¬ (isCreate = true ∧ supplied.contains c = true) ∧ c ∈ tm := by
  simp only [packStale, List.mem_filter, Bool.and_eq_true, Bool.not_eq_true', List.contains_iff_mem, ← Bool.not_eq_true,
    and_assoc]

/-- the tail of a pack on row `idx` of the target (mask `tm`): `wL` has the whole row; before, the slots `raw`, the
supplied components that the row did not bring along, are missing -/
theorem packTail_accepts {t : Nat} {F S0 : SlotState} {w1 : WM} {initial : Mask} {st : PackLife}
    (inv : LifeFold t F S0 w1 initial st) (isCreate : Bool) (wL : WM) (ti idx : Nat) (tm raw : Mask)
    (hrow : ∀ c ∈ tm, live wL F (.stored ti c idx) = true)
    (hraw : ∀ x, x ∈ raw ↔ x ∈ tm ∧ (Mask.ofList (st.p.src.map (·.1))).contains x = true ∧
      (isCreate = true ∨ x ∉ initial)) :
    accepts (removeAll (live wL F) (colSlots ti raw idx)) (packTailEvents t isCreate initial st ti idx tm) =
      some (live wL F) := by
  have hsup : ∀ x, (Mask.ofList (st.p.src.map (·.1))).contains x = true ↔ x ∈ st.srcIdx.map (·.1) := fun x => by
    rw [List.contains_iff_mem, mem_ofList, inv.keys]
  refine accepts_packTail _ t ti idx tm raw (packStale isCreate initial st.p _ tm) _ st.srcIdx
    (((maskOk_nodup inv.fin).filter _).filter _) (fun c hc => ((mem_packStale _ _ _ _ _ c).mp hc).2.2.2.2)
    (fun c hc hr => ?_) (fun c hc => ((hraw c).mp hc).1) hrow (fun ck hck => inv.temps ck hck) inv.nodup
    (fun x => ?_)
  · rcases (mem_packStale _ _ _ _ _ c).mp hc with ⟨_, _, hi, hn, _⟩
    rcases (hraw c).mp hr with ⟨_, hs, h | h⟩
    · exact hn ⟨h, hs⟩
    · exact h hi
  · rw [mem_packStale, hraw, ← hsup]
    constructor
    · rintro ⟨hs, ht⟩
      by_cases hc : isCreate = true ∨ x ∉ initial
      · exact Or.inl ⟨ht, hs, hc⟩
      · rw [not_or, Classical.not_not] at hc
        have hk := (hsup x).mp hs
        exact Or.inr ⟨⟨inv.sub x hk, inv.touched x hc.2 (Or.inl hk), hc.2, fun h => hc.1 h.1, ht⟩, hs⟩
    · rintro (⟨ht, hs, _⟩ | ⟨⟨_, _, _, _, ht⟩, hs⟩) <;> exact ⟨hs, ht⟩

theorem shapeEq_packSetVal (ti idx : Nat) (w : WM) (c : CompId) (v : Val) : ShapeEq w (packSetVal ti idx w c v) := by
  unfold packSetVal
  simp only
  split
  · exact ShapeEq.refl w
  · exact shapeEq_setRow w ti idx _

theorem packFinish_shape (e : Handle) (isCreate : Bool) (initial : Mask) (sh : Shared)
    (w : WM) (p : PackSt) (cbs : List Cb) (hd : p.dead = false) :
    ShapeEq (packMoved info e isCreate initial sh w p).1 (packFinish info e isCreate initial sh (w, p, cbs)).1 := by
  rw [packFinish_alive _ _ _ _ _ _ _ _ hd]
  exact packLoops_rel ShapeEq ShapeEq.refl (fun _ _ _ h₁ h₂ => h₁.trans h₂) shapeEq_packSetVal ..

/-- what a pack on an existing entity needs from the state: its location is a row of its archetype. (Nothing about the
archetype's mask being closed under the dependencies, nothing about its key: an entity whose set did not change stays
where it is without a lookup, and a changed set is looked up whatever the old mask was.) -/
structure TargetOK (w : WM) (e : Handle) (pi : Nat) : Prop where
  idx : (w.locOf e).idx < (w.arch pi).rows.length

theorem packFinish_accepts (t : Nat) (F : SlotState) (hF : TempOnly F) (w0 w1 : WM)
    (initial : Mask) (e : Handle) (isCreate : Bool) (sh : Shared) (st : PackLife) (cbs : List Cb)
    (inv : LifeFold t F (live w0 F) w1 initial st)
    (hnc : isCreate = false → st.p.dead = false → ∃ pi, (w1.locOf e).arch = some pi ∧ TargetOK w1 e pi ∧
      initial = (w1.arch pi).mask) :
    accepts (live w0 F) (packFinishEvents t e isCreate initial sh st) =
      some (live (packFinish info e isCreate initial sh (st.w, st.p, cbs)).1 F) ∧
    MasksOk (packFinish info e isCreate initial sh (st.w, st.p, cbs)).1 := by
  by_cases hd : st.p.dead = true
  · have : (packFinish info e isCreate initial sh (st.w, st.p, cbs)).1 = st.w := by
      rw [packFinish_dead _ _ _ _ _ _ _ _ hd]
    rw [this]
    unfold packFinishEvents
    rw [if_pos hd]
    exact ⟨inv.ok, inv.masks⟩
  · have hd' : st.p.dead = false := by simpa using hd
    rcases inv.alive hd' with ⟨hevs, harchs, hlocs⟩
    have hS0 : live w0 F = live st.w F := by
      have := inv.ok; rw [hevs] at this; exact Option.some.inj this
    have hshape := packFinish_shape info e isCreate initial sh st.w st.p cbs hd'
    have hlo : st.w.locOf e = w1.locOf e := by unfold WM.locOf; rw [hlocs]
    have harch1 : ∀ a, st.w.arch a = w1.arch a := fun a => by rw [arch_def, arch_def, harchs]
    rw [hshape.live F, hS0]
    -- the single insertion / move, then the tail
    suffices h : accepts (live st.w F) (packFinishEvents t e isCreate initial sh st) =
        some (live (packMoved info e isCreate initial sh st.w st.p).1 F) ∧
        MasksOk (packMoved info e isCreate initial sh st.w st.p).1 from ⟨h.1, hshape.masksOk h.2⟩
    rw [packFinishEvents_alive t e isCreate initial sh st hd', hevs]
    dsimp only
    rw [List.nil_append]
    -- no move: the supplied values replace stale instances of the row `(pi, idx)` the entity is in
    have hstay : ∀ (wL : WM) (pi : Nat), wL.arch pi = w1.arch pi → TargetOK w1 e pi → initial = (w1.arch pi).mask →
        accepts (live wL F) (packTailEvents t false initial st pi (w1.locOf e).idx (wL.arch pi).mask) =
          some (live wL F) := by
      intro wL pi hpa htgt hinit
      have := packTail_accepts inv false wL pi (w1.locOf e).idx (wL.arch pi).mask []
        (fun c hc => live_of_row wL F hc (by rw [hpa]; exact htgt.idx))
        (by
          intro x
          refine ⟨fun h => absurd h List.not_mem_nil, fun ⟨ht, _, h⟩ => ?_⟩
          rcases h with h | h
          · cases h
          · exact absurd (by rw [hinit, ← hpa]; exact ht) h)
      rwa [colSlots, List.map_nil, removeAll_nil] at this
    cases isCreate with
    | true =>
      unfold packMoved packMovedEvents
      rw [packTarget_create]
      cases hg : st.w.getArch st.p.final sh with
      | mk wg ti =>
      have ga := gotArch hg
      simp only [if_true]
      have nr := (archInsert_newRow info wg F hF ti e (Mask.ofList (st.p.src.map (·.1))) ga.lt
        (ga.masksOk inv.masks inv.fin)).pre (ga.live F)
      refine ⟨accepts_append_of nr.acc (packTail_accepts inv true _ ti _ _ _ (fun c hc => nr.row_live hc)
        (fun x => ?_)), nr.masksOk⟩
      rw [List.mem_filter]
      exact ⟨fun ⟨ht, hs⟩ => ⟨ht, hs, Or.inl rfl⟩, fun ⟨ht, hs, _⟩ => ⟨ht, hs⟩⟩
    | false =>
      rcases hnc rfl hd' with ⟨pi, hla, htgt, hinit⟩
      have hla' : (st.w.locOf e).arch = some pi := by rw [hlo]; exact hla
      by_cases hfin : initial = st.p.final
      · -- the set did not change: the entity stays in its archetype, nothing is looked up
        have hT := packTarget_stay e initial sh st.w st.p pi hfin hla'
        rw [packMoved_stay info e initial sh st.w st.p pi hla' hT, hT]
        simp only [packMovedEvents, hlo, hla, Bool.false_eq_true, if_false, decide_true, Bool.true_or, if_true,
          List.nil_append]
        exact ⟨hstay st.w pi (harch1 pi) htgt hinit, inv.masks⟩
      · rw [packMoved_changed info e initial sh st.w st.p pi hfin hla', packTarget_ne e false initial sh st.w st.p hfin]
        cases hg : st.w.getArch st.p.final sh with
        | mk wg ti =>
        have ga := gotArch hg
        simp only [packMovedEvents, Bool.false_eq_true, if_false, ga.locOf, hlo, hla]
        by_cases hti : pi = ti
        · -- the looked-up archetype is the entity's own
          have hpa : wg.arch pi = w1.arch pi := by
            rw [ga.old pi (by rw [harchs]; exact lt_archs_of_rows htgt.idx), harch1]
          simp only [hti, decide_true, Bool.true_or, if_true, List.nil_append, externalMove_self]
          rw [← hti, ← ga.live F]
          exact ⟨hstay wg pi hpa htgt hinit, ga.masksOk inv.masks inv.fin⟩
        · have hun : (decide (pi = ti) || initial == st.p.final) = false := by simp [hti, hfin]
          simp only [hun, Bool.false_eq_true, if_false]
          obtain ⟨⟨w2, cbs2⟩, hx⟩ := externalMove_some info wg ti e pi (w1.locOf e).idx
            (Mask.ofList (st.p.src.map (·.1))) (Ne.symm hti)
          have nr := move_newRow info ga e pi _ _ F hF inv.masks inv.fin (by rw [harch1]; exact htgt.idx) _ hx
          rw [hx]
          refine ⟨accepts_append_of nr.acc (packTail_accepts inv false _ ti _ _ _ (fun c hc => nr.row_live hc)
            (fun x => ?_)), nr.masksOk⟩
          rw [List.mem_filter, hinit, ← harch1]
          simp only [Bool.and_eq_true, Bool.not_eq_true', List.contains_iff_mem, ← Bool.not_eq_true,
            Bool.false_eq_true, false_or]
          exact ⟨fun ⟨ht, hp, hs⟩ => ⟨ht, hs, hp⟩, fun ⟨ht, hs, hp⟩ => ⟨ht, hp, hs⟩⟩

end Mustache.Proofs.Life
