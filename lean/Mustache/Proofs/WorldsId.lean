import Mustache.Model.Worlds
import Mustache.Proofs.RowsPack
/-! # No operation of the world model touches `worldId` (`this_world_id_`), the id stamped into handles (C17)

For the primitives this is a field of the frames `Rows.SameTable` / `Rows.SameCtl`; for the API operations it
follows by going through their branches. -/
namespace Mustache.Proofs.WorldsId
open Mustache.Model

@[simp] theorem setArch_wid (w : WM) (i a) : (w.setArch i a).worldId = w.worldId := rfl
@[simp] theorem ensureId_wid (w : WM) (i) : (w.ensureId i).worldId = w.worldId := rfl
@[simp] theorem pushCmd_wid (w : WM) (t c) : (w.pushCmd t c).worldId = w.worldId := rfl

section
variable (w : WM)

theorem setLoc_wid (h a i) : (w.setLoc h a i).worldId = w.worldId :=
  (Rows.sameTable_setLoc w h a i).worldId

theorem allocId_wid : w.allocId.1.worldId = w.worldId := by
  unfold WM.allocId
  split
  · rfl
  · split <;> rfl

theorem getArch_wid (m s) : (w.getArch m s).1.worldId = w.worldId :=
  (Rows.getArch_sameTable w m s).worldId

end

variable (info : CompId → CompInfo) (w : WM)

theorem archInsert_wid (ai e skip) : (w.archInsert info ai e skip).1.worldId = w.worldId :=
  (Rows.archInsert_sameTable info w ai e skip).worldId

theorem externalMove_wid (t e p pi skip) (r) (h : w.externalMove info t e p pi skip = some r) :
    r.1.worldId = w.worldId :=
  (Rows.externalMove_sameTable info w t e p pi skip r h).worldId

theorem destroyNowU_wid (h) : (w.destroyNowU info h).1.worldId = w.worldId :=
  (Rows.destroyNowU_ctl info w h).worldId

theorem foldl_wid_of {σ α : Type} (g : σ → WM) (f : σ → α → σ) (l : List α) (init : σ)
    (hf : ∀ acc a, (g (f acc a)).worldId = (g acc).worldId) : (g (l.foldl f init)).worldId = (g init).worldId :=
  List.foldlRecOn l f (motive := fun acc => (g acc).worldId = (g init).worldId) rfl
    (fun acc h a _ => (hf acc a).trans h)

theorem foldl_wid {α β : Type} (f : WM × β → α → WM × β) (l : List α) (init : WM × β)
    (hf : ∀ acc a, (f acc a).1.worldId = acc.1.worldId) : (l.foldl f init).1.worldId = init.1.worldId :=
  foldl_wid_of Prod.fst f l init hf

theorem foldl3_wid {α β γ : Type} (f : WM × β × γ → α → WM × β × γ) (l : List α) (init : WM × β × γ)
    (hf : ∀ acc a, (f acc a).1.worldId = acc.1.worldId) : (l.foldl f init).1.worldId = init.1.worldId :=
  foldl_wid_of Prod.fst f l init hf

/-! `split` re-analyses the whole goal and is slow to check on the large bodies of the API operations, hence these two
lemmas for an `if`. -/

theorem ite_wid {c : Prop} [Decidable c] {a b w : WM} (ha : a.worldId = w.worldId) (hb : b.worldId = w.worldId) :
    (if c then a else b).worldId = w.worldId := by
  split
  · exact ha
  · exact hb

theorem ite_fst_wid {β : Type} {c : Prop} [Decidable c] {a b : WM × β} {w : WM} (ha : a.1.worldId = w.worldId)
    (hb : b.1.worldId = w.worldId) : (if c then a else b).1.worldId = w.worldId := by
  split
  · exact ha
  · exact hb

theorem createLocked_wid (t m s) : (w.createLocked t m s).1.worldId = w.worldId := rfl

theorem create_wid (t m s) : (w.create info t m s).1.worldId = w.worldId :=
  ite_fst_wid rfl (by simp only [archInsert_wid, allocId_wid, getArch_wid])

theorem update_wid : (w.update info).1.worldId = w.worldId :=
  ite_fst_wid rfl (foldl_wid _ _ _ (fun acc h => destroyNowU_wid info acc.1 h))

theorem destroy_wid (t e) : (w.destroy t e).worldId = w.worldId :=
  ite_wid rfl (ite_wid rfl rfl)

theorem destroyNow_wid (t e) : (w.destroyNow info t e).1.worldId = w.worldId :=
  ite_fst_wid rfl (destroyNowU_wid info w e)

theorem lock_wid : w.lock.worldId = w.worldId :=
  ite_wid rfl rfl

/-- the shape shared by `assign`, `removeComponent`, `assignShared`, `removeSharedComponent` and the builder: look the
    target archetype up in `w`, then move the entity there -/
theorem getArch_move_wid (m sh e p pi skip) (r)
    (h : (w.getArch m sh).1.externalMove info (w.getArch m sh).2 e p pi skip = some r) : r.1.worldId = w.worldId :=
  (externalMove_wid info _ _ _ _ _ _ r h).trans (getArch_wid w m sh)

theorem assign_wid (t e c v) : (w.assign info t e c v).1.worldId = w.worldId := by
  refine ite_fst_wid (ite_wid rfl rfl) ?_
  dsimp only
  split
  · rfl
  · split
    · exact getArch_wid w _ _
    · rename_i w' cbs hr
      have := getArch_move_wid info w _ _ _ _ _ _ (w', cbs) hr
      split <;> exact this

theorem removeComp_wid (t e c) : (w.removeComp info t e c).1.worldId = w.worldId := by
  refine ite_fst_wid rfl (ite_fst_wid rfl ?_)
  dsimp only
  split
  · rfl
  · refine ite_fst_wid rfl ?_
    split
    · exact getArch_wid w _ _
    · rename_i w' cbs hr
      exact getArch_move_wid info w _ _ _ _ _ _ (w', cbs) hr

theorem clearArch_wid (ai) : (w.clearArch info ai).1.worldId = w.worldId :=
  foldl_wid_of id _ _ w (fun _ _ => rfl)

theorem clone_wid (e) : (w.clone e).1.worldId = w.worldId := by
  refine ite_fst_wid rfl ?_
  dsimp only
  split
  · rfl
  · simp only [setLoc_wid, setArch_wid, allocId_wid]

theorem sassign_wid (e s v) : (w.sassign info e s v).1.worldId = w.worldId := by
  unfold WM.sassign
  dsimp only
  split
  · rfl
  · split
    · exact (getArch_wid _ _ _).trans (poolGet_worldId w s v)
    · rename_i w' cbs hr
      exact (getArch_move_wid info _ _ _ _ _ _ _ (w', cbs) hr).trans (poolGet_worldId w s v)

theorem sremove_wid (e s) : (w.sremove info e s).1.worldId = w.worldId := by
  refine ite_fst_wid rfl ?_
  dsimp only
  split
  · rfl
  · refine ite_fst_wid rfl ?_
    split
    · exact getArch_wid w _ _
    · rename_i w' cbs hr
      exact getArch_move_wid info w _ _ _ _ _ _ (w', cbs) hr

theorem buildUpdateU_wid (e adds rems) : (w.buildUpdateU info e adds rems).1.worldId = w.worldId := by
  unfold WM.buildUpdateU
  dsimp only
  split
  · rfl
  · split
    · exact getArch_wid w _ _
    · rename_i w' cbs hr
      refine (foldl_wid _ _ _ (fun acc a => ?_)).trans (getArch_move_wid info w _ _ _ _ _ _ (w', cbs) hr)
      split <;> rfl

theorem buildNewU_wid (adds) : (w.buildNewU info adds).1.worldId = w.worldId := by
  unfold WM.buildNewU
  dsimp only
  refine ite_fst_wid ?_ ?_
  · simp only [archInsert_wid, getArch_wid, allocId_wid]
  · refine (foldl_wid _ _ _ (fun acc a => ?_)).trans ?_
    · split <;> rfl
    · simp only [archInsert_wid, getArch_wid, allocId_wid]

theorem applyPack_wid (pack) : (w.applyPack info pack).1.worldId = w.worldId :=
  (Mustache.Proofs.Rows.applyPack_ctl info w pack).worldId

theorem flush_wid : (w.flush info).1.worldId = w.worldId :=
  foldl_wid _ _ _ (fun _ _ => foldl_wid _ _ _ (fun acc p => applyPack_wid info acc.1 p))

theorem unlock_wid : (w.unlock info).1.worldId = w.worldId := by
  unfold WM.unlock
  extract_lets w'
  have : w'.worldId = w.worldId := by
    simp only [w']
    split <;> rfl
  split
  · exact (flush_wid info w').trans this
  · exact this

theorem step_wid (op : Op Handle) : (w.step info op).1.worldId = w.worldId := by
  -- `dsimp` turns the pair patterns of `WM.step` into projections without unfolding the operations; the queries and
  -- `dep` are closed by it
  cases op <;> dsimp only [WM.step]
  case create t mask shared =>
    refine (create_wid info _ t mask _).trans (foldl_wid _ _ _ (fun acc sid => ?_))
    dsimp only
    exact poolGet_worldId acc.1 sid 0
  case assign t e c v => exact assign_wid info w t e c v
  case remove t e c => exact removeComp_wid info w t e c
  case buildNew t adds =>
    refine ite_fst_wid ?_ (buildNewU_wid info w adds)
    refine (foldl_wid _ _ _ (fun acc p => ?_)).trans (createLocked_wid w t _ _)
    dsimp only
    exact assign_wid info acc.1 t _ p.1 p.2
  case build t e adds rems =>
    refine ite_fst_wid ?_ (buildUpdateU_wid info w e adds rems)
    refine (foldl_wid_of id _ _ _ (fun acc c => removeComp_wid info acc t e c)).trans
      (foldl_wid _ _ _ (fun acc p => ?_))
    dsimp only
    exact assign_wid info acc.1 t e p.1 p.2
  case destroy t e => exact destroy_wid w t e
  case destroyNow t e => exact destroyNow_wid info w t e
  case clone e =>
    split <;> rename_i heq <;> exact (congrArg (·.1.worldId) heq).symm.trans (clone_wid w e)
  case sassign e sid v => exact sassign_wid info w e sid v
  case sremove e sid => exact sremove_wid info w e sid
  case clearArch mask => exact ite_fst_wid (clearArch_wid info w _) rfl
  case update => exact update_wid info w
  case lock => exact lock_wid w
  case unlock => exact unlock_wid info w

end Mustache.Proofs.WorldsId
