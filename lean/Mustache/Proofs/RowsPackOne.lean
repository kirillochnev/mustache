import Mustache.Proofs.RowsPackInv
/-!
# One-command packs mean what the command means when issued unlocked

After the start and the one `packStep`, the finish is `packFinish_nostale` (nothing was replaced) and the
move is `packMoved_changed` / `packMoved_stay`: what is left is the comparison with the unlocked operation.
-/
namespace Mustache.Proofs.Rows
open Mustache.Model

/-- `[destroyNow e]` applied as a pack is exactly the unlocked `destroyNow e` — state and callbacks —
for every handle that is invalid or located -/
theorem applyPack_destroyNow (info : CompId → CompInfo) (w : WM) (e : Handle)
    (h : w.isValid e = false ∨ (w.locOf e).arch.isSome = true) :
    w.applyPack info [.destroyNow e] = w.destroyNowU info e := by
  rw [applyPack_eq, packStart_other w _ rfl]
  by_cases hv : w.isValid e = true
  · cases hla : (w.locOf e).arch with
    | none =>
      rcases h with h | h
      · rw [hv] at h; cases h
      · rw [hla] at h; cases h
    | some ai =>
      simp only [Cmd.entity, hv, Bool.not_true, Bool.false_eq_true, if_false, hla, isCreateCmd,
        List.foldl_cons, List.foldl_nil]
      unfold packStep packFinish
      simp
  · have hv' : w.isValid e = false := by simpa using hv
    simp only [Cmd.entity, hv', Bool.not_false, if_true]
    simp [WM.destroyNowU, hv']

theorem getArch_congr (w : WM) (m m' : Mask) (sh : Shared)
    (h : closedMask w.deps m = closedMask w.deps m') : w.getArch m sh = w.getArch m' sh := by
  unfold WM.getArch
  unfold closedMask at h
  simp only [h]

/-- `[remove e c]` applied as a pack = the unlocked `removeComponent<c>(e)`, state and callbacks, on a
valid located entity. C13 facts used: the entity's archetype mask is closed (`hclosed`), the closure
is idempotent on the reduced mask (`hidem`); `hout`: the removal is effective (the closure of the
reduced mask does not bring `c` back). -/
theorem applyPack_remove (info : CompId → CompInfo) (w : WM) (t : Nat) (e : Handle) (c : CompId) (pi : Nat)
    (hl : w.isLocked = false) (hv : w.isValid e = true) (hla : (w.locOf e).arch = some pi)
    (_hpi : pi < w.archs.length)
    (_hclosed : closedMask w.deps (w.arch pi).mask = (w.arch pi).mask)
    (hidem : closedMask w.deps (closedMask w.deps (Mask.erase (w.arch pi).mask c)) =
      closedMask w.deps (Mask.erase (w.arch pi).mask c))
    (hout : c ∈ (w.arch pi).mask → c ∉ closedMask w.deps (Mask.erase (w.arch pi).mask c)) :
    w.applyPack info [.remove e c] = w.removeComp info t e c := by
  rw [applyPack_eq, packStart_other w _ rfl]
  simp only [Cmd.entity, hv, Bool.not_true, Bool.false_eq_true, if_false, hla, isCreateCmd,
    List.foldl_cons, List.foldl_nil, packInit_existing]
  unfold WM.removeComp
  simp only [hl, Bool.false_eq_true, if_false, hv, Bool.not_true, hla]
  by_cases hc : c ∈ (w.arch pi).mask
  · have hcc : (w.arch pi).mask.contains c = true := by simpa using hc
    have hnc : (closedMask w.deps (Mask.erase (w.arch pi).mask c)).contains c = false := by
      simpa using hout hc
    have hne : (w.arch pi).mask ≠ closedMask w.deps (Mask.erase (w.arch pi).mask c) :=
      fun heq => hout hc (heq ▸ hc)
    have hstep : packStep info e false (w, { final := (w.arch pi).mask }, []) (.remove e c) =
        (w, { final := closedMask w.deps (Mask.erase (w.arch pi).mask c), replaced := Mask.insert [] c,
              src := [] }, []) := by
      unfold packStep
      simp only [Bool.false_eq_true, if_false, hcc, if_true, hnc, List.filter_nil]
    rw [hstep, packFinish_nostale info e false _ _ w _ [] rfl, packMoved_changed info e _ _ w _ pi hne hla,
      getArch_congr w _ _ _ hidem]
    · simp only [hcc, Bool.not_true, Bool.false_eq_true, if_false, List.map_nil, Mask.ofList, List.foldl_nil,
        List.nil_append, List.append_nil]
      cases (w.getArch (Mask.erase (w.arch pi).mask c) (w.arch pi).shared).1.externalMove info
          (w.getArch (Mask.erase (w.arch pi).mask c) (w.arch pi).shared).2 e pi (w.locOf e).idx [] <;> rfl
    · -- the only replaced component is `c`, which is gone
      intro x hx hr
      rcases (mem_insert [] c x).mp hr with rfl | h
      · exact absurd hx (hout hc)
      · cases h
  · -- the component is absent: the set is unchanged and the entity stays where it is
    have hcc : (w.arch pi).mask.contains c = false := by simpa using hc
    have hstep : packStep info e false (w, { final := (w.arch pi).mask }, []) (.remove e c) =
        (w, { final := (w.arch pi).mask }, []) := by
      unfold packStep
      simp only [Bool.false_eq_true, if_false, hcc]
    rw [hstep, packFinish_nostale info e false _ _ w _ [] rfl (fun _ _ h => absurd h List.not_mem_nil),
      packMoved_stay info e (w.arch pi).mask (w.arch pi).shared w { final := (w.arch pi).mask } pi hla
        (packTarget_stay e _ _ w _ pi rfl hla)]
    simp only [hcc, Bool.not_false, if_true, List.foldl_nil, List.append_nil]

/-- `externalMove` looks at the skip set only for the components the source archetype lacks -/
theorem externalMove_skip_congr (info : CompId → CompInfo) (w : WM) (t : Nat) (e : Handle) (p i : Nat)
    (skip skip' : Mask)
    (h : ∀ c' ∈ (w.arch t).mask, c' ∉ (w.arch p).mask → skip.contains c' = skip'.contains c') :
    w.externalMove info t e p i skip = w.externalMove info t e p i skip' := by
  by_cases hne : t = p
  · subst hne; rw [externalMove_self, externalMove_self]
  · rw [externalMove_eq2 info w t e p i skip hne, externalMove_eq2 info w t e p i skip' hne]
    have hvals : moveVals info w t p i skip = moveVals info w t p i skip' := by
      unfold moveVals
      apply List.map_congr_left
      intro c' hc'
      cases hidx : (w.arch p).mask.indexOf? c' with
      | some k => rfl
      | none =>
        have hnm : c' ∉ (w.arch p).mask := fun hm => by
          rw [(indexOf?_of_mem hm).1] at hidx; cases hidx
        simp only [h c' hc' hnm]
    have hcbs : moveCbs info w t e p skip = moveCbs info w t e p skip' := by
      unfold moveCbs
      congr 1
      apply List.filter_congr
      intro c' hc'
      by_cases hm : c' ∈ (w.arch p).mask
      · simp [hm]
      · rw [h c' hc' hm]
    rw [hvals, hcbs]

/-- `[assign e c v]` (with `v` the value the locked `assign<c>(e, tok)` records) applied as a pack =
the unlocked `assign<c>(e, tok)`: same state, same callbacks. For a valid located entity that does
not have `c` yet. C13 facts used: the entity's archetype mask is closed (`hclosed`), the closure is
idempotent on the widened mask (`hidem`). -/
theorem applyPack_assign (info : CompId → CompInfo) (w : WM) (t : Nat) (e : Handle) (c : CompId) (tok : Nat)
    (pi : Nat) (hl : w.isLocked = false) (hv : w.isValid e = true) (hla : (w.locOf e).arch = some pi)
    (hpi : pi < w.archs.length)
    (_hclosed : closedMask w.deps (w.arch pi).mask = (w.arch pi).mask)
    (hidem : closedMask w.deps (closedMask w.deps (Mask.insert (w.arch pi).mask c)) =
      closedMask w.deps (Mask.insert (w.arch pi).mask c))
    (hnew : c ∉ (w.arch pi).mask) :
    w.applyPack info [.assign e c (storedOf info c (some tok))] =
      ((w.assign info t e c (some tok)).1, (w.assign info t e c (some tok)).2.2) ∧
    (w.assign info t e c (some tok)).2.1 = .ok := by
  have hcm : c ∈ closedMask w.deps (Mask.insert (w.arch pi).mask c) :=
    mem_closedMask_of_mem _ _ _ ((mem_insert _ _ _).mpr (Or.inl rfl))
  have hne : (w.arch pi).mask ≠ closedMask w.deps (Mask.insert (w.arch pi).mask c) :=
    fun heq => hnew (heq ▸ hcm)
  have hpc : (w.arch pi).mask.contains c = false := by simpa using hnew
  -- the archetype both paths look up, and the move both make
  have hkey := getArch_key w (Mask.insert (w.arch pi).mask c) (w.arch pi).shared
  have harchpi := getArch_arch_lt w (Mask.insert (w.arch pi).mask c) (w.arch pi).shared pi hpi
  have hlt := getArch_idx_lt w (Mask.insert (w.arch pi).mask c) (w.arch pi).shared
  have hg : w.getArch (closedMask w.deps (Mask.insert (w.arch pi).mask c)) (w.arch pi).shared =
      w.getArch (Mask.insert (w.arch pi).mask c) (w.arch pi).shared := getArch_congr w _ _ _ hidem
  generalize hgdef : w.getArch (Mask.insert (w.arch pi).mask c) (w.arch pi).shared = g at hkey harchpi hlt hg
  have hti : g.2 ≠ pi := by
    intro heq
    rw [heq, harchpi] at hkey
    exact hne hkey.1
  -- the pack skips the constructor of `c` only, `assign` of the whole new mask: the same for what is new
  have hskip := externalMove_skip_congr info g.1 g.2 e pi (w.locOf e).idx
    (Mask.insert [] c) (Mask.insert (w.arch pi).mask c) (by
      intro c' _ hc'
      rw [harchpi] at hc'
      by_cases hcc : c' = c
      · subst hcc
        have : c' ∈ Mask.insert (w.arch pi).mask c' := (mem_insert _ _ _).mpr (Or.inl rfl)
        simpa [Mask.insert] using this
      · have : c' ∉ Mask.insert (w.arch pi).mask c := fun hm =>
          ((mem_insert _ _ _).mp hm).elim hcc hc'
        simp [Mask.insert, hcc, this])
  have hmove := externalMove_eq2 info g.1 g.2 e pi (w.locOf e).idx (Mask.insert (w.arch pi).mask c) hti
  generalize moveCbs _ _ _ _ _ _ ++ _ = cbs at hmove
  have hks := externalMove_keysSame info _ _ e pi (w.locOf e).idx _ _ hmove
  generalize insertRow _ _ _ _ = w2 at hmove hks
  have hmask2 : (w2.arch g.2).mask = closedMask w.deps (Mask.insert (w.arch pi).mask c) :=
    ((hks.key _).1).trans hkey.1
  have hassign : w.assign info t e c (some tok) =
      (packSetVal g.2 (w2.locOf e).idx w2 c (storedOf info c (some tok)), .ok,
        cbs ++ (if (info c).callbacks then [Cb.assign c e] else [])) := by
    unfold WM.assign
    simp only [hl, Bool.false_eq_true, if_false, hla, Option.isSome_some, if_true, hgdef, hmove, packSetVal,
      storedOf, Bool.and_true]
    cases (w2.arch g.2).mask.indexOf? c <;> rfl
  rw [hassign]
  refine ⟨?_, rfl⟩
  have hstep : packStep info e false (w, { final := (w.arch pi).mask }, [])
        (.assign e c (storedOf info c (some tok))) =
      (w, { final := closedMask w.deps (Mask.insert (w.arch pi).mask c),
            src := [(c, storedOf info c (some tok))] }, []) := by
    unfold packStep
    simp only [Bool.false_eq_true, if_false, hpc, List.filter_nil, List.nil_append]
  rw [applyPack_eq, packStart_other w _ rfl]
  simp only [Cmd.entity, hv, Bool.not_true, Bool.false_eq_true, if_false, hla, isCreateCmd,
    List.foldl_cons, List.foldl_nil, packInit_existing]
  rw [hstep, packFinish_nostale info e false _ _ w _ [] rfl (fun _ _ h => absurd h List.not_mem_nil),
    packMoved_changed info e _ _ w _ pi hne hla, packTarget_ne e false _ _ w _ hne]
  have hc2 : (w2.arch g.2).mask.contains c = true := by rw [hmask2]; simpa using hcm
  simp only [hg, List.map_cons, List.map_nil, Mask.ofList, List.foldl_cons, List.foldl_nil, hskip, hmove, packSupplyStep,
    hc2, if_true, List.nil_append]

end Mustache.Proofs.Rows
