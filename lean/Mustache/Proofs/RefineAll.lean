import Mustache.Proofs.RefineLocked
import Mustache.Proofs.RefineAssign
import Mustache.Proofs.RefineRemove
import Mustache.Proofs.RefineShared
import Mustache.Proofs.RefineClear
import Mustache.Proofs.RefineBuildNew
/-!
# Refinement: every operation except the flushing `unlock`, one theorem
-/
namespace Mustache.Proofs.Refine
open Mustache.Model Mustache.Spec
open Mustache.Proofs.IdTable (tabOf Ghost TInv)
open Mustache.Proofs.Rows

variable (info : CompId → CompInfo) {c : CW} {s : WS}

theorem dep_refines (hi : Inv c) (hr : Rel c s) (comp : CompId) (extra : Mask)
    (hex : ∀ x ∈ extra, x < 128) : StepRefines info c s (.dep comp extra) :=
  StepRefines.intro (w' := { c.w with deps := addDependency c.w.deps comp extra })
    (s' := { s with deps := addDependency s.deps comp extra }) info rfl rfl
    (inv_set_marked hi _ c.w.marked (addDependency_bounded hi.depsB comp hex) hi.markedKnown hi.markedRange hi.markedSorted)
    { hr with deps := congrArg (addDependency · comp extra) hr.deps } (agree_ok_nil _ _ rfl)

theorem isLocked_cases (w : WM) : w.isLocked = true ∨ w.isLocked = false := by
  cases w.isLocked <;> simp

theorem step_refines_nonunlock (hi : Inv c) (hb : Bounds c) (hr : Rel c s) (op : Op Handle)
    (hwf : OpWf c op) (hb' : Bounds (c.step info op).1) (hnu : isUnlockOp op = false) : StepRefines info c s op := by
  cases op with
  | create t mask shared =>
    rcases isLocked_cases c.w with hl | hl
    · exact create_locked_refines info hi hr hl t mask shared hwf.1 hwf.2
    · exact create_unlocked_refines info hi hb hr hl t mask shared hwf.2 hb'
  | assign t e comp v =>
    rcases isLocked_cases c.w with hl | hl
    · exact edit_locked_refines info hi hr hl t e (.assign comp v) ((if_pos hl).mp hwf.2)
    · have := (if_neg (Bool.eq_false_iff.mp hl)).mp hwf.2
      exact assign_unlocked_refines info hi hb hr hl t e comp v this.1 this.2
  | remove t e comp =>
    rcases isLocked_cases c.w with hl | hl
    · exact edit_locked_refines info hi hr hl t e (.remove comp) (hwf.2 hl)
    · exact remove_unlocked_refines info hi hb hr hl t e comp
  | buildNew t adds =>
    rcases isLocked_cases c.w with hl | hl
    · exact buildNew_locked_refines info hi hr hl t adds hwf.1
    · exact buildNew_unlocked_refines info hi hb hr hl t adds hwf.2 hb'
  | build t e adds rems =>
    rcases isLocked_cases c.w with hl | hl
    · exact edit_locked_refines info hi hr hl t e (.build adds rems) ((if_pos hl).mp hwf.2.2)
    · have := (if_neg (Bool.eq_false_iff.mp hl)).mp hwf.2.2
      exact build_unlocked_refines info hi hb hr hl t e adds rems this.1 hwf.2.1 this.2
  | destroy t e =>
    rcases isLocked_cases c.w with hl | hl
    · exact edit_locked_refines info hi hr hl t e .destroy (hwf.2 hl)
    · exact destroy_unlocked_refines info hi hb hr hl t e
  | destroyNow t e =>
    rcases isLocked_cases c.w with hl | hl
    · exact edit_locked_refines info hi hr hl t e .destroyNow (hwf.2 hl)
    · exact destroyNow_unlocked_refines info hi hb hr hl t e
  | clone e => exact clone_refines info hi hb hr hwf e hb'
  | sassign e sid v => exact sassign_refines info hi hb hr e sid v hwf.2
  | sremove e sid => exact sremove_refines info hi hb hr e sid
  | clearArch mask => exact clearArch_refines info hi hb hr mask hwf.2
  | update =>
    rcases isLocked_cases c.w with hl | hl
    · exact update_locked_refines info hi hr hl
    · exact update_unlocked_refines info hi hb hr hl
  | lock => exact lock_refines info hi hr
  | unlock => cases hnu
  | dep comp extra => exact dep_refines info hi hr comp extra hwf
  | valid e => exact noop_refines info hi hr rfl rfl rfl rfl (valid_refines hi hb hr e)
  | has e comp => exact noop_refines info hi hr rfl rfl rfl rfl (has_refines hi hb hr e comp)
  | hasShared e sid => exact noop_refines info hi hr rfl rfl rfl rfl (hasShared_refines hi hb hr e sid)
  | get e comp => exact noop_refines info hi hr rfl rfl rfl rfl (get_refines hi hb hr e comp)
  | archOf e => exact noop_refines info hi hr rfl rfl rfl rfl (archOf_refines hi hb hr e)

end Mustache.Proofs.Refine
