import Mustache.Model.Worlds
/-! # Process model (C17): the allocator and the product of worlds — invariants for all histories

`leastFree` is characterised once; `step_origin` says where each live world after a step comes from, and the per-step
invariants (ids in range, `wm` stamped with the id) are read off it. Distinctness of ids is a `Pairwise` over the
creation-ordered list of live worlds (`FreshIf`). -/
namespace Mustache.Proofs.Worlds
open Mustache.Model


theorem pigeon (k : Nat) (used : List Nat) (h : ∀ n, n < k → n ∈ used) : k ≤ used.length :=
  List.length_range (n := k) ▸ List.nodup_range.length_le_of_subset (fun n hn => h n (List.mem_range.mp hn))

/-- the loop keeps "everything below `n` is used"; it can only run out of fuel when `used` has more members than
    its length -/
theorem leastFreeFrom_spec (used : List Nat) : ∀ (fuel n : Nat), (∀ m, m < n → m ∈ used) →
    used.length + 1 ≤ fuel + n →
    leastFreeFrom used fuel n ∉ used ∧ (∀ m, m < leastFreeFrom used fuel n → m ∈ used)
  | 0, n, hlt, hf =>
    absurd (Nat.le_trans (Nat.zero_add n ▸ hf) (pigeon n used hlt)) (Nat.not_succ_le_self _)
  | fuel + 1, n, hlt, hf => by
    unfold leastFreeFrom
    by_cases hc : used.contains n = true
    · rw [if_pos hc]
      refine leastFreeFrom_spec used fuel (n + 1) (fun m hm => ?_) (Nat.succ_add_eq_add_succ fuel n ▸ hf)
      by_cases h : m = n
      · exact h ▸ List.contains_iff_mem.mp hc
      · exact hlt m (Nat.lt_of_le_of_ne (Nat.le_of_lt_succ hm) h)
    · rw [if_neg hc]
      exact ⟨fun hm => hc (List.contains_iff_mem.mpr hm), hlt⟩

theorem leastFree_spec (used : List Nat) : leastFree used ∉ used ∧ ∀ m, m < leastFree used → m ∈ used :=
  leastFreeFrom_spec used (used.length + 1) 0 (fun _ h => absurd h (Nat.not_lt_zero _)) (Nat.le_refl _)

/-- the result is bounded by the size of ANY list that covers `used` (so duplicates do not count) -/
theorem leastFree_le_cover (used cover : List Nat) (h : ∀ m, m ∈ used → m ∈ cover) : leastFree used ≤ cover.length :=
  pigeon _ cover (fun m hm => h m ((leastFree_spec used).2 m hm))


theorem worlds_nextWorldId (p : Proc) : p.nextWorldId.1.worlds = p.worlds := rfl
theorem nextSlot_nextWorldId (p : Proc) : p.nextWorldId.1.nextSlot = p.nextSlot := rfl

theorem nextWorldId_fresh (p : Proc) : p.nextWorldId.2 ∉ p.reserved ∧ p.nextWorldId.2 ∉ p.liveIds := by
  have h := (leastFree_spec (p.reserved ++ p.liveIds)).1
  simp only [List.mem_append, not_or] at h
  exact h

theorem nextWorldId_le_load (p : Proc) : p.nextWorldId.2 ≤ p.load := by
  have h := leastFree_le_cover (p.reserved ++ p.liveIds) (p.liveIds ++ p.pending) (by
    intro m hm
    simp only [List.mem_append] at hm ⊢
    rcases hm with hm | hm
    · by_cases hl : m ∈ p.liveIds
      · exact Or.inl hl
      · right
        simp only [Proc.pending, List.mem_filter]
        exact ⟨hm, by simpa using hl⟩
    · exact Or.inl hm)
  simpa [Proc.load, Proc.liveIds, Proc.nextWorldId] using h

theorem worlds_destroy (p : Proc) (slot : Nat) : (p.destroy slot).worlds = p.worlds.filter (·.slot != slot) := by
  unfold Proc.destroy
  split
  · rename_i h
    exact (List.filter_eq_self.mpr fun e he => by simpa using List.find?_eq_none.mp h e he).symm
  · rfl

theorem mem_construct {p : Proc} {id : Nat} {a s : Bool} {e : WEntry} :
    e ∈ (p.construct id a s).worlds ↔ e ∈ p.worlds ∨ e = ⟨p.nextSlot, id, a, s, freshWM id s⟩ :=
  List.mem_append.trans (or_congr Iff.rfl List.mem_singleton)

theorem step_origin (p : Proc) (op : POp) (e' : WEntry) (he : e' ∈ (p.step op).worlds) :
    (∃ e ∈ p.worlds, e'.id = e.id ∧ e'.auto = e.auto ∧ (e'.wm = e.wm ∨ ∃ s f, op = .onWorld s f ∧ e'.wm = f e.wm)) ∨
    (∃ s, op = .newAuto s ∧ e'.id = p.nextWorldId.2 ∧ e'.auto = true ∧ e'.wm = freshWM e'.id s) ∨
    (∃ i s, op = .newExplicit i s ∧ e'.id = i ∧ e'.auto = false ∧ e'.wm = freshWM i s) := by
  cases op with
  | newAuto s =>
    rcases mem_construct.mp he with he | rfl
    · exact Or.inl ⟨e', he, rfl, rfl, Or.inl rfl⟩
    · exact Or.inr (Or.inl ⟨s, rfl, rfl, rfl, rfl⟩)
  | newExplicit i s =>
    rcases mem_construct.mp he with he | rfl
    · exact Or.inl ⟨e', he, rfl, rfl, Or.inl rfl⟩
    · exact Or.inr (Or.inr ⟨i, s, rfl, rfl, rfl, rfl⟩)
  | reserve => exact Or.inl ⟨e', he, rfl, rfl, Or.inl rfl⟩
  | drop slot =>
    change e' ∈ (p.destroy slot).worlds at he
    rw [worlds_destroy] at he
    exact Or.inl ⟨e', (List.mem_filter.mp he).1, rfl, rfl, Or.inl rfl⟩
  | onWorld slot f =>
    obtain ⟨e, hm, rfl⟩ := List.mem_map.mp he
    refine Or.inl ⟨e, hm, ?_⟩
    split
    · exact ⟨rfl, rfl, Or.inr ⟨slot, f, rfl, rfl⟩⟩
    · exact ⟨rfl, rfl, Or.inl rfl⟩


/-- contract of the caller: an explicit id does not name a live world at the moment it is used -/
def ExplicitFresh : Proc → List POp → Prop
  | _, [] => True
  | p, .newExplicit i s :: ops => i ∉ p.liveIds ∧ ExplicitFresh (p.step (.newExplicit i s)) ops
  | p, op :: ops => ExplicitFresh (p.step op) ops

theorem ExplicitFresh.cons {p : Proc} {op : POp} {ops : List POp} (h : ExplicitFresh p (op :: ops)) :
    (∀ i s, op = .newExplicit i s → i ∉ p.liveIds) ∧ ExplicitFresh (p.step op) ops := by
  cases op with
  | newExplicit i s => exact ⟨fun _ _ hc => (by cases hc; exact h.1), h.2⟩
  | _ => exact ⟨fun _ _ hc => (nomatch hc), h⟩

/-- a later-built world of the kind `P` (`P true`: automatically numbered, `P false`: explicitly numbered) does not share
    its id with an earlier live world. `worlds` is in creation order, so this is the relation of a `Pairwise`. -/
def FreshIf (P : Bool → Prop) (a b : WEntry) : Prop := P b.auto → a.id ≠ b.id

theorem id_ne_of_not_live {p : Proc} {i : Nat} (h : i ∉ p.liveIds) : ∀ a ∈ p.worlds, a.id ≠ i :=
  fun a ha e => h (List.mem_map.mpr ⟨a, ha, e⟩)

theorem pairwise_construct {R : WEntry → WEntry → Prop} {p : Proc} (h : p.worlds.Pairwise R) (id : Nat) (a s : Bool)
    (hnew : ∀ e ∈ p.worlds, R e ⟨p.nextSlot, id, a, s, freshWM id s⟩) : (p.construct id a s).worlds.Pairwise R :=
  List.pairwise_append.mpr ⟨h, List.pairwise_singleton _ _, fun e he _ hb => List.mem_singleton.mp hb ▸ hnew e he⟩

/-- an automatic id is fresh because `nextWorldId` skips the live ids; an explicit one when the caller says so; the
    other operations only delete worlds or rewrite their `wm` -/
theorem step_freshIf (P : Bool → Prop) (p : Proc) (op : POp) (h : p.worlds.Pairwise (FreshIf P))
    (hx : ∀ i s, op = .newExplicit i s → P false → i ∉ p.liveIds) : (p.step op).worlds.Pairwise (FreshIf P) := by
  cases op with
  | newAuto s =>
    exact pairwise_construct (p := p.nextWorldId.1) h _ true s
      (fun e he _ => id_ne_of_not_live (nextWorldId_fresh p).2 e he)
  | newExplicit i s =>
    exact pairwise_construct h i false s (fun e he hP => id_ne_of_not_live (hx i s rfl hP) e he)
  | reserve => exact h
  | drop slot =>
    show (p.destroy slot).worlds.Pairwise _
    rw [worlds_destroy]
    exact h.filter _
  | onWorld slot f =>
    refine h.map _ (fun a b hab => ?_)
    unfold FreshIf at hab ⊢
    split <;> split <;> exact hab

theorem run_freshIf (P : Bool → Prop) (ops : List POp) : ∀ (p : Proc), p.worlds.Pairwise (FreshIf P) →
    (P false → ExplicitFresh p ops) → (p.run ops).worlds.Pairwise (FreshIf P) := by
  induction ops with
  | nil => intro p h _; exact h
  | cons op ops ih =>
    intro p h hx
    exact ih (p.step op) (step_freshIf P p op h (fun i s e hP => (hx hP).cons.1 i s e)) (fun hP => (hx hP).cons.2)

/-- from creation order to any two live worlds: one of them was built later -/
theorem pairwise_members {R : WEntry → WEntry → Prop} {l : List WEntry} (h : l.Pairwise R) {a b : WEntry}
    (ha : a ∈ l) (hb : b ∈ l) (hne : a.slot ≠ b.slot) : R a b ∨ R b a :=
  List.Pairwise.forall_of_forall_of_flip (R := fun a b => a.slot ≠ b.slot → R a b ∨ R b a)
    (fun _ _ h => absurd rfl h) (h.imp (fun r _ => Or.inl r)) (h.imp (fun r _ => Or.inr r)) ha hb hne


/-- a world is built automatically only while fewer than `cap` worlds / reservations exist -/
def Admissible (cap : Nat) : Proc → List POp → Prop
  | _, [] => True
  | p, .newAuto s :: ops => p.load < cap ∧ Admissible cap (p.step (.newAuto s)) ops
  | p, op :: ops => Admissible cap (p.step op) ops

theorem Admissible.cons {cap : Nat} {p : Proc} {op : POp} {ops : List POp} (h : Admissible cap p (op :: ops)) :
    (∀ s, op = .newAuto s → p.load < cap) ∧ Admissible cap (p.step op) ops := by
  cases op with
  | newAuto s => exact ⟨fun _ _ => h.1, h.2⟩
  | _ => exact ⟨fun _ hc => (nomatch hc), h⟩

def AutoInRange (cap : Nat) (p : Proc) : Prop := ∀ e ∈ p.worlds, e.auto = true → e.id < cap

theorem step_autoInRange (cap : Nat) (p : Proc) (op : POp) (h : AutoInRange cap p)
    (ha : ∀ s, op = .newAuto s → p.load < cap) : AutoInRange cap (p.step op) := by
  intro e' he' hauto
  rcases step_origin p op e' he' with ⟨e, hm, hid, hau, _⟩ | ⟨s, rfl, hid, _⟩ | ⟨i, s, _, _, hau, _⟩
  · rw [hid]; exact h e hm (hau ▸ hauto)
  · exact hid ▸ Nat.lt_of_le_of_lt (nextWorldId_le_load p) (ha s rfl)
  · exact absurd (hau.symm.trans hauto) Bool.false_ne_true

theorem run_autoInRange (cap : Nat) (ops : List POp) : ∀ (p : Proc), AutoInRange cap p → Admissible cap p ops →
    AutoInRange cap (p.run ops) := by
  induction ops with
  | nil => intro p h _; exact h
  | cons op ops ih => intro p h ha; exact ih (p.step op) (step_autoInRange cap p op h ha.cons.1) ha.cons.2


/-- the per-world operations of the history leave `this_world_id_` alone -/
def IdPreserving (ops : List POp) : Prop := ∀ s f, POp.onWorld s f ∈ ops → ∀ w : WM, (f w).worldId = w.worldId

def Stamped (p : Proc) : Prop := ∀ e ∈ p.worlds, e.wm.worldId = e.id

theorem step_stamped (p : Proc) (op : POp) (h : Stamped p)
    (hf : ∀ s f, op = .onWorld s f → ∀ w : WM, (f w).worldId = w.worldId) : Stamped (p.step op) := by
  intro e' he'
  rcases step_origin p op e' he' with ⟨e, hm, hid, _, hw⟩ | ⟨s, _, _, _, hw⟩ | ⟨i, s, _, hid, _, hw⟩
  · rcases hw with hw | ⟨s, f, hop, hw⟩
    · rw [hw, hid]; exact h e hm
    · rw [hw, hid, hf s f hop]; exact h e hm
  · rw [hw]; rfl
  · rw [hw, hid]; rfl

theorem run_stamped (ops : List POp) (p : Proc) (h : Stamped p) (hf : IdPreserving ops) : Stamped (p.run ops) :=
  List.foldlRecOn ops Proc.step h (fun p hp op hop => step_stamped p op hp (fun s f e => hf s f (e ▸ hop)))


theorem world?_slot {p : Proc} {k : Nat} {e : WEntry} (h : p.world? k = some e) : e.slot = k :=
  eq_of_beq (List.find?_some (p := fun e : WEntry => e.slot == k) h)

theorem world?_onWorld (p : Proc) (slot : Nat) (f : WM → WM) (other : Nat) :
    (p.step (.onWorld slot f)).world? other =
      (p.world? other).map (fun e => if e.slot == slot then { e with wm := f e.wm } else e) := by
  -- the map rewrites `wm` only, so it commutes with looking a world up by its slot
  dsimp only [Proc.world?, Proc.step]
  rw [List.find?_map]
  refine congrArg (fun q => Option.map _ (List.find? q p.worlds)) (funext fun e => ?_)
  dsimp only [Function.comp]
  split <;> rfl

theorem world?_onWorld_ne (p : Proc) (slot : Nat) (f : WM → WM) (other : Nat) (hne : other ≠ slot) :
    (p.step (.onWorld slot f)).world? other = p.world? other := by
  rw [world?_onWorld]
  cases h : p.world? other with
  | none => rfl
  | some e =>
    exact congrArg some (if_neg (fun hc => hne (world?_slot h ▸ eq_of_beq hc)))

theorem world?_onWorld_eq (p : Proc) (slot : Nat) (f : WM → WM) :
    (p.step (.onWorld slot f)).world? slot = (p.world? slot).map (fun e => { e with wm := f e.wm }) := by
  rw [world?_onWorld]
  cases h : p.world? slot with
  | none => rfl
  | some e => exact congrArg some (if_pos (beq_iff_eq.mpr (world?_slot h)))

theorem world?_construct_old (p : Proc) (id : Nat) (a s : Bool) (other : Nat) (e : WEntry)
    (h : p.world? other = some e) : (p.construct id a s).world? other = some e := by
  simp only [Proc.world?, Proc.construct] at h ⊢
  rw [List.find?_append, h]
  rfl

end Mustache.Proofs.Worlds
