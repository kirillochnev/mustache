import Mustache.Proofs.BitPack
/-! Bridge between the natural-number layout model and the GENERATED 32-bit `Mustache.Gen.w_align`
(`ComponentOffset::alignAs` of `/repo/src/mustache/ecs/id_deff.hpp`): the constructor's loop run in the code's own
arithmetic (`colsGen`, `endGen`) yields the model's columns as long as nothing overflows (`gen_eq`). -/
namespace Mustache.Proofs.LayoutGen
open Mustache.Gen Mustache.Model.Layout Mustache.Proofs.Layout

def b32 (n : Nat) : BitVec 32 := BitVec.ofNat 32 n

/-- the constructor's loop in the code's own 32-bit arithmetic: `alignAs` is the GENERATED function,
`ComponentOffset::add` wraps modulo 2^32 -/
def colsGen (cap : Nat) : BitVec 32 → List Comp → List Getter
  | _, [] => []
  | e, c :: cs =>
    let o := w_align e (b32 c.align)
    ⟨o.toNat, c.size⟩ :: colsGen cap (o + b32 (cap * c.size)) cs

def endGen (cap : Nat) : BitVec 32 → List Comp → BitVec 32
  | e, [] => e
  | e, c :: cs => endGen cap (w_align e (b32 c.align) + b32 (cap * c.size)) cs

open Mustache.Proofs.BitPack

theorem b32_toNat (n : Nat) (h : n < 2 ^ 32) : (b32 n).toNat = n := Nat.mod_eq_of_lt h

theorem b32_ne_zero (n : Nat) (h0 : 0 < n) (h : n < 2 ^ 32) : b32 n ≠ 0#32 :=
  fun e => Nat.ne_of_gt h0 ((b32_toNat n h).symm.trans (congrArg BitVec.toNat e))

theorem align_b32 (off a : Nat) (ha : 0 < a) (ha2 : a < 2 ^ 32) (h : off + a ≤ 2 ^ 32) :
    (w_align (b32 off) (b32 a)).toNat = alignUp off a := by
  have ho : (b32 off).toNat = off := b32_toNat off (Nat.lt_of_lt_of_le (Nat.lt_add_of_pos_right ha) h)
  have hA : (b32 a).toNat = a := b32_toNat a ha2
  have f := align_toNat (b32 off) (b32 a) (b32_ne_zero a ha ha2) (by rw [ho, hA]; exact h)
  rw [ho, hA] at f
  exact f

theorem b32_add (x y : Nat) : b32 x + b32 y = b32 (x + y) := (BitVec.ofNat_add x y).symm

theorem gen_eq (cap e A : Nat) (cs : List Comp) (h : WF cs) (hA : ∀ c ∈ cs, c.align ≤ A)
    (hsmall : endOf cap e cs + A < 2 ^ 32) :
    colsGen cap (b32 e) cs = colsFrom cap e cs ∧ endGen cap (b32 e) cs = b32 (endOf cap e cs) := by
  induction cs generalizing e with
  | nil => exact ⟨rfl, rfl⟩
  | cons c cs ih =>
    change endOf cap (alignUp e c.align + cap * c.size) cs + A < 2 ^ 32 at hsmall
    -- `e ≤ alignUp e c.align ≤ endOf …` and `c.align ≤ A`, so everything below fits 32 bits
    have hle : alignUp e c.align ≤ endOf cap (alignUp e c.align + cap * c.size) cs :=
      Nat.le_trans (Nat.le_add_right _ _) (endOf_ge cap _ cs h.tail)
    have hcA := hA c List.mem_cons_self
    have h1 : e + c.align ≤ 2 ^ 32 :=
      Nat.le_of_lt (Nat.lt_of_le_of_lt (Nat.add_le_add (Nat.le_trans (alignUp_ge e c.align h.head) hle) hcA) hsmall)
    have h2 : c.align < 2 ^ 32 := Nat.lt_of_le_of_lt (Nat.le_trans hcA (Nat.le_add_left _ _)) hsmall
    have h3 : alignUp e c.align < 2 ^ 32 := Nat.lt_of_le_of_lt (Nat.le_trans hle (Nat.le_add_right _ A)) hsmall
    have g := align_b32 e c.align h.head h2 h1
    have ho : w_align (b32 e) (b32 c.align) = b32 (alignUp e c.align) :=
      BitVec.eq_of_toNat_eq (g.trans (b32_toNat _ h3).symm)
    have r := ih (alignUp e c.align + cap * c.size) h.tail (fun x hx => hA x (List.mem_cons_of_mem _ hx)) hsmall
    constructor
    · rw [colsGen, colsFrom, g, ho, b32_add, r.1]
    · rw [endGen, endOf, ho, b32_add, r.2]

end Mustache.Proofs.LayoutGen
