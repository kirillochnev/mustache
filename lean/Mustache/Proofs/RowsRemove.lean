import Mustache.Proofs.RowsBasic
/-!
# `Archetype::remove` (swap-remove) is a step on the removed entity

One lemma about `(rows.set idx last).dropLast` for every `idx < |rows|` carries the three cases
(last / first / middle row); `swapRemove_step` derives the invariant and the frame from it once, for
both branches of the model function.
-/
namespace Mustache.Proofs.Rows
open Mustache.Model

theorem swap_getElem? (rows : List Row) (idx j : Nat) (x : Row) :
    ((rows.set idx x).dropLast)[j]? =
      if j < rows.length - 1 then (if idx = j then some x else rows[j]?) else none := by
  rw [List.getElem?_dropLast, List.length_set, List.getElem?_set]
  by_cases hj : j < rows.length - 1
  · simp only [hj, if_true]
    by_cases hij : idx = j
    · subst hij
      have : idx < rows.length := Nat.lt_of_lt_of_le hj (Nat.sub_le _ _)
      simp [this]
    · simp [hij]
  · simp [hj]

theorem lt_pred_of_ne {a n : Nat} (h : a < n) (hne : a ≠ n - 1) : a < n - 1 :=
  Nat.lt_of_le_of_ne (Nat.le_sub_one_of_lt h) hne

theorem archRemove_none (info : CompId → CompInfo) (w : WM) (ai idx : Nat) (sk : Mask)
    (h : (w.arch ai).rows[idx]? = none) : w.archRemove info ai idx sk = (w, []) := by
  unfold WM.archRemove
  simp only [h]

theorem archRemove_last (info : CompId → CompInfo) (w : WM) (ai idx : Nat) (sk : Mask) (row : Row)
    (h : (w.arch ai).rows[idx]? = some row) (hl : idx = (w.arch ai).rows.length - 1) :
    (w.archRemove info ai idx sk).1 =
      (w.setArch ai { w.arch ai with rows := (w.arch ai).rows.dropLast }).setLoc row.ent none noIdx := by
  unfold WM.archRemove
  simp only [h]
  rw [if_pos hl]; rfl

theorem archRemove_mid (info : CompId → CompInfo) (w : WM) (ai idx : Nat) (sk : Mask) (row : Row)
    (h : (w.arch ai).rows[idx]? = some row) (hl : idx ≠ (w.arch ai).rows.length - 1) :
    (w.archRemove info ai idx sk).1 =
      ((w.setArch ai { w.arch ai with rows :=
          ((w.arch ai).rows.set idx ((w.arch ai).rows.getD ((w.arch ai).rows.length - 1) default)).dropLast
        }).setLoc row.ent none noIdx).setLoc
        ((w.arch ai).rows.getD ((w.arch ai).rows.length - 1) default).ent (some ai) idx := by
  unfold WM.archRemove
  simp only [h]
  rw [if_neg hl]; rfl

theorem archRemove_cbs (info : CompId → CompInfo) (w : WM) (ai idx : Nat) (sk : Mask) (row : Row)
    (h : (w.arch ai).rows[idx]? = some row) :
    (w.archRemove info ai idx sk).2 =
      ((w.arch ai).mask.filter (fun c => (info c).callbacks && !sk.contains c)).map (Cb.remove · row.ent) := by
  unfold WM.archRemove
  simp only [h]
  split <;> rfl

theorem archRemove_frame (info : CompId → CompInfo) (w : WM) (ai idx : Nat) (sk : Mask) :
    SameTable w (w.archRemove info ai idx sk).1 ∧
    (w.archRemove info ai idx sk).1.archs.length = w.archs.length ∧
    (w.archRemove info ai idx sk).1.locs.length = w.locs.length ∧
    (∀ aj, aj ≠ ai → (w.archRemove info ai idx sk).1.arch aj = w.arch aj) ∧
    ∀ aj, ((w.archRemove info ai idx sk).1.arch aj).mask = (w.arch aj).mask ∧
      ((w.archRemove info ai idx sk).1.arch aj).shared = (w.arch aj).shared := by
  cases h : (w.arch ai).rows[idx]? with
  | none => rw [archRemove_none info w ai idx sk h]; exact ⟨SameTable.refl w, rfl, rfl, fun _ _ => rfl, fun _ => ⟨rfl, rfl⟩⟩
  | some row =>
    by_cases hl : idx = (w.arch ai).rows.length - 1
    · rw [archRemove_last info w ai idx sk row h hl]
      exact ⟨(sameTable_setArch _ _ _).trans (sameTable_setLoc _ _ _ _),
        by rw [archs_setLoc, archs_length_setArch], by rw [locs_length_setLoc, locs_setArch],
        fun aj hne => by rw [arch_setLoc, arch_setArch_ne _ _ _ _ hne],
        fun aj => by rw [arch_setLoc]; exact setArch_rows_key w ai _ aj⟩
    · rw [archRemove_mid info w ai idx sk row h hl]
      exact ⟨((sameTable_setArch _ _ _).trans (sameTable_setLoc _ _ _ _)).trans (sameTable_setLoc _ _ _ _),
        by rw [archs_setLoc, archs_setLoc, archs_length_setArch],
        by rw [locs_length_setLoc, locs_length_setLoc, locs_setArch],
        fun aj hne => by rw [arch_setLoc, arch_setLoc, arch_setArch_ne _ _ _ _ hne],
        fun aj => by rw [arch_setLoc, arch_setLoc]; exact setArch_rows_key w ai _ aj⟩

theorem archRemove_arch_ne (info : CompId → CompInfo) (w : WM) (ai aj idx : Nat) (sk : Mask)
    (hne : aj ≠ ai) : (w.archRemove info ai idx sk).1.arch aj = w.arch aj :=
  (archRemove_frame info w ai idx sk).2.2.2.1 aj hne

theorem archRemove_sameTable (info : CompId → CompInfo) (w : WM) (ai idx : Nat) (sk : Mask) :
    SameTable w (w.archRemove info ai idx sk).1 :=
  (archRemove_frame info w ai idx sk).1

theorem archRemove_keysSame (info : CompId → CompInfo) (w : WM) (ai idx : Nat) (sk : Mask) :
    KeysSame w (w.archRemove info ai idx sk).1 :=
  ⟨(archRemove_frame info w ai idx sk).2.1, (archRemove_frame info w ai idx sk).2.2.2.2⟩

/-- the swap-remove in terms of a state `w'` given by what it holds: archetype `ai` has "last row written
over position `idx`, list shortened", the other archetypes are untouched, the removed id's location is
cleared and (unless the removed row was the last) the moved row's location redirected. Then `w'` is a
step on the removed id, which owns no row any more -/
theorem swapRemove_step {w w' : WM} (hok : RowsOK w) {ai idx : Nat} {row lastRow : Row}
    (h : (w.arch ai).rows[idx]? = some row)
    (hlast : (w.arch ai).rows[(w.arch ai).rows.length - 1]? = some lastRow)
    (same : SameTable w w') (hkeys : KeysSame w w') (llen : w'.locs.length = w.locs.length)
    (hoth : ∀ aj, aj ≠ ai → w'.arch aj = w.arch aj)
    (hR : ∀ j, (w'.arch ai).rows[j]? = if j < (w.arch ai).rows.length - 1 then
      (if idx = j then some lastRow else (w.arch ai).rows[j]?) else none)
    (hlocs : ∀ id, w'.locs[id]? =
      if lastRow.ent.id = id ∧ idx ≠ (w.arch ai).rows.length - 1 then some ⟨some ai, idx⟩
      else if row.ent.id = id then some ⟨none, noIdx⟩ else w.locs[id]?) :
    Step w w' row.ent.id ∧ NotInRow w' row.ent.id := by
  have hidx : idx < (w.arch ai).rows.length := idx_lt_of_row h
  -- a row other than the removed and the moved one keeps its location
  have hkeep : ∀ (aj j : Nat) (r : Row), (w.arch aj).rows[j]? = some r → (aj = ai → j ≠ idx) →
      (aj = ai → j ≠ (w.arch ai).rows.length - 1) →
      r.ent.id ≠ row.ent.id ∧ w'.locs[r.ent.id]? = some ⟨some aj, j⟩ := by
    intro aj j r hr h1 h2
    have hne : r.ent.id ≠ row.ent.id := fun hid =>
      have := hok.unique hr h hid; h1 this.1 this.2
    have hne2 : ¬ (lastRow.ent.id = r.ent.id ∧ idx ≠ (w.arch ai).rows.length - 1) := fun hid =>
      have := hok.unique hr hlast hid.1.symm; h2 this.1 this.2
    rw [hlocs, if_neg hne2, if_neg (Ne.symm hne)]
    exact ⟨hne, (hok.loc aj j r hr).2⟩
  -- every row of `w'` is an old row of another id, and its location points at it
  have back : ∀ (aj j : Nat) (r : Row), (w'.arch aj).rows[j]? = some r →
      r.ent.id ≠ row.ent.id ∧ (∃ j0 : Nat, (w.arch aj).rows[j0]? = some r) ∧
        w'.locs[r.ent.id]? = some ⟨some aj, j⟩ := by
    intro aj j r hr
    by_cases hj : aj = ai
    · subst hj
      have hR' := hR j
      simp only [hr] at hR'
      by_cases hjl : j < (w.arch aj).rows.length - 1
      · rw [if_pos hjl] at hR'
        by_cases hij : idx = j
        · -- position `idx` holds the former last row
          subst hij
          rw [if_pos rfl] at hR'
          cases hR'
          have hl : idx ≠ (w.arch aj).rows.length - 1 := Nat.ne_of_lt hjl
          have hne : lastRow.ent.id ≠ row.ent.id := fun hid => hl (hok.unique hlast h hid).2.symm
          exact ⟨hne, ⟨_, hlast⟩, by rw [hlocs, if_pos ⟨rfl, hl⟩]⟩
        · rw [if_neg hij] at hR'
          have := hkeep _ _ _ hR'.symm (fun _ hh => hij hh.symm) (fun _ => Nat.ne_of_lt hjl)
          exact ⟨this.1, ⟨j, hR'.symm⟩, this.2⟩
      · rw [if_neg hjl] at hR'; cases hR'
    · rw [hoth aj hj] at hr
      have := hkeep _ _ _ hr (fun hh => absurd hh hj) (fun hh => absurd hh hj)
      exact ⟨this.1, ⟨j, hr⟩, this.2⟩
  -- every old row of another id is still there
  have fwd : ∀ (aj j0 : Nat) (r : Row), (w.arch aj).rows[j0]? = some r → r.ent.id ≠ row.ent.id →
      ∃ j : Nat, (w'.arch aj).rows[j]? = some r := by
    intro aj j0 r hr hne
    by_cases hj : aj = ai
    · subst hj
      have hj0 : j0 < (w.arch aj).rows.length := idx_lt_of_row hr
      have hj0i : j0 ≠ idx := fun e => hne (by rw [e, h] at hr; cases hr; rfl)
      by_cases hj0l : j0 = (w.arch aj).rows.length - 1
      · -- the last row has moved to position `idx`
        rw [hj0l, hlast] at hr; cases hr
        exact ⟨idx, by rw [hR, if_pos (lt_pred_of_ne hidx (hj0l ▸ Ne.symm hj0i)), if_pos rfl]⟩
      · exact ⟨j0, by rw [hR, if_pos (lt_pred_of_ne hj0 hj0l), if_neg (Ne.symm hj0i)]; exact hr⟩
    · exact ⟨j0, by rw [hoth aj hj]; exact hr⟩
  refine ⟨⟨⟨fun aj j r hr => ?_, fun aj j r hr => ?_⟩, ⟨fun aj j0 r hr hne => ?_, fun x _ => same.isValid x⟩,
    by rw [llen]; exact Nat.le_refl _, fun x _ hn aj j r hr => ?_, hkeys.keysOK⟩,
    fun aj j r hr => (back aj j r hr).1⟩
  · rcases (back aj j r hr).2.1 with ⟨j0, h0⟩
    rw [(hkeys.key aj).1]; exact hok.vals aj j0 r h0
  · rcases back aj j r hr with ⟨_, ⟨j0, h0⟩, hl⟩
    exact ⟨(hok.loc aj j0 r h0).1, hl⟩
  · rcases fwd aj j0 r hr hne with ⟨j, hj⟩
    exact ⟨⟨j, hj, (back aj j r hj).2.2⟩, hkeys.key aj⟩
  · rcases (back aj j r hr).2.1 with ⟨j0, h0⟩
    exact hn aj j0 r h0

theorem archRemove_step (info : CompId → CompInfo) {w : WM} (hok : RowsOK w) (ai idx : Nat) (sk : Mask)
    (row : Row) (h : (w.arch ai).rows[idx]? = some row) :
    Step w (w.archRemove info ai idx sk).1 row.ent.id ∧
    NotInRow (w.archRemove info ai idx sk).1 row.ent.id := by
  have hai : ai < w.archs.length := lt_of_row h
  have hrn : row.ent.id ≠ nullId := (hok.loc ai idx row h).1
  have hrlt : row.ent.id < w.locs.length := hok.id_lt h
  have hf := archRemove_frame info w ai idx sk
  by_cases hl : idx = (w.arch ai).rows.length - 1
  · refine swapRemove_step hok h (hl ▸ h) hf.1 (archRemove_keysSame info w ai idx sk) hf.2.2.1 hf.2.2.2.1
      (fun j => ?_) (fun id => ?_) <;> rw [archRemove_last info w ai idx sk row h hl]
    · rw [arch_setLoc, arch_setArch_same _ _ _ hai, List.getElem?_dropLast]
      by_cases hj : j < (w.arch ai).rows.length - 1
      · rw [if_pos hj, if_pos hj, if_neg (fun hh : idx = j => Nat.ne_of_lt hj (hh ▸ hl))]
      · rw [if_neg hj, if_neg hj]
    · have hc : ¬ (row.ent.id = id ∧ idx ≠ (w.arch ai).rows.length - 1) := fun hh => hh.2 hl
      rw [locs_setLoc_get _ _ _ _ _ hrn, locs_setArch, if_neg hc]
      by_cases hid : row.ent.id = id
      · rw [if_pos hid, if_pos hid, if_pos (hid ▸ hrlt)]
      · rw [if_neg hid, if_neg hid]
  · generalize hlast : (w.arch ai).rows.getD ((w.arch ai).rows.length - 1) default = lastRow
    have hlastAt : (w.arch ai).rows[(w.arch ai).rows.length - 1]? = some lastRow := by
      have hlt : (w.arch ai).rows.length - 1 < (w.arch ai).rows.length :=
        Nat.sub_lt (Nat.zero_lt_of_lt (idx_lt_of_row h)) Nat.one_pos
      rw [← hlast, List.getD_eq_getElem?_getD, List.getElem?_eq_getElem hlt]; rfl
    have hln : lastRow.ent.id ≠ nullId := (hok.loc _ _ _ hlastAt).1
    have hllt : lastRow.ent.id < w.locs.length := hok.id_lt hlastAt
    refine swapRemove_step hok h hlastAt hf.1 (archRemove_keysSame info w ai idx sk) hf.2.2.1 hf.2.2.2.1
      (fun j => ?_) (fun id => ?_) <;> rw [archRemove_mid info w ai idx sk row h hl, hlast]
    · rw [arch_setLoc, arch_setLoc, arch_setArch_same _ _ _ hai]
      exact swap_getElem? _ idx j lastRow
    · rw [locs_setLoc_get _ _ _ _ _ hln, locs_length_setLoc, locs_setLoc_get _ _ _ _ _ hrn, locs_setArch]
      by_cases h1 : lastRow.ent.id = id
      · have hc : lastRow.ent.id = id ∧ idx ≠ (w.arch ai).rows.length - 1 := ⟨h1, hl⟩
        rw [if_pos h1, if_pos hc, if_pos (h1 ▸ hllt)]
      · have hc : ¬ (lastRow.ent.id = id ∧ idx ≠ (w.arch ai).rows.length - 1) := fun hh => h1 hh.1
        rw [if_neg h1, if_neg hc]
        by_cases h2 : row.ent.id = id
        · rw [if_pos h2, if_pos h2, if_pos (h2 ▸ hrlt)]
        · rw [if_neg h2, if_neg h2]

theorem rowsOK_archRemove (info : CompId → CompInfo) {w : WM} (hok : RowsOK w) (ai idx : Nat) (sk : Mask) :
    RowsOK (w.archRemove info ai idx sk).1 := by
  cases h : (w.arch ai).rows[idx]? with
  | none => rw [archRemove_none info w ai idx sk h]; exact hok
  | some row => exact (archRemove_step info hok ai idx sk row h).1.ok

end Mustache.Proofs.Rows
