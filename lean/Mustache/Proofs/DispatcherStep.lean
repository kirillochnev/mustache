import Mustache.Proofs.DispatcherInv

/-!
Preservation of `Inv` by every action (`inv_step`).  The actions that pop, start or finish a job, submit one
or clear the queues have a lemma each, stated about the successor state the branch of `step` builds; the others
are dealt with inside `inv_step`.  `{ h.a with … }` proves the clauses that read a changed field; the clauses not
listed carry over as they are, because projecting an untouched field out of a record update is definitional.
-/
namespace Mustache.Dispatcher

variable {s : State}

theorem InvA.pcs_congr (h : InvA s) {l : List Pc} (hlen : l.length = s.pcs.length)
    (hrun : ∀ o t q : Nat, l[o]? = some (Pc.running t q) ↔ s.pcs[o]? = some (Pc.running t q)) :
    InvA { s with pcs := l } :=
  { h with
    len := hlen.trans h.len
    run_started := fun o t q hr => h.run_started o t q ((hrun o t q).mp hr)
    run_runner := fun o t q hr => h.run_runner o t q ((hrun o t q).mp hr)
    started_cases := fun t ht => (h.started_cases t ht).imp_right (hrun _ _ _).mpr }

theorem InvC.pcs_congr (h : InvC s) {l : List Pc} {tw : Nat}
    (hrun : ∀ o t q : Nat, l[o]? = some (Pc.running t q) ↔ s.pcs[o]? = some (Pc.running t q))
    (hrel : ∀ o q : Nat, l[o]? = some (Pc.relock q) ↔ s.pcs[o]? = some (Pc.relock q))
    (htw : tw = l.countP isWaiting) : InvC { s with pcs := l, tw := tw } :=
  { h with
    locked_owner := fun q hq hl => (h.locked_owner q hq hl).imp (hrel _ _).mpr (hrun _ _ _).mpr
    hold_run := fun q o t hq hr => h.hold_run q o t hq ((hrun o t q).mp hr)
    hold_relock := fun q o hq hr => h.hold_relock q o hq ((hrel o q).mp hr)
    tw_count := htw }

/-- thread `th` moves between two states that are both waiting ones or both not: `threads_waiting` stays right -/
theorem InvC.tw_set (h : InvC s) {th : Nat} {p p' : Pc} (hp : s.pcs[th]? = some p) (hw : isWaiting p' = isWaiting p) :
    s.tw = (s.pcs.set th p').countP isWaiting := by
  have := countP_set_of isWaiting s.pcs th p' p hp
  rw [hw] at this
  exact h.tw_count.trans (Nat.add_right_cancel this).symm

/-- Thread `th` moves from `p` to `p'`: the clauses of `InvB` about workers.  That the external thread's
entry is still one its mode allows is left to the caller. -/
theorem InvB.set_pc (h : InvB s) {th : Nat} {p : Pc} (hp : s.pcs[th]? = some p) (p' : Pc) (hpe : p ≠ .exited)
    (hsl : p' = .sleeping → s.terminate = false) (hex : p' = .exited → s.terminate = true)
    (hext : ExtOk s.mode (s.pcs.set th p')[0]?) : InvB { s with pcs := s.pcs.set th p' } :=
  { h with
    ext := hext
    join_awake := fun hm o hx => by
      rcases getElem?_set_cases hx with ⟨_, e⟩ | ⟨_, hx⟩
      · have ht := hsl e.symm
        rw [h.term_eq] at ht
        rcases hm with hm | hm <;> rw [hm] at ht <;> cases ht
      · exact h.join_awake hm o hx
    destroyed_exited := fun hm o x ho hx => by
      rcases getElem?_set_cases hx with ⟨rfl, _⟩ | ⟨_, hx⟩
      · exact absurd (h.destroyed_exited hm o p ho hp) hpe
      · exact h.destroyed_exited hm o x ho hx
    exited_term := fun o hx => by
      rcases getElem?_set_cases hx with ⟨_, e⟩ | ⟨_, hx⟩
      · exact hex e.symm
      · exact h.exited_term o hx }

/-- Thread `th` moves and it is not the external thread: a worker, or (a wake-up, which the model allows
any thread) one whose entry is a waiting one, which the entries `ExtOk` allows the external thread are not. -/
theorem InvB.set_worker_pc (h : InvB s) {th : Nat} {p : Pc} (hp : s.pcs[th]? = some p)
    (hth : th ≠ 0 ∨ isWaiting p = true) (p' : Pc) (hpe : p ≠ .exited) (hsl : p' = .sleeping → s.terminate = false)
    (hex : p' = .exited → s.terminate = true) : InvB { s with pcs := s.pcs.set th p' } := by
  have keep : ∀ {x}, s.pcs[0]? = some x → isWaiting x = false → (s.pcs.set th p')[0]? = some x := fun h0 hx =>
    hth.elim (fun hth => (List.getElem?_set_ne hth).trans h0) fun hw =>
      getElem?_set_of_ne_old _ hp h0 fun e => by rw [e, hw] at hx; cases hx
  exact h.set_pc hp p' hpe hsl hex
    ⟨fun hm => keep (h.ext.idle hm) rfl,
     fun hm => (h.ext.inline hm).imp (fun ⟨t, ht⟩ => ⟨t, keep ht rfl⟩) (keep · rfl),
     fun q hm => (h.ext.wait q hm).imp (keep · rfl) (Or.imp (fun ⟨t, ht⟩ => ⟨t, keep ht rfl⟩) (keep · rfl))⟩

/-- Such a thread (`hth`) moves between two states in which it holds no job: `InvA` does not see it, `InvC`
sees only the number of waiting threads. -/
theorem inv_set_pc (h : Inv s) {th : Nat} {p : Pc} (hp : s.pcs[th]? = some p) (hth : th ≠ 0 ∨ isWaiting p = true)
    (hr : ∀ t q, Pc.running t q ≠ p) (hl : ∀ q, Pc.relock q ≠ p) (hpe : p ≠ .exited) (p' : Pc)
    (hr' : ∀ t q, Pc.running t q ≠ p') (hl' : ∀ q, Pc.relock q ≠ p') (hsl : p' = .sleeping → s.terminate = false)
    (hex : p' = .exited → s.terminate = true) {tw : Nat} (htw : tw = (s.pcs.set th p').countP isWaiting) :
    Inv { s with pcs := s.pcs.set th p', tw := tw } :=
  ⟨{ h.a.pcs_congr List.length_set fun _ t q => getElem?_set_iff_of_ne hp (hr t q) (hr' t q) with },
   { h.b.set_worker_pc hp hth p' hpe hsl hex with },
   h.c.pcs_congr (fun _ t q => getElem?_set_iff_of_ne hp (hr t q) (hr' t q))
     (fun _ q => getElem?_set_iff_of_ne hp (hl q) (hl' q)) htw⟩

/-- A thread takes a job, finishes it or gives its queue back; the external thread's new entry has to suit its mode. -/
theorem InvB.set_job_pc (h : InvB s) {th : Nat} {p : Pc} (hp : s.pcs[th]? = some p) (p' : Pc) (hpe : p ≠ .exited)
    (hsl : p' ≠ .sleeping) (hex : p' ≠ .exited) (hext : th = 0 → ExtOk s.mode (some p')) :
    InvB { s with pcs := s.pcs.set th p' } := by
  by_cases hth : th = 0
  · subst hth
    exact h.set_pc hp p' hpe (fun e => absurd e hsl) (fun e => absurd e hex) (getElem?_set_self_of p' hp ▸ hext rfl)
  · exact h.set_worker_pc hp (.inl hth) p' hpe (fun e => absurd e hsl) (fun e => absurd e hex)

theorem pairwise_upd {R : Nat → Nat → Prop} {jobs : Nat → List Nat} {l : List Nat}
    (h : ∀ q, (jobs q).Pairwise R) (hl : l.Pairwise R) (q q' : Nat) : (upd jobs q l q').Pairwise R := by
  rw [upd_apply]
  split
  · exact hl
  · exact h q'

theorem mem_upd_append {jobs : Nat → List Nat} {q q' t n : Nat} :
    t ∈ upd jobs q (jobs q ++ [n]) q' ↔ t ∈ jobs q' ∨ (q' = q ∧ t = n) := by
  rw [upd_apply]
  split
  · rename_i e; subst e; simp
  · rename_i e; simp [e]

theorem inv_submit (h : Inv s) {q : Nat} (hm : s.mode = .api) (hq : q ≤ s.nq) :
    Inv { s with jobs := upd s.jobs q (s.jobs q ++ [s.nextId]), nextId := s.nextId + 1, tq := upd s.tq s.nextId q } := by
  -- the new id is above every id in use, so `tq` is unchanged on those
  have htq : ∀ {t}, t < s.nextId → upd s.tq s.nextId q t = s.tq t := fun ht => upd_ne _ _ (Nat.ne_of_lt ht)
  exact ⟨{ h.a with
      jobs_lt := fun q' t ht => by
        rcases mem_upd_append.mp ht with ht | ⟨_, rfl⟩
        · exact Nat.lt_succ_of_lt (h.a.jobs_lt q' t ht)
        · exact Nat.lt_succ_self _
      jobs_tq := fun q' t ht => by
        rcases mem_upd_append.mp ht with ht | ⟨rfl, rfl⟩
        · exact (htq (h.a.jobs_lt q' t ht)).trans (h.a.jobs_tq q' t ht)
        · exact upd_same _ _ _
      jobs_q := fun q' t ht => by
        rcases mem_upd_append.mp ht with ht | ⟨rfl, _⟩
        · exact h.a.jobs_q q' t ht
        · exact hq
      jobs_sorted := pairwise_upd h.a.jobs_sorted (pairwise_snoc.mpr ⟨h.a.jobs_sorted q, h.a.jobs_lt q⟩) q
      started_lt := fun t ht => Nat.lt_succ_of_lt (h.a.started_lt t ht)
      pending_fresh := fun q' t ht => by
        rcases mem_upd_append.mp ht with ht | ⟨_, rfl⟩
        · exact h.a.pending_fresh q' t ht
        · exact fun hs => Nat.lt_irrefl _ (h.a.started_lt _ hs)
      run_started := fun th t q' hr =>
        have ⟨h1, h2, h3, h4⟩ := h.a.run_started th t q' hr
        ⟨h1, h2, (htq (h.a.started_lt t h1)).trans h3, h4⟩
      started_cases := fun t ht => by
        show _ ∨ _ = some (Pc.running t (upd s.tq s.nextId q t))
        rw [htq (h.a.started_lt t ht)]
        exact h.a.started_cases t ht
      dropped_ok := fun t ht => by
        have ⟨h1, h2, h3, h4⟩ := h.a.dropped_ok t ht
        refine ⟨Nat.lt_succ_of_lt h1, h2, (htq h1).trans h3, fun q' hq' => ?_⟩
        rcases mem_upd_append.mp hq' with hq' | ⟨_, rfl⟩
        · exact h4 q' hq'
        · exact Nat.lt_irrefl _ h1
      cover := fun t ht => by
        rcases Nat.lt_succ_iff_lt_or_eq.mp ht with ht | rfl
        · exact (h.a.cover t ht).imp_left fun ⟨q', hq'⟩ => ⟨q', mem_upd_append.mpr (Or.inl hq')⟩
        · exact Or.inl ⟨q, mem_upd_append.mpr (Or.inr ⟨rfl, rfl⟩)⟩ },
    { h.b with wait_q := fun q' hq' => by rw [hm] at hq'; exact absurd hq' nofun
               spin_empty := fun q' hq' => by rw [hm] at hq'; cases hq' },
    { h.c with }⟩

/-- Thread `th`, idle, starts the pending task `t` of queue `q`; `jobs` is the queues without `t`. -/
theorem InvA.start_task (h : InvA s) {th q t : Nat} {jobs : Nat → List Nat} (hp : s.pcs[th]? = some Pc.idle)
    (htj : t ∈ s.jobs q) (hmem : ∀ {q' x}, x ∈ jobs q' ↔ x ∈ s.jobs q' ∧ x ≠ t)
    (hsorted : ∀ q', (jobs q').Pairwise (· < ·)) :
    InvA { s with pcs := s.pcs.set th (.running t q), jobs := jobs, started := s.started ++ [t],
                  runner := upd s.runner t th } :=
  have hfresh : t ∉ s.started := h.pending_fresh q t htj
  have hrn : ∀ {x}, x ∈ s.started → upd s.runner t th x = s.runner x := fun hx =>
    upd_ne _ _ fun e => hfresh (e ▸ hx)
  { h with
    len := List.length_set.trans h.len
    jobs_lt := fun q' x hx => h.jobs_lt q' x (hmem.mp hx).1
    jobs_tq := fun q' x hx => h.jobs_tq q' x (hmem.mp hx).1
    jobs_q := fun q' x hx => h.jobs_q q' x (hmem.mp hx).1
    jobs_sorted := hsorted
    started_lt := fun x hx => (mem_snoc.mp hx).elim (h.started_lt x) fun e => e ▸ h.jobs_lt q t htj
    pending_fresh := fun q' x hx hs => (mem_snoc.mp hs).elim (h.pending_fresh q' x (hmem.mp hx).1) (hmem.mp hx).2
    started_nodup := nodup_snoc h.started_nodup hfresh
    done_sub := fun x hx => List.mem_append_left _ (h.done_sub x hx)
    run_started := fun o x q' hr => by
      rcases getElem?_set_cases hr with ⟨_, e⟩ | ⟨_, hr⟩
      · cases e
        exact ⟨mem_snoc.mpr (Or.inr rfl), fun hd => hfresh (h.done_sub _ hd), h.jobs_tq q t htj, h.jobs_q q t htj⟩
      · have ⟨h1, h2, h3, h4⟩ := h.run_started o x q' hr
        exact ⟨List.mem_append_left _ h1, h2, h3, h4⟩
    run_runner := fun o x q' hr => by
      rcases getElem?_set_cases hr with ⟨e0, e⟩ | ⟨_, hr⟩
      · cases e; rw [e0]; exact upd_same _ _ _
      · exact (hrn (h.run_started o x q' hr).1).trans (h.run_runner o x q' hr)
    started_cases := fun x hx => by
      dsimp only
      rcases mem_snoc.mp hx with hx | rfl
      · rw [hrn hx]
        exact (h.started_cases x hx).imp_right (getElem?_set_of_ne_old _ hp · nofun)
      · rw [upd_same, h.jobs_tq q x htj]
        exact Or.inr (getElem?_set_self_of _ hp)
    dropped_ok := fun x hx =>
      have ⟨h1, h2, h3, h4⟩ := h.dropped_ok x hx
      ⟨h1, fun hs => (mem_snoc.mp hs).elim h2 fun e => h4 q (e ▸ htj), h3, fun q' hq' => h4 q' (hmem.mp hq').1⟩
    cover := fun x hx => by
      rcases h.cover x hx with ⟨q', hq'⟩ | hs | hd
      · by_cases e : x = t
        · exact Or.inr (Or.inl (mem_snoc.mpr (Or.inr e)))
        · exact Or.inl ⟨q', hmem.mpr ⟨hq', e⟩⟩
      · exact Or.inr (Or.inl (List.mem_append_left _ hs))
      · exact Or.inr (Or.inr hd) }

theorem inv_submitInline (h : Inv s) (hm : s.mode = .api) :
    Inv { s with mode := .inline, pcs := s.pcs.set 0 (.running s.nextId 0), nextId := s.nextId + 1,
                 tq := upd s.tq s.nextId 0, started := s.started ++ [s.nextId],
                 runner := upd s.runner s.nextId 0 } := by
  have h0 : s.pcs[0]? = some Pc.idle := h.b.ext.idle (Or.inl hm)
  -- a submission to the parallel queue whose task the external thread starts at once
  have h1 := (inv_submit h hm (Nat.zero_le _)).a
  have hmem : ∀ {q x}, x ∈ s.jobs q ↔ x ∈ upd s.jobs 0 (s.jobs 0 ++ [s.nextId]) q ∧ x ≠ s.nextId :=
    ⟨fun hx => ⟨mem_upd_append.mpr (Or.inl hx), Nat.ne_of_lt (h.a.jobs_lt _ _ hx)⟩,
     fun hx => (mem_upd_append.mp hx.1).resolve_right fun e => hx.2 e.2⟩
  have hn : s.nextId ∈ upd s.jobs 0 (s.jobs 0 ++ [s.nextId]) 0 := mem_upd_append.mpr (Or.inr ⟨rfl, rfl⟩)
  exact ⟨{ h1.start_task h0 hn hmem h.a.jobs_sorted with },
    { h.b with
      ext := ⟨nofun, fun _ => Or.inl ⟨s.nextId, getElem?_set_self_of _ h0⟩, nofun⟩
      wait_q := nofun
      term_eq := (h.b.term_of hm :)
      spin_empty := nofun
      join_awake := nofun
      destroyed_exited := nofun
      exited_term := fun th hx => h.b.exited_term th (getElem?_of_set_ne_new hx nofun) },
    { h.c with
      locked_owner := fun q hq hl =>
        (h.c.locked_owner q hq hl).imp (getElem?_set_of_ne_old _ h0 · nofun) (getElem?_set_of_ne_old _ h0 · nofun)
      hold_run := fun q th t hq hr =>
        h.c.hold_run q th t hq (getElem?_of_set_ne_new hr fun e => hq (by cases e; rfl))
      hold_relock := fun q th hq hr => h.c.hold_relock q th hq (getElem?_of_set_ne_new hr nofun)
      tw_count := h.c.tw_set h0 rfl }⟩

theorem mem_upd_nil {jobs : Nat → List Nat} {q q' t : Nat} : t ∈ upd jobs q [] q' ↔ q' ≠ q ∧ t ∈ jobs q' := by
  rw [upd_apply]
  split
  · rename_i e; simp [e]
  · rename_i e; simp [e]

theorem inv_sdClear (h : Inv s) (hm : s.mode = .sdFlag) :
    Inv { s with mode := .sdCleared, dropped := s.dropped ++ s.jobs 0, jobs := upd s.jobs 0 [] } := by
  have hterm : s.terminate = true := h.b.term_of hm
  have hsub : ∀ {q t}, t ∈ upd s.jobs 0 [] q → q ≠ 0 ∧ t ∈ s.jobs q := mem_upd_nil.mp
  exact ⟨{ h.a with
      jobs_lt := fun q t ht => h.a.jobs_lt q t (hsub ht).2
      jobs_tq := fun q t ht => h.a.jobs_tq q t (hsub ht).2
      jobs_q := fun q t ht => h.a.jobs_q q t (hsub ht).2
      jobs_sorted := pairwise_upd h.a.jobs_sorted .nil 0
      pending_fresh := fun q t ht => h.a.pending_fresh q t (hsub ht).2
      dropped_ok := fun t ht => by
        rcases List.mem_append.mp ht with ht | ht
        · have ⟨h1, h2, h3, h4⟩ := h.a.dropped_ok t ht
          exact ⟨h1, h2, h3, fun q hq => h4 q (hsub hq).2⟩
        · -- a task of the parallel queue sits in no serial queue
          exact ⟨h.a.jobs_lt 0 t ht, h.a.pending_fresh 0 t ht, h.a.jobs_tq 0 t ht, fun q hq =>
            (hsub hq).1 ((h.a.jobs_tq q t (hsub hq).2).symm.trans (h.a.jobs_tq 0 t ht))⟩
      dropped_nodup := List.nodup_append.mpr ⟨h.a.dropped_nodup, sorted_nodup (h.a.jobs_sorted 0), fun x hx y hy e =>
        (h.a.dropped_ok x hx).2.2.2 0 (e ▸ hy)⟩
      dropped_term := fun e => nomatch hterm.symm.trans e
      cover := fun t ht => by
        rcases h.a.cover t ht with ⟨q, hq⟩ | hs | hd
        · by_cases e : q = 0
          · exact Or.inr (Or.inr (List.mem_append_right _ (e ▸ hq)))
          · exact Or.inl ⟨q, mem_upd_nil.mpr ⟨e, hq⟩⟩
        · exact Or.inr (Or.inl hs)
        · exact Or.inr (Or.inr (List.mem_append_left _ hd)) },
    { h.b with
      ext := ⟨fun _ => h.b.ext.idle (Or.inr (Or.inr (by rw [hm]; rfl))), nofun, nofun⟩
      wait_q := nofun
      term_eq := hterm
      spin_empty := nofun
      join_awake := nofun
      destroyed_exited := nofun },
    { h.c with }⟩

theorem inv_sdNotify (h : Inv s) (hm : s.mode = .sdCleared) : Inv { s with mode := .joining, pcs := wakeAll s.pcs } := by
  have hterm : s.terminate = true := h.b.term_of hm
  exact ⟨{ h.a.pcs_congr (wakeAll_length _) (fun _ _ _ => wakeAll_getElem?_eq rfl) with },
    { h.b with
      ext := ⟨fun _ => (wakeAll_getElem?_eq rfl).mpr (h.b.ext.idle (Or.inr (Or.inr (by rw [hm]; rfl)))), nofun, nofun⟩
      wait_q := nofun
      term_eq := hterm
      spin_empty := nofun
      join_awake := fun _ th => wakeAll_not_sleeping _ th
      destroyed_exited := nofun
      exited_term := fun _ _ => hterm },
    { h.c.pcs_congr (fun _ _ _ => wakeAll_getElem?_eq rfl) (fun _ _ => wakeAll_getElem?_eq rfl)
        (h.c.tw_count.trans (wakeAll_countP _).symm) with }⟩

theorem inv_doPop (h : Inv s) {th q t : Nat} {r : List Nat} (hj : s.jobs q = t :: r) (hp : s.pcs[th]? = some Pc.idle)
    (hl : s.locked q = false) (hext : th = 0 → s.mode = .waitLoop q) : Inv (doPop s th q t r) := by
  have htj : t ∈ s.jobs q := by rw [hj]; exact List.mem_cons_self
  have hsorted := h.a.jobs_sorted q
  rw [hj, List.pairwise_cons] at hsorted
  have hmem : ∀ {q' x}, x ∈ upd s.jobs q r q' ↔ x ∈ s.jobs q' ∧ x ≠ t := by
    intro q' x
    rw [upd_apply]
    split
    · rename_i e
      rw [e, hj, List.mem_cons]
      exact ⟨fun hx => ⟨Or.inr hx, Nat.ne_of_gt (hsorted.1 x hx)⟩, fun hx => hx.1.resolve_left hx.2⟩
    · rename_i e
      exact ⟨fun hx => ⟨hx, fun e' => e ((h.a.jobs_tq q' x hx).symm.trans (e' ▸ h.a.jobs_tq q t htj))⟩,
        fun hx => hx.1⟩
  have hse : ∀ q', s.mode = .spin q' → upd s.jobs q r q' = [] := fun q' hm => by
    rw [upd_ne _ _ fun e => by have := h.b.spin_empty q' hm; rw [e, hj] at this; cases this]
    exact h.b.spin_empty q' hm
  have hne : ∀ {q'}, s.locked q' = true → q' ≠ q := fun h1 e => by rw [e, hl] at h1; cases h1
  refine ⟨{ h.a.start_task hp htj hmem (pairwise_upd h.a.jobs_sorted hsorted.2 q) with }, ?b,
    { h.c with
      par_unlocked := (lockQ_zero s q).trans h.c.par_unlocked
      locked_owner := fun q' hq' hl' => by
        show (s.pcs.set th _)[upd s.owner q th q']? = some (Pc.relock q') ∨
          (s.pcs.set th _)[upd s.owner q th q']? = some (Pc.running (upd s.cur q t q') q')
        by_cases e : q' = q
        · rw [e, upd_same, upd_same]
          exact Or.inr (getElem?_set_self_of _ hp)
        · rw [upd_ne _ _ e, upd_ne _ _ e]
          rw [show (doPop s th q t r).locked q' = s.locked q' from lockQ_of_ne e] at hl'
          exact (h.c.locked_owner q' hq' hl').imp (getElem?_set_of_ne_old _ hp · nofun) (getElem?_set_of_ne_old _ hp · nofun)
      hold_run := fun q' o x hq' hr => by
        rcases getElem?_set_cases hr with ⟨e0, e⟩ | ⟨_, hr⟩
        · cases e; rw [e0]; exact ⟨lockQ_self hq', upd_same _ _ _⟩
        · have ⟨h1, h2⟩ := h.c.hold_run q' o x hq' hr
          exact ⟨(lockQ_of_ne (hne h1)).trans h1, (upd_ne _ _ (hne h1)).trans h2⟩
      hold_relock := fun q' o hq' hr =>
        have ⟨h1, h2⟩ := h.c.hold_relock q' o hq' (getElem?_of_set_ne_new hr nofun)
        ⟨(lockQ_of_ne (hne h1)).trans h1, (upd_ne _ _ (hne h1)).trans h2⟩
      tw_count := h.c.tw_set hp rfl }⟩
  exact { h.b.set_job_pc hp (.running t q) nofun nofun nofun fun hth => by
            rw [hext hth]
            exact ⟨nofun, nofun, by rintro _ ⟨⟩; exact Or.inr (Or.inl ⟨t, rfl⟩)⟩ with spin_empty := hse }

theorem inv_scanBody (h : Inv s) {th : Nat} (hth : th ≠ 0) (hp : s.pcs[th]? = some Pc.idle) :
    Inv (scanBody s th) := by
  rcases scanBody_cases s th with ⟨ht, he⟩ | ⟨ht, _, he⟩ | ⟨_, q, t, r, _, hj, hl, _, he⟩ <;> rw [he]
  · exact inv_set_pc h hp (.inl hth) nofun nofun nofun .exited nofun nofun nofun (fun _ => ht) (h.c.tw_set hp rfl)
  · have hc : (s.pcs.set th .sleeping).countP isWaiting = s.pcs.countP isWaiting + 1 :=
      countP_set_of isWaiting s.pcs th .sleeping .idle hp
    exact inv_set_pc h hp (.inl hth) nofun nofun nofun .sleeping nofun nofun (fun _ => ht) nofun
      (by rw [h.c.tw_count]; exact hc.symm)
  · exact inv_doPop h hj hp hl fun e => absurd e hth

/-- A woken worker has re-acquired the mutex and decremented `threads_waiting`.  From here on its critical
section is that of an idle worker (`scanBody_set_pc`). -/
theorem inv_reacquire (h : Inv s) {th : Nat} (hp : s.pcs[th]? = some Pc.woken) :
    Inv { s with tw := s.tw - 1, pcs := s.pcs.set th .idle } := by
  have hc : (s.pcs.set th .idle).countP isWaiting + 1 = s.pcs.countP isWaiting :=
    countP_set_of isWaiting s.pcs th .idle .woken hp
  exact inv_set_pc h hp (.inr rfl) nofun nofun nofun .idle nofun nofun nofun nofun (by rw [h.c.tw_count, ← hc]; rfl)

theorem inv_wake (h : Inv s) {th : Nat} (hp : s.pcs[th]? = some Pc.sleeping) :
    Inv { s with pcs := s.pcs.set th .woken } :=
  inv_set_pc h hp (.inr rfl) nofun nofun nofun .woken nofun nofun nofun nofun (h.c.tw_set hp rfl)

theorem inv_taskEnd (h : Inv s) {th t q : Nat} (hp : s.pcs[th]? = some (Pc.running t q)) :
    Inv { s with pcs := s.pcs.set th (.relock q), done := s.done ++ [t] } := by
  have ⟨hst, hnd, _, _⟩ := h.a.run_started th t q hp
  refine ⟨{ h.a with
      len := List.length_set.trans h.a.len
      done_sub := fun x hx => (mem_snoc.mp hx).elim (h.a.done_sub x) fun e => e ▸ hst
      done_nodup := nodup_snoc h.a.done_nodup hnd
      run_started := fun o x q' hr => by
        rcases getElem?_set_cases hr with ⟨_, e⟩ | ⟨hne, hr⟩
        · cases e
        · have ⟨h1, h2, h3, h4⟩ := h.a.run_started o x q' hr
          -- another thread's task is not the one that ended: a task has one runner
          refine ⟨h1, fun hd => (mem_snoc.mp hd).elim h2 fun e => hne ?_, h3, h4⟩
          rw [← h.a.run_runner o x q' hr, e, h.a.run_runner th t q hp]
      run_runner := fun o x q' hr => h.a.run_runner o x q' (getElem?_of_set_ne_new hr nofun)
      started_cases := fun x hx => by
        rcases h.a.started_cases x hx with hd | hr
        · exact Or.inl (List.mem_append_left _ hd)
        · by_cases e : x = t
          · exact Or.inl (mem_snoc.mpr (Or.inr e))
          · exact Or.inr (getElem?_set_of_ne_old _ hp hr fun e' => e (Pc.running.inj e').1) }, ?b,
    { h.c with
      locked_owner := fun q' hq' hl' => by
        have old := h.c.locked_owner q' hq' hl'
        show (s.pcs.set th _)[s.owner q']? = _ ∨ (s.pcs.set th _)[s.owner q']? = _
        by_cases e : s.owner q' = th
        · -- the owner is the thread whose job ended: its queue is `q`
          rw [e, hp] at old
          rcases old with old | old <;> cases old
          rw [e]
          exact Or.inl (getElem?_set_self_of _ hp)
        · rw [List.getElem?_set_ne (Ne.symm e)]
          exact old
      hold_run := fun q' o x hq' hr => h.c.hold_run q' o x hq' (getElem?_of_set_ne_new hr nofun)
      hold_relock := fun q' o hq' hr => by
        rcases getElem?_set_cases hr with ⟨e0, e⟩ | ⟨_, hr⟩
        · rw [e0, Pc.relock.inj e]; exact h.c.hold_run q th t (Pc.relock.inj e ▸ hq') hp
        · exact h.c.hold_relock q' o hq' hr
      tw_count := h.c.tw_set hp rfl }⟩
  refine { h.b.set_job_pc hp (.relock q) nofun nofun nofun fun hth => ?_ with }
  subst hth
  refine ⟨fun hm => (nomatch (h.b.ext.idle hm).symm.trans hp), fun hm => ?_, fun q' hm => ?_⟩
  · rcases h.b.ext.inline hm with ⟨t', ht'⟩ | hr
    · cases ht'.symm.trans hp; exact Or.inr rfl
    · exact nomatch hr.symm.trans hp
  · rcases h.b.ext.wait q' hm with hi | ⟨t', ht'⟩ | hr
    · exact nomatch hi.symm.trans hp
    · cases ht'.symm.trans hp; exact Or.inr (Or.inr rfl)
    · exact nomatch hr.symm.trans hp

theorem inv_relock (h : Inv s) {th q : Nat} (hp : s.pcs[th]? = some (Pc.relock q)) :
    Inv { s with pcs := s.pcs.set th .idle, locked := unlockQ s q,
                 mode := if th = 0 ∧ s.mode = .inline then .api else s.mode } := by
  have hne : ∀ {q' o}, q' ≠ 0 → s.owner q' = o → o ≠ th → q' ≠ q := fun hq' ho hne e =>
    hne (ho.symm.trans (e ▸ (h.c.hold_relock q th (e ▸ hq') hp).2))
  refine ⟨{ h.a.pcs_congr List.length_set fun _ t q' =>
              getElem?_set_iff_of_ne (x := .running t q') (a := .idle) hp nofun nofun with }, ?b,
    { h.c with
      par_unlocked := (unlockQ_zero s q).trans h.c.par_unlocked
      locked_owner := fun q' hq' hl' => by
        have hl' : unlockQ s q q' = true := hl'
        have e : q' ≠ q := fun e => by rw [e, unlockQ_self (e ▸ hq')] at hl'; cases hl'
        rw [unlockQ_of_ne e] at hl'
        exact (h.c.locked_owner q' hq' hl').imp (getElem?_set_of_ne_old _ hp · fun e' => e (by cases e'; rfl))
          (getElem?_set_of_ne_old _ hp · nofun)
      hold_run := fun q' o x hq' hr => by
        rcases getElem?_set_cases hr with ⟨_, e⟩ | ⟨ho, hr⟩
        · cases e
        · have ⟨h1, h2⟩ := h.c.hold_run q' o x hq' hr
          exact ⟨(unlockQ_of_ne (hne hq' h2 ho)).trans h1, h2⟩
      hold_relock := fun q' o hq' hr => by
        rcases getElem?_set_cases hr with ⟨_, e⟩ | ⟨ho, hr⟩
        · cases e
        · have ⟨h1, h2⟩ := h.c.hold_relock q' o hq' hr
          exact ⟨(unlockQ_of_ne (hne hq' h2 ho)).trans h1, h2⟩
      tw_count := h.c.tw_set hp rfl }⟩
  by_cases hc : th = 0 ∧ s.mode = .inline
  · -- the inline job of `addJob` is over: back to the caller
    rw [if_pos hc]
    obtain ⟨rfl, hm⟩ := hc
    exact { h.b with
      ext := ⟨fun _ => getElem?_set_self_of _ hp, nofun, nofun⟩
      wait_q := nofun
      term_eq := (h.b.term_of hm :)
      spin_empty := nofun
      join_awake := nofun
      destroyed_exited := nofun
      exited_term := fun o hx => h.b.exited_term o (getElem?_of_set_ne_new hx nofun) }
  · rw [if_neg hc]
    exact { h.b.set_job_pc hp .idle nofun nofun nofun fun hth =>
              ⟨fun _ => rfl, fun hm => absurd ⟨hth, hm⟩ hc, fun _ _ => Or.inl rfl⟩ with }

theorem inv_step {s' : State} {a : Action} (h : Inv s) (hs : step s a = some s') : Inv s' := by
  cases step_iff.mp hs with
  | createQueue p =>
    exact ⟨{ h.a with
        jobs_q := fun q t ht => Nat.le_succ_of_le (h.a.jobs_q q t ht)
        run_started := fun th t q hr =>
          have ⟨h1, h2, h3, h4⟩ := h.a.run_started th t q hr
          ⟨h1, h2, h3, Nat.le_succ_of_le h4⟩ },
      { h.b with wait_q := fun q hq => ⟨Nat.le_succ_of_le (h.b.wait_q q hq).1, (h.b.wait_q q hq).2⟩ },
      { h.c with }⟩
  | setSingle b => exact ⟨{ h.a with }, { h.b with }, { h.c with }⟩
  | submit hm hq => exact inv_submit h hm hq
  | submitInline hm => exact inv_submitInline h hm
  | waitBegin hm hq =>
    exact ⟨{ h.a with },
      { h.b with
        ext := ⟨nofun, nofun, fun _ _ => Or.inl (h.b.ext.idle (Or.inl hm))⟩
        wait_q := by rintro _ (⟨⟨⟩⟩ | ⟨⟨⟩⟩); exact ⟨hq, rfl⟩
        term_eq := (h.b.term_of hm :)
        spin_empty := nofun
        join_awake := nofun
        destroyed_exited := nofun },
      { h.c with }⟩
  | waitPop hm h0 _ hl hj => exact inv_doPop h hj h0 hl fun _ => hm
  | waitBlocked => exact h
  | @waitEmpty q hm h0 he =>
    exact ⟨{ h.a with },
      { h.b with
        ext := ⟨fun _ => h0, nofun, nofun⟩
        wait_q := by rintro _ (⟨⟨⟩⟩ | ⟨⟨⟩⟩); exact h.b.wait_q q (Or.inl hm)
        term_eq := (h.b.term_of hm :)
        spin_empty := by
          rintro _ ⟨⟩
          exact he.resolve_left fun e => nomatch (h.b.term_of hm).symm.trans e
        join_awake := nofun
        destroyed_exited := nofun },
      { h.c with }⟩
  | spinRetry => exact h
  | @spinExit q hm =>
    exact ⟨{ h.a with },
      { h.b with
        ext := ⟨fun _ => h.b.ext.idle (Or.inr (Or.inl ⟨q, hm⟩)), nofun, nofun⟩
        wait_q := nofun
        term_eq := (h.b.term_of hm :)
        spin_empty := nofun
        join_awake := nofun
        destroyed_exited := nofun },
      { h.c with }⟩
  | sdFlag hm =>
    exact ⟨{ h.a with dropped_term := nofun },
      { h.b with
        ext := ⟨fun _ => h.b.ext.idle (Or.inl hm), nofun, nofun⟩
        wait_q := nofun
        term_eq := rfl
        spin_empty := nofun
        join_awake := nofun
        destroyed_exited := nofun
        exited_term := fun _ _ => rfl },
      { h.c with }⟩
  | sdClear hm => exact inv_sdClear h hm
  | sdNotify hm => exact inv_sdNotify h hm
  | sdJoin hm hall =>
    exact ⟨{ h.a with },
      { h.b with
        ext := ⟨fun _ => h.b.ext.idle (Or.inr (Or.inr (by rw [hm]; rfl))), nofun, nofun⟩
        wait_q := nofun
        term_eq := (h.b.term_of hm :)
        spin_empty := nofun
        join_awake := fun _ => h.b.join_awake (Or.inl hm)
        destroyed_exited := fun _ => (allExited_iff s).mp hall },
      { h.c with }⟩
  | scan hth hp => exact inv_scanBody h hth hp
  | rescan hth hp =>
    rw [← scanBody_set_pc _ _ .idle]
    exact inv_scanBody (inv_reacquire h hp) hth (getElem?_set_self_of _ hp)
  | wake hp => exact inv_wake h hp
  | taskEnd hp => exact inv_taskEnd h hp
  | relock hp => exact inv_relock h hp

end Mustache.Dispatcher
