import Mustache.Proofs.VersionsBasic
/-!
# Stamps of one archetype against the world version and against a job's ghosts

`Stamps a w`: the bounds on the stamps of `a` at world version `w`. `Ghost J a p t`: what the ghosts `pending`
and `touched` of job `J` claim about the stamps of `a`. Every operation that changes stamps writes the
current version into some (chunk, component) pairs of an archetype (`Restamp`: `stampComp`, `push`,
`swapRemove`, `runJob`); `Stamps` and `Ghost` survive that for one common reason.
-/
namespace Mustache.Versions

structure Stamps (a : Arch) (w : Ver) : Prop where
  csPos : 0 < a.cs
  gstLe : a.ents ≠ [] → ∀ c, a.gst c ≤ w
  cstLe : ∀ k c, k * a.cs < a.ents.length → a.cst k c ≤ a.gst c

theorem Stamps.cstLeW {a : Arch} {w : Ver} (h : Stamps a w) {k : Nat} (hk : k * a.cs < a.ents.length)
    (c : Comp) : a.cst k c ≤ w :=
  Nat.le_trans (h.cstLe k c hk) (h.gstLe (ne_nil_of_range hk) c)

theorem Stamps.mono {a : Arch} {w w' : Ver} (h : Stamps a w) (hw : w ≤ w') : Stamps a w' :=
  ⟨h.csPos, fun hne c => Nat.le_trans (h.gstLe hne c) hw, h.cstLe⟩

/-- A newer chunk stamp passes the archetype-level check too: the archetype-level stamp is at least as new
(`cstLe`). -/
theorem Stamps.procChunk_of_newer {a : Arch} {w : Ver} (h : Stamps a w) {J : Job} {k : Nat} {c : Comp}
    (hk : k * a.cs < a.ents.length) (hreq : J.reqOk a = true) (hck : J.chunkOk k = true) (hcc : c ∈ J.check)
    (hcm : c ∈ a.mask) (hn : J.newer (a.cst k c)) : a.procChunk J k = true :=
  have hcf : c ∈ a.fmask J.check := mem_fmask.mpr ⟨hcc, hcm⟩
  procChunk_iff.mpr ⟨hk, hreq, hck, matchSt_iff.mpr (Or.inr ⟨c, hcf, hn.mono (h.cstLe k c hk)⟩),
    matchSt_iff.mpr (Or.inr ⟨c, hcf, hn⟩)⟩

/-- the ghosts `p = pending j`, `t = touched j ai` of job `J` against the stamps of an archetype -/
structure Ghost (J : Job) (a : Arch) (p : Ent → Comp → Bool) (t : Nat → Bool) : Prop where
  pend : ∀ i e c, a.ents[i]? = some e → J.chunkOk (i / a.cs) = true → c ∈ J.check → c ∈ a.mask →
    p e c = true → J.newer (a.cst (i / a.cs) c)
  touch : ∀ k c, k * a.cs < a.ents.length → c ∈ J.check → c ∈ a.mask → J.newer (a.cst k c) →
    t k = true

/-- `a'` arises from `a` by stamping the (chunk, component) pairs `H` with the version `w`; rows may
change too, but the chunks in range afterwards are stamped ones or were in range before -/
structure Restamp (a a' : Arch) (w : Ver) (H : Nat → Comp → Prop) : Prop where
  cs : a'.cs = a.cs
  mask : a'.mask = a.mask
  gst : ∀ c, a'.gst c = w ∨ (a'.gst c = a.gst c ∧ (a'.ents ≠ [] → a.ents ≠ []))
  hit : ∀ k c, H k c → a'.cst k c = w ∧ a'.gst c = w
  miss : ∀ k c, ¬ H k c → k * a'.cs < a'.ents.length →
    k * a.cs < a.ents.length ∧ a'.cst k c = a.cst k c

theorem Restamp.stamps {a a' : Arch} {w : Ver} {H : Nat → Comp → Prop} (r : Restamp a a' w H)
    (h : Stamps a w) : Stamps a' w := by
  refine ⟨r.cs ▸ h.csPos, fun hne c => ?_, fun k c hk => ?_⟩
  · rcases r.gst c with e | ⟨e, hn⟩
    · exact Nat.le_of_eq e
    · exact e ▸ h.gstLe (hn hne) c
  · by_cases hH : H k c
    · rw [(r.hit k c hH).1, (r.hit k c hH).2]; exact Nat.le_refl _
    · obtain ⟨hk0, e⟩ := r.miss k c hH hk
      rw [e]
      rcases r.gst c with e | ⟨e, _⟩
      · exact e ▸ h.cstLeW hk0 c
      · exact e ▸ h.cstLe k c hk0

theorem Restamp.ghost {a a' : Arch} {w : Ver} {H : Nat → Comp → Prop} (r : Restamp a a' w H) {J : Job}
    {p p' : Ent → Comp → Bool} {t t' : Nat → Bool} (hw : J.newer w) (h : Ghost J a p t)
    (hrow : ∀ i e c, a'.ents[i]? = some e → c ∈ a.mask → ¬ H (i / a.cs) c →
      a.ents[i]? = some e ∧ (p' e c = true → p e c = true))
    (hhit : ∀ k c, H k c → c ∈ J.check → t' k = true)
    (hmiss : ∀ k, t k = true → t' k = true) : Ghost J a' p' t' := by
  refine ⟨fun i e c he hck hcc hcm hp => ?_, fun k c hk hcc hcm hn => ?_⟩
  · rw [r.cs] at hck ⊢
    by_cases hH : H (i / a.cs) c
    · exact (r.hit _ c hH).1 ▸ hw
    · rw [r.mask] at hcm
      obtain ⟨he0, hp0⟩ := hrow i e c he hcm hH
      rw [(r.miss _ c hH (r.cs ▸ chunk_in_range he)).2]
      exact h.pend i e c he0 hck hcc hcm (hp0 hp)
  · by_cases hH : H k c
    · exact hhit k c hH hcc
    · obtain ⟨hk0, e⟩ := r.miss k c hH hk
      exact hmiss k (h.touch k c hk0 hcc (r.mask ▸ hcm) (e ▸ hn))

theorem restamp_stampComp (a : Arch) (k : Nat) (c : Comp) (w : Ver) :
    Restamp a (a.stampComp k c w) w (fun k' c' => k' = k ∧ c' = c) where
  cs := rfl
  mask := rfl
  gst c' := by
    rw [stampComp_gst]
    by_cases hc : c' = c
    · exact Or.inl (if_pos hc)
    · exact Or.inr ⟨if_neg hc, id⟩
  hit k' c' h := ⟨by rw [stampComp_cst, if_pos h], by rw [stampComp_gst, if_pos h.2]⟩
  miss k' c' h hk := ⟨hk, by rw [stampComp_cst, if_neg h]⟩

theorem restamp_push {a : Arch} (hcs : 0 < a.cs) (e : Ent) (w : Ver) :
    Restamp a (a.push e w) w (fun k _ => k = a.ents.length / a.cs) where
  cs := rfl
  mask := rfl
  gst _ := Or.inl rfl
  hit k c h := ⟨by rw [push_cst, if_pos h], rfl⟩
  miss k c h hk := by
    rw [push_ents, List.length_append] at hk
    -- a chunk other than that of the new row starts below the old population
    exact ⟨Nat.lt_of_le_of_ne (Nat.le_of_lt_succ hk) fun hk' => h (hk' ▸ (Nat.mul_div_cancel k hcs).symm),
      by rw [push_cst, if_neg h]⟩

theorem restamp_swapRemove {a : Arch} {i : Nat} {e : Ent} (w : Ver) (hi : a.ents[i]? = some e) :
    Restamp a (a.swapRemove i w) w (fun k _ => k = i / a.cs ∨ k = (a.ents.length - 1) / a.cs) := by
  obtain ⟨hcs, hmask, hlen, hg, hc, -⟩ := swapRemove_spec w hi
  refine ⟨hcs, hmask, fun c => Or.inl (hg c), fun k c h => ⟨by rw [hc, if_pos h], hg c⟩,
    fun k c h hk => ?_⟩
  rw [hcs, hlen] at hk
  exact ⟨Nat.lt_of_lt_of_le hk (Nat.sub_le ..), by rw [hc, if_neg h]⟩

theorem restamp_runJob (a : Arch) (J : Job) (w : Ver) :
    Restamp a (a.runJob J w) w (fun k c => a.procChunk J k = true ∧ c ∈ a.fmask J.upd) where
  cs := runJob_cs ..
  mask := runJob_mask ..
  gst c := by
    rw [runJob_gst, runJob_ents]
    by_cases hc : a.active J = true ∧ c ∈ a.fmask J.upd
    · exact Or.inl (if_pos hc)
    · exact Or.inr ⟨if_neg hc, id⟩
  hit k c h := ⟨by rw [runJob_cst, if_pos h], by rw [runJob_gst, if_pos ⟨procChunk_active h.1, h.2⟩]⟩
  miss k c h hk := ⟨by rwa [runJob_ents, runJob_cs] at hk, by rw [runJob_cst, if_neg h]⟩

end Mustache.Versions
