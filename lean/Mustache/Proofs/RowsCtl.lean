import Mustache.Proofs.RowsPack
/-!
# The structural operations read neither `lockDepth` nor `buffers` nor `marked`

`setCtl w d b mk` replaces the three fields; each operation that `destroyNow` and `applyCommandPack` are made of commutes
with it.
-/
namespace Mustache.Proofs.Refine
open Mustache.Model
open Mustache.Proofs.Rows

variable (info : CompId → CompInfo)

def setCtl (w : WM) (d : Nat) (b : List (List Cmd)) (mk : List Handle) : WM :=
  { w with lockDepth := d, buffers := b, marked := mk }

variable (d : Nat) (b : List (List Cmd)) (mk : List Handle)

theorem setCtl_setArch (w : WM) (i : Nat) (a : Arch) : (setCtl w d b mk).setArch i a = setCtl (w.setArch i a) d b mk := rfl

theorem setCtl_arch (w : WM) (i : Nat) : (setCtl w d b mk).arch i = w.arch i := rfl
theorem setCtl_locOf (w : WM) (h : Handle) : (setCtl w d b mk).locOf h = w.locOf h := rfl
theorem setCtl_isValid (w : WM) (h : Handle) : (setCtl w d b mk).isValid h = w.isValid h := rfl

theorem setCtl_marked (X : WM) (M : List Handle) :
    setCtl { X with marked := M } d b ({ X with marked := M } : WM).marked = setCtl X d b M := rfl

theorem setCtl_self {X : WM} (hd : X.lockDepth = d) (hb : X.buffers = b) : setCtl X d b mk = { X with marked := mk } := by
  subst hd; subst hb; rfl

theorem setCtl_setLoc (w : WM) (h : Handle) (a : Option Nat) (i : Nat) :
    (setCtl w d b mk).setLoc h a i = setCtl (w.setLoc h a i) d b mk := by
  unfold WM.setLoc
  split <;> rfl

theorem setCtl_release (w : WM) (h : Handle) : (setCtl w d b mk).release h = setCtl (w.release h) d b mk := by
  unfold WM.release
  by_cases hc : h.id < w.slots.length
  · have : h.id < (setCtl w d b mk).slots.length := hc
    simp only [hc, this, if_true]; rfl
  · have : ¬ h.id < (setCtl w d b mk).slots.length := hc
    simp only [hc, this, if_false]; rfl

theorem setCtl_archRemove (w : WM) (ai idx : Nat) (sk : Mask) :
    (setCtl w d b mk).archRemove info ai idx sk =
      (setCtl (w.archRemove info ai idx sk).1 d b mk, (w.archRemove info ai idx sk).2) := by
  unfold WM.archRemove
  simp only [setCtl_arch]
  cases (w.arch ai).rows[idx]? with
  | none => rfl
  | some row =>
    simp only
    by_cases hl : idx = (w.arch ai).rows.length - 1
    · simp only [hl, if_true, setCtl_setArch, setCtl_setLoc]
    · simp only [hl, if_false, setCtl_setArch, setCtl_setLoc]

theorem setCtl_destroyNowU (w : WM) (h : Handle) :
    (setCtl w d b mk).destroyNowU info h = (setCtl (w.destroyNowU info h).1 d b mk, (w.destroyNowU info h).2) := by
  unfold WM.destroyNowU
  simp only [setCtl_isValid, setCtl_locOf]
  by_cases hv : (!w.isValid h) = true
  · simp only [hv, if_true]
  · simp only [hv, Bool.false_eq_true, if_false]
    cases (w.locOf h).arch with
    | none => simp only [setCtl_release]
    | some ai => simp only [setCtl_archRemove, setCtl_release]

theorem setCtl_getArch (w : WM) (m : Mask) (sh : Shared) :
    (setCtl w d b mk).getArch m sh = (setCtl (w.getArch m sh).1 d b mk, (w.getArch m sh).2) := by
  unfold WM.getArch
  have hf : (setCtl w d b mk).findArch (Mask.union m (extraComponents (setCtl w d b mk).deps m)) sh =
      w.findArch (Mask.union m (extraComponents w.deps m)) sh := rfl
  simp only [hf]
  cases w.findArch (Mask.union m (extraComponents w.deps m)) sh <;> rfl

theorem setCtl_archInsert (w : WM) (ai : Nat) (e : Handle) (skip : Mask) :
    (setCtl w d b mk).archInsert info ai e skip =
      (setCtl (w.archInsert info ai e skip).1 d b mk, (w.archInsert info ai e skip).2) := by
  unfold WM.archInsert
  simp only [setCtl_arch, setCtl_setArch, setCtl_setLoc]
  rfl

theorem setCtl_externalMove (w : WM) (t : Nat) (e : Handle) (p i : Nat) (skip : Mask) :
    (setCtl w d b mk).externalMove info t e p i skip =
      (w.externalMove info t e p i skip).map (fun r => (setCtl r.1 d b mk, r.2)) := by
  unfold WM.externalMove
  by_cases ht : t = p
  · simp only [ht, if_true, Option.map_none]
  · simp only [ht, if_false, setCtl_arch, setCtl_setArch, setCtl_archRemove, setCtl_setLoc, Option.map_some]

/-- `destroyNow` neither reads nor writes the pending set -/
theorem destroyNowU_setMarked (w : WM) (h : Handle) :
    ({ w with marked := mk }).destroyNowU info h =
      ({ (w.destroyNowU info h).1 with marked := mk }, (w.destroyNowU info h).2) := by
  have hctl := destroyNowU_ctl info w h
  rw [← setCtl_self w.lockDepth w.buffers mk rfl rfl, setCtl_destroyNowU, setCtl_self _ _ _ hctl.lockDepth hctl.buffers]

end Mustache.Proofs.Refine
