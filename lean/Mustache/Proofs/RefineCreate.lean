import Mustache.Proofs.RefineEntity
/-!
# Refinement: an unlocked operation that brings a new entity into being: `create`, `clone`

`born_refines` is the common part (also of the builder's `begin().end()`, `RefineBuildNew`): the handle `allocId`
hands out owns a row of the new state, everything else reads as before. `insVals`/`insCbs` are the values and
callbacks of `Archetype::insert`.
-/
namespace Mustache.Proofs.Refine
open Mustache.Model Mustache.Spec
open Mustache.Proofs.IdTable (tabOf Ghost TInv)
open Mustache.Proofs.Rows

variable (info : CompId → CompInfo) {c : CW} {s : WS}

theorem born_refines {w : WM} {iss : List Handle} {s : WS} (hi : Inv ⟨w, iss⟩) (hr : Rel ⟨w, iss⟩ s)
    (hl : w.isLocked = false) {w' : WM} {h : Handle} {ai : Nat} {vals : List Val}
    (htab : tabOf w' = ((tabOf w).alloc).1) (hh : h = ((tabOf w).alloc).2)
    (hs : Step w w' h.id) (ho : Owns w' h ai vals) (hfresh : NotInRow w h.id)
    (hsh' : SharedPooled w')
    (hctl : SameCtl w w') (hmk : w'.marked = w.marked) (hcov : w'.slots.length ≤ w'.locs.length)
    (hb' : Bounds ⟨w', iss ++ [h]⟩) (x : SEnt) (hx : optRel (some x) (absEnt w' h)) :
    Inv ⟨w', iss ++ [h]⟩ ∧ Rel ⟨w', iss ++ [h]⟩ { s with ents := s.ents ++ [some x] } := by
  have hd0 : w.lockDepth = 0 := unlocked_depth hl
  rcases hi.tinv with ⟨g, tinv, hiss, hpend⟩
  have hpnil : g.pending = [] := pending_nil_of_unlocked (c := ⟨w, iss⟩) hi hd0 hpend
  have halloc := Mustache.Proofs.IdTable.alloc_inv tinv hpnil (show (tabOf w).lockDepth = 0 from hd0)
  rw [← hh, ← htab] at halloc
  have htinv' := halloc.1
  have hnew : h ∉ iss := fun hin => halloc.2.not_issued (by rw [hiss]; exact List.mem_reverse.mpr hin)
  have hworld : h.world = w.worldId :=
    (htinv'.world h (show h ∈ h :: g.issued from List.mem_cons_self ..)).trans hctl.worldId
  have hnn : h ≠ Handle.null := fun e => by
    have := hb'.noWrap h (by simp)
    rw [e] at this
    simp [Handle.null] at this
  have hkeep := hctl.keeps hmk
  have hlive' := liveInv_owns hs hi.live ho
  have hinv' : Inv ⟨w', iss ++ [h]⟩ :=
    inv_of_keepsCtl (c := ⟨w, iss⟩) hi hkeep (fun y hy => List.mem_append_left _ hy)
      ⟨g.create h, htinv', by show h :: g.issued = (iss ++ [h]).reverse; rw [hiss]; simp, hpend⟩
      hs.ok (hs.keys hi.keys) hlive' (hctl.poolInv hi.pool) hsh' hcov
  refine ⟨hinv', ?_⟩
  -- validity through the ghosts
  have hslots : (tabOf w).slots.length ≤ 2^30 - 1 := by
    have h1 : (tabOf w').slots.length ≤ 2^30 - 1 := Nat.le_of_lt hb'.inRange
    rw [htab] at h1
    exact Nat.le_trans (Mustache.Proofs.IdTable.alloc_length_ge _) h1
  have hvalid : ∀ y, y ≠ h → w'.isValid y = w.isValid y := fun y hne => by
    rw [Bool.eq_iff_iff, valid_iff_ghost htinv' (Nat.le_of_lt hb'.inRange) y, valid_iff_ghost tinv hslots y]
    exact List.mem_cons.trans (or_iff_right hne)
  have hne : ∀ y ∈ iss, y ≠ h := fun y hy e => hnew (e ▸ hy)
  have habs : ∀ y ∈ iss, absEnt w' y = absEnt w y := fun y hy => by
    by_cases hid : y.id = h.id
    · have hinv : w.isValid y = false := by
        cases hv : w.isValid y with
        | false => rfl
        | true =>
          rcases hi.live.live_in y hv with ⟨aj, j, r, hrr, hre⟩
          exact absurd (by rw [hre]; exact hid) (hfresh aj j r hrr)
      rw [absEnt_invalid hinv, absEnt_invalid ((hvalid y (hne y hy)).trans hinv)]
    · exact absEnt_step hi.rows hi.live hi.shared hs.frame hkeep.pool y hid
  have hr1 : Rel ⟨w', iss⟩ s :=
    rel_of_ents (c := ⟨w, iss⟩) hi hr hkeep hs.ok hlive' rfl
      (fun o y ho => by rw [habs y (List.mem_of_getElem? ho)]; exact hr.ents o y ho)
      (fun y hy hv _ => (hvalid y (hne y hy)).symm.trans hv)
  refine rel_issue hr1 h (some x) hx (fun b hb cmd hc => ?_) (fun y hy => ?_)
  · rw [hi.bufEmpty hd0 b (hctl.buffers ▸ hb)] at hc; cases hc
  · exact (hi.markedKnown y (hmk ▸ hy)).1.ne_new hnew hworld hnn

theorem allocId_cover {w : WM} (h : w.slots.length ≤ w.locs.length) :
    (w.allocId).1.slots.length ≤ (w.allocId).1.locs.length := by
  rcases allocId_cases w with h1 | ⟨s, _, h1⟩ | h1 <;> rw [h1]
  · show (w.slots ++ _).length ≤ (w.locs ++ _).length
    rw [List.length_append, List.length_append]; exact Nat.add_le_add_right h 1
  · show (w.slots.set _ _).length ≤ (w.locs.set _ _).length
    rw [List.length_set, List.length_set]; exact h
  · exact h

theorem allocId_ctl (w : WM) : SameCtl w (w.allocId).1 := by
  rcases allocId_cases w with h | ⟨s, _, h⟩ | h <;> rw [h] <;> exact ⟨rfl, rfl, rfl, rfl, rfl, rfl, rfl, rfl, rfl⟩

theorem allocId_marked (w : WM) : (w.allocId).1.marked = w.marked := by
  rcases allocId_cases w with h | ⟨s, _, h⟩ | h <;> rw [h]

/-- the state after `getArch` + `allocId` + an inserted row, seen from the state before -/
structure BornFacts (w w' : WM) (g : WM) (h : Handle) : Prop where
  ctl : SameCtl w w'
  marked : w'.marked = w.marked
  cover : w.slots.length ≤ w.locs.length → w'.slots.length ≤ w'.locs.length
  keys : KeysSame g w'

theorem bornFacts_alloc {w g : WM} (hg : SameTable w g) (hlocs : g.locs = w.locs) (ai : Nat)
    (vals : List Val) : BornFacts w (insertRow (g.allocId).1 ai (g.allocId).2 vals) g (g.allocId).2 := by
  have hins := insertRow_sameTable (g.allocId).1 ai (g.allocId).2 vals
  refine ⟨hg.ctl.trans ((allocId_ctl _).trans hins.ctl), ?_, fun hc => ?_, ?_⟩
  · rw [hins.marked, allocId_marked, hg.marked]
  · rw [hins.slots, insertRow_locs_length]
    exact allocId_cover (by rw [hg.slots, hlocs]; exact hc)
  · exact (KeysSame.of_archs (allocId_archs _)).trans (insertRow_keysSame _ _ _ _)

/-- values / callbacks of `Archetype::insert(entity, skip)` -/
def insVals (tm skip : Mask) : List Val :=
  tm.map (fun c => if (skip == tm) || skip.contains c then (match (info c).fixed with | some v => some v | none => none)
    else defaultVal info c)

def insCbs (tm skip : Mask) (e : Handle) : List Cb :=
  if skip == tm then [] else (tm.filter (fun c => (info c).callbacks && !skip.contains c)).map (Cb.assign · e)

theorem archInsert_form (w : WM) (ai : Nat) (e : Handle) (skip : Mask) :
    w.archInsert info ai e skip =
      (insertRow w ai e (insVals info (w.arch ai).mask skip), insCbs info (w.arch ai).mask skip e) := rfl

theorem insCbs_eq (tm skip : Mask) (e : Handle) :
    insCbs info tm skip e = (tm.filter (fun c => (info c).callbacks && !skip.contains c)).map (Cb.assign · e) := by
  unfold insCbs
  by_cases h : (skip == tm) = true
  · rw [if_pos h]
    have : skip = tm := by simpa using h
    subst this
    have : skip.filter (fun c => (info c).callbacks && !skip.contains c) = [] := by
      rw [List.filter_eq_nil_iff]; intro x hx; simp [hx]
    rw [this]; rfl
  · rw [if_neg h]

theorem insVals_get (tm skip : Mask) (x : CompId) (hx : x ∈ tm) (hns : x ∉ skip) :
    (insVals info tm skip).getD (tm.idxOf x) none = defaultVal info x := by
  unfold insVals
  have hi := indexOf?_of_mem hx
  rw [List.getD_eq_getElem?_getD, List.getElem?_map, hi.2.2]
  have h1 : (skip == tm) = false := by
    cases h : skip == tm with
    | false => rfl
    | true =>
      have : skip = tm := by simpa using h
      exact absurd (this ▸ hx) hns
  have h2 : skip.contains x = false := contains_false_iff.mpr hns
  simp only [Option.map_some, h1, h2, Bool.or_self, Bool.false_eq_true, if_false, Option.getD_some]

theorem insVals_length (tm skip : Mask) : (insVals info tm skip).length = tm.length := by simp [insVals]

theorem create_facts (w : WM) (t : Nat) (mask : Mask) (sh : Shared) (hl : w.isLocked = false) {w' : WM} {h : Handle}
    {cbs : List Cb} (hc : w.create info t mask sh = (w', h, cbs)) :
    BornFacts w w' (w.getArch mask sh).1 h ∧
    cbs = ((closedMask w.deps mask).filter (fun c => (info c).callbacks && !([] : Mask).contains c)).map (Cb.assign · h) := by
  unfold WM.create at hc
  simp only [hl, Bool.false_eq_true, if_false, archInsert_form] at hc
  cases hc
  exact ⟨bornFacts_alloc (getArch_sameTable w mask sh) (Mustache.Proofs.Rows.getArch_locs w mask sh) _ _,
    by rw [insCbs_eq, allocId_arch, (getArch_key w mask sh).1]⟩

theorem bounds_frame {w w' : WM} {iss : List Handle} (hb : Bounds ⟨w, iss⟩) (hs : w'.slots = w.slots) :
    Bounds ⟨w', iss⟩ := ⟨by show w'.slots.length < _; rw [hs]; exact hb.inRange, hb.noWrap⟩

/-- unlocked `create(mask, shared descriptor)` against `WS.doCreate` with ANY list of shared values that reads like
the descriptor (the `.create` operation: type ids at value 0 through the pool; `create(Archetype&)`: the instances
the archetype already has) -/
theorem create_unlocked_core {w1 : WM} {iss : List Handle} {s : WS} (hi1 : Inv ⟨w1, iss⟩) (hb1 : Bounds ⟨w1, iss⟩)
    (hr1 : Rel ⟨w1, iss⟩ s) (hl1 : w1.isLocked = false) (t : Nat) (mask : Mask) (hm : MaskOk mask) (sh : Shared)
    (hshin : SharedIn w1.pool sh) (ssh : List (Nat × Nat))
    (hv : ∀ sid, lookupS ssh sid = lookupS (absShared w1.pool sh) sid)
    {w' : WM} {h : Handle} {cbs : List Cb} (hb' : Bounds ⟨w', iss ++ [h]⟩)
    (hc : w1.create info t mask sh = (w', h, cbs)) :
    Inv ⟨w', iss ++ [h]⟩ ∧ Rel ⟨w', iss ++ [h]⟩ (s.doCreate info mask ssh).1 ∧
    outAgree (iss ++ [h]) (.created h) (.created (s.doCreate info mask ssh).2.1) ∧
    cbsAgree (iss ++ [h]) cbs (s.doCreate info mask ssh).2.2 := by
  have ha1 : AllocOK w1 := allocOK_of_inv (c := ⟨w1, iss⟩) hi1 hb1
  rcases create_unlocked info hi1.rows ha1 t mask sh hl1 hm with ⟨ai, vals, hstep, howns, hmask, hdata, hvals, hfresh⟩
  have htab := Mustache.Proofs.IdTable.create_tab info w1 t mask sh
  simp only [hc, hl1, Bool.false_eq_true, if_false] at hstep howns hmask hdata hfresh htab
  obtain ⟨facts, hcb⟩ := create_facts info w1 t mask sh hl1 hc
  rw [hcb]
  have hpool' : w'.pool = w1.pool := facts.ctl.pool
  have hdeps' : w'.deps = w1.deps := facts.ctl.deps
  have hsh' : SharedPooled w' :=
    sharedPooled_of_keysSame (AllKeys.getArch (P := fun _ x => SharedIn w1.pool x) (w := w1) hi1.shared mask sh hshin)
      facts.keys hpool'
  have hdeps1 : s.deps = w1.deps := hr1.deps
  have hailt : ai < w'.archs.length := by
    rcases howns.here with ⟨n, _, hrow⟩; exact lt_of_row hrow
  have hshai : (w'.arch ai).shared = sh := by
    have h1 : SharedIn w1.pool (w'.arch ai).shared := by
      have := hsh' _ (arch_mem_archs hailt)
      rw [← hpool']; exact this
    exact shared_eq_of_data hi1.pool h1 hshin hdata
  have htmok : MaskOk (closedMask w1.deps mask) := maskOk_closedMask w1.deps hm
  have hvlen : vals.length = (closedMask w1.deps mask).length := by
    rcases howns.here with ⟨n, _, hrow⟩
    have := hstep.ok.vals ai n _ hrow
    rw [hmask] at this
    exact this
  have hx : optRel (some ⟨rebuild info [] (closed s.deps mask) [], ssh⟩) (absEnt w' h) := by
    rw [owns_absEnt howns, hmask, hshai, hpool']
    refine ⟨?_, fun sid => ?_⟩
    · show rebuild info [] (closed s.deps mask) [] = _
      rw [hdeps1]
      symm
      apply zip_eq_rebuild info (maskOk_nodup htmok) hvlen
      intro x hx
      rw [hvals x hx]; rfl
    · exact hv sid
  have hborn := born_refines hi1 hr1 hl1 htab.1 htab.2 hstep howns hfresh hsh' facts.ctl facts.marked
    (facts.cover hi1.locsCover) hb' _ hx
  simp only [WS.doCreate]
  refine ⟨hborn.1, hborn.2, ⟨?_, ?_⟩, ?_⟩
  · rw [hr1.len]; exact ordOf_snoc_self iss h
  · rw [hr1.len]; simp
  · unfold cbsAgree
    rw [cbAbs_assign_map (k := s.ents.length) (by rw [hr1.len]; exact ordOf_snoc_self iss h), cbDiff_nil_left,
      hdeps1]
    rfl

theorem create_unlocked_refines (hi : Inv c) (hb : Bounds c) (hr : Rel c s)
    (hl : c.w.isLocked = false) (t : Nat) (mask : Mask) (shared : List Nat) (hm : MaskOk mask)
    (hb' : Bounds (c.step info (.create t mask shared)).1) :
    StepRefines info c s (.create t mask shared) := by
  obtain ⟨w, iss⟩ := c
  have hw : w.step info (.create t mask shared) = _ := step_create_eq info w t mask shared
  have hb1 := hb'
  rw [CW.step_fst, hw] at hb1
  cases hpf : poolFold w shared Shared.null with | mk w1 sh
  obtain ⟨hfr, hi1, hr1, hsh, hv⟩ := poolFold_refines hi hr hpf
  simp only [hpf] at hw hb1
  have hl1 : w1.isLocked = false := by
    unfold WM.isLocked at hl ⊢
    rw [hfr.lockDepth]; exact hl
  obtain ⟨hi2, hr2, hout, hcbs⟩ := create_unlocked_core info hi1 (bounds_frame hb hfr.slots) hr1 hl1 t mask hm sh hsh
    (shared.map (fun sid => (sid, 0))) hv (cbs := (w1.create info t mask sh).2.2) hb1 rfl
  have hs : s.step info (.create t mask shared) =
      ((s.doCreate info mask (shared.map (fun sid => (sid, 0)))).1,
        .created (s.doCreate info mask (shared.map (fun sid => (sid, 0)))).2.1,
        (s.doCreate info mask (shared.map (fun sid => (sid, 0)))).2.2) := by
    show (if s.lockDepth > 0 then _ else _) = _
    rw [if_neg (unlocked_spec hr hl)]
    rfl
  exact StepRefines.intro info hw hs hi2 hr2 ⟨hout, hcbs⟩

theorem clone_refines (hi : Inv c) (hb : Bounds c) (hr : Rel c s)
    (hl : c.w.isLocked = false) (e : Handle) (hb' : Bounds (c.step info (.clone e)).1) :
    StepRefines info c s (.clone e) := by
  obtain ⟨w, iss⟩ := c
  have hw0 : w.step info (.clone e) = (match w.clone e with
      | (w, some d) => (w, .created d, [])
      | (w, none) => (w, .null, [])) := rfl
  cases hv : w.isValid e with
  | false =>
    -- invalid handle: null on both sides
    refine noop_refines (out := .null) (sout := .null) info hi hr rfl ?_ ?_ rfl trivial
    · rw [hw0, WM.clone, if_pos (by simp [hv])]
    · show s.step info (.clone (ordOf iss e)) = _
      rcases isAlive_false (rel_dead (c := ⟨w, iss⟩) hr hv) with ho | ⟨k, ho, hal⟩ <;> rw [ho]
      · rfl
      · show (match s.doClone k with | (s, some o) => _ | (s, none) => _) = _
        simp only [WS.doClone, hal]
  | true =>
    rcases rel_alive hi hb hr hv with ⟨k, ai, i, prow, ent, ha⟩
    rcases clone_spec hi.rows (allocOK_of_inv (c := ⟨w, iss⟩) hi hb) e hv ha.row ha.own with
      ⟨hres, hstep, howns, hmask, hshared, hfresh⟩
    have hclone : w.clone e = (insertRow (w.allocId).1 ai (w.allocId).2 prow.vals, some (w.allocId).2) := by
      unfold WM.clone
      simp only [hv, Bool.not_true, Bool.false_eq_true, if_false, ha.locArch, ha.locIdx]
      unfold insertRow
      simp only [allocId_arch, List.getD_eq_getElem?_getD, ha.row, Option.getD_some]
    have facts := bornFacts_alloc (SameTable.refl w) rfl ai prow.vals
    have htab := Mustache.Proofs.IdTable.allocId_tab w
    have htab1 : tabOf (insertRow (w.allocId).1 ai (w.allocId).2 prow.vals) = ((tabOf w).alloc).1 :=
      (SameTable.tab (insertRow_sameTable _ _ _ _)).trans htab.1
    rw [hclone] at hw0 hstep howns hmask hshared
    generalize insertRow (w.allocId).1 ai (w.allocId).2 prow.vals = w' at *
    generalize (w.allocId).2 = h at *
    have hb1 := hb'
    rw [CW.step_fst, hw0] at hb1
    have hpool' : w'.pool = w.pool := facts.ctl.pool
    have hx : optRel (some ent) (absEnt w' h) := by
      rw [owns_absEnt howns, hmask, hshared, hpool']
      exact ha.rel
    have hborn := born_refines hi hr hl htab1 htab.2 hstep howns hfresh
      (sharedPooled_of_keysSame hi.shared facts.keys hpool') facts.ctl facts.marked (facts.cover hi.locsCover) hb1 ent hx
    have hs : s.step info (.clone (ordOf iss e)) = ({ s with ents := s.ents ++ [some ent] }, .created s.ents.length, []) := by
      rw [ha.ord]
      show (match s.doClone k with | (s, some o) => _ | (s, none) => _) = _
      simp only [WS.doClone, ha.alive]
    refine StepRefines.intro info hw0 hs hborn.1 hborn.2 ?_
    rw [hr.len]
    exact agree_created _ _ _ _ rfl

end Mustache.Proofs.Refine
