import Mustache.Proofs.RowsPack
import Mustache.Proofs.RefinePackCbs
/-!
# Refinement, the flush: the pack state of `applyCommandPack` against the spec's command-by-command meaning

`PInv` ties the pack state (`pst`) to the spec entity after the same commands: the entity has exactly `final`, every
value is given by `pform` (latest supplied value, else the carried-over value unless the component was replaced, else the
default), and the callbacks the spec fired so far balance (`CbBal`). `SpecPackInv` adds the case of a pack that has
destroyed its entity; `spec_body_fold` carries it over the commands of a pack.
-/
namespace Mustache.Proofs.Refine
open Mustache.Model Mustache.Spec
open Mustache.Proofs.Rows

variable (info : CompId → CompInfo)

/-- the value of component `x` after the pack: latest supplied value, else the carried-over value unless `x` was
removed / re-assigned on the way, else the default -/
def pform (ic : List (CompId × Val)) (p : PackSt) (x : CompId) : Val :=
  match p.src.find? (·.1 == x) with
  | some q => q.2
  | none =>
    match ic.find? (·.1 == x) with
    | some q => if p.replaced.contains x then defaultVal info x else q.2
    | none => defaultVal info x

theorem find_map_key (l : List CompId) (f : CompId → Val) (y : CompId) :
    (l.map (fun x => (x, f x))).find? (·.1 == y) = if y ∈ l then some (y, f y) else none := by
  by_cases h : y ∈ l
  · rw [if_pos h]
    exact find?_map_key l _ (fun _ => rfl) y h
  · rw [if_neg h, find?_fst_eq_none, List.map_map]
    show y ∉ l.map id
    rw [List.map_id]
    exact h

/-- the sources after `assign c v`: the earlier source of `c` is dropped, the new one comes last -/
theorem find_assigned (src : List (CompId × Val)) (c : CompId) (v : Val) (x : CompId) :
    (src.filter (·.1 != c) ++ [(c, v)]).find? (·.1 == x) = if x = c then some (c, v) else src.find? (·.1 == x) := by
  rw [List.find?_append, find?_filter_key src (· != c) x]
  by_cases hx : x = c
  · subst hx; simp
  · have hb : (c == x) = false := by simpa using (Ne.symm hx)
    simp [hx, hb]

theorem mem_assigned {src : List (CompId × Val)} {c : CompId} {v : Val} {q : CompId × Val}
    (h : q ∈ src.filter (·.1 != c) ++ [(c, v)]) : q ∈ src ∨ q = (c, v) :=
  (List.mem_append.mp h).imp (fun h => (List.mem_filter.mp h).1) List.mem_singleton.mp

theorem nodup_assigned {src : List (CompId × Val)} (hn : (src.map (·.1)).Nodup) (c : CompId) (v : Val) :
    ((src.filter (·.1 != c) ++ [(c, v)]).map (·.1)).Nodup := by
  rw [List.map_append, List.nodup_append]
  refine ⟨hn.sublist (List.Sublist.map _ List.filter_sublist), by simp, ?_⟩
  intro a ha b' hb'
  simp only [List.map_cons, List.map_nil, List.mem_singleton] at hb'
  subst hb'
  rcases List.mem_map.mp ha with ⟨q, hq, rfl⟩
  simpa using (List.mem_filter.mp hq).2

theorem contains_insert_ne (m : Mask) (c : CompId) {x : CompId} (hx : x ≠ c) :
    (Mask.insert m c).contains x = m.contains x := by
  rw [Bool.eq_iff_iff]
  simp only [List.contains_iff_mem, mem_insert]
  exact ⟨fun h => h.resolve_left hx, Or.inr⟩

structure PInv (deps : List (CompId × Mask)) (ic : List (CompId × Val)) (base : Mask) (k : Nat) (p : PackSt)
    (ent : SEnt) (scbs : List SCb) : Prop where
  comps : ent.comps = p.final.map (fun x => (x, pform info ic p x))
  sorted : MaskOk p.final
  /-- an existing entity's archetype may predate a dependency declaration: the set is closed once it has changed -/
  closedF : p.final = base ∨ ClosedUnder deps p.final
  srcSub : ∀ q ∈ p.src, q.1 ∈ p.final
  srcNodup : (p.src.map (·.1)).Nodup
  gone : ∀ q ∈ ic, q.1 ∉ p.final → q.1 ∈ p.replaced
  srcRepl : ∀ q ∈ p.src, q.1 ∈ p.replaced ∨ q.1 ∉ ic.map (·.1)
  net : ∀ x, (info x).callbacks = true →
    scbs.count (true, x, k) + (if x ∈ base then 1 else 0) = scbs.count (false, x, k) + (if x ∈ p.final then 1 else 0)
  repl : ∀ x ∈ p.replaced, (info x).callbacks = true → 1 ≤ scbs.count (false, x, k)
  nocb : ∀ b x o, (info x).callbacks = false → scbs.count (b, x, o) = 0
  other : ∀ b x o, o ≠ k → scbs.count (b, x, o) = 0
  alive : p.dead = false

/-- the spec state changes at ordinal `k` only -/
structure FrameK (S S' : WS) (k : Nat) : Prop where
  len : S'.ents.length = S.ents.length
  others : ∀ o, o ≠ k → S'.alive o = S.alive o
  deps : S'.deps = S.deps
  lockDepth : S'.lockDepth = S.lockDepth
  nthreads : S'.nthreads = S.nthreads
  buffers : S'.buffers = S.buffers

theorem FrameK.refl (S : WS) (k : Nat) : FrameK S S k := ⟨rfl, fun _ _ => rfl, rfl, rfl, rfl, rfl⟩

theorem FrameK.trans {A B C : WS} {k : Nat} (h₁ : FrameK A B k) (h₂ : FrameK B C k) : FrameK A C k :=
  ⟨h₂.len.trans h₁.len, fun o ho => (h₂.others o ho).trans (h₁.others o ho), h₂.deps.trans h₁.deps,
   h₂.lockDepth.trans h₁.lockDepth, h₂.nthreads.trans h₁.nthreads, h₂.buffers.trans h₁.buffers⟩

theorem frameK_setEnt (S : WS) (k : Nat) (x : Option SEnt) : FrameK S (S.setEnt k x) k :=
  ⟨by simp [WS.setEnt], fun o ho => by
      rw [setEnt_alive]
      have : ¬ (o = k ∧ k < S.ents.length) := fun h => ho h.1
      rw [if_neg this], rfl, rfl, rfl, rfl⟩

theorem setEnt_alive_self (S : WS) {k : Nat} (hk : k < S.ents.length) (x : Option SEnt) : (S.setEnt k x).alive k = x := by
  rw [setEnt_alive, if_pos ⟨rfl, hk⟩]

section
variable {deps : List (CompId × Mask)} {ic : List (CompId × Val)} {base : Mask} {k : Nat} {p : PackSt} {ent : SEnt}
  {scbs : List SCb}

theorem PInv.bal (h : PInv info deps ic base k p ent scbs) : CbBal info base k p.final p.replaced scbs :=
  ⟨h.net, h.repl, h.nocb, h.other⟩

theorem PInv.compSet (h : PInv info deps ic base k p ent scbs) : compSet ent = p.final := by
  unfold Mustache.Spec.compSet
  rw [h.comps, List.map_map]
  exact List.map_id' _

/-- a component outside the current set has the default value in the formula (it was never there, or it was
replaced on the way) -/
theorem PInv.pform_new (h : PInv info deps ic base k p ent scbs) {x : CompId} (hxf : x ∉ p.final) :
    pform info ic p x = defaultVal info x := by
  unfold pform
  rw [find?_fst_eq_none.mpr fun hm => by
    rcases List.mem_map.mp hm with ⟨q, hq, rfl⟩
    exact hxf (h.srcSub q hq)]
  simp only
  cases hf : ic.find? (·.1 == x) with
  | none => rfl
  | some q =>
    simp only
    have hq1 : q.1 = x := by simpa using List.find?_some hf
    have := h.gone q (List.mem_of_find?_eq_some hf) (by rw [hq1]; exact hxf)
    rw [hq1] at this
    rw [List.contains_iff_mem.mpr this]; rfl

theorem PInv.rebuild_get (h : PInv info deps ic base k p ent scbs) (given : List (CompId × Val)) (x : CompId) :
    rebuildEntry info ent.comps given x =
      if x ∈ p.final then (x, pform info ic p x) else
        match given.find? (·.1 == x) with
        | some q => q
        | none => (x, defaultVal info x) := by
  unfold rebuildEntry
  rw [h.comps, find_map_key]
  by_cases hx : x ∈ p.final
  · rw [if_pos hx, if_pos hx]
  · rw [if_neg hx, if_neg hx]; rfl

/-- with no supplied values, rebuilding gives a component its formula value, present or not -/
theorem PInv.rebuildEntry_nil (h : PInv info deps ic base k p ent scbs) (x : CompId) :
    rebuildEntry info ent.comps [] x = (x, pform info ic p x) := by
  rw [h.rebuild_get]
  by_cases hxf : x ∈ p.final
  · rw [if_pos hxf]
  · rw [if_neg hxf, h.pform_new info hxf]; rfl

/-- The clauses that speak of the pack state alone survive a step in which the set loses components only into
`replaced`, `replaced` only grows, and every source is an old one or belongs to a component that is in `replaced` or
was absent. -/
theorem PInv.step (hp : PInv info deps ic base k p ent scbs) {p' : PackSt} {ent' : SEnt} {scbs' : List SCb}
    (hcomps : ent'.comps = p'.final.map (fun x => (x, pform info ic p' x))) (hs : MaskOk p'.final)
    (hcl : p'.final = base ∨ ClosedUnder deps p'.final) (hb : CbBal info base k p'.final p'.replaced scbs')
    (hnd : (p'.src.map (·.1)).Nodup) (hd : p'.dead = false)
    (hR : ∀ x ∈ p.replaced, x ∈ p'.replaced) (hF : ∀ x ∈ p.final, x ∈ p'.final ∨ x ∈ p'.replaced)
    (hsrc : ∀ q ∈ p'.src, q.1 ∈ p'.final ∧ (q ∈ p.src ∨ q.1 ∈ p'.replaced ∨ q.1 ∉ p.final)) :
    PInv info deps ic base k p' ent' scbs' :=
  have hgone : ∀ q ∈ ic, q.1 ∉ p.final → q.1 ∈ p'.replaced := fun q hq h => hR _ (hp.gone q hq h)
  { hb with
    comps := hcomps, sorted := hs, closedF := hcl, srcNodup := hnd, alive := hd
    srcSub := fun q hq => (hsrc q hq).1
    gone := fun q hq hnf => (Classical.em (q.1 ∈ p.final)).elim (fun h => (hF _ h).resolve_left hnf) (hgone q hq)
    srcRepl := fun q hq => by
      rcases (hsrc q hq).2 with h | h | h
      · exact (hp.srcRepl q h).imp_left (hR _)
      · exact Or.inl h
      · by_cases hi : q.1 ∈ ic.map (·.1)
        · rcases List.mem_map.mp hi with ⟨q', hq', e⟩
          exact Or.inl (e ▸ hgone q' hq' (e ▸ h))
        · exact Or.inr hi }

end

theorem pform_assign (ic : List (CompId × Val)) (p : PackSt) (F R : Mask) (c : CompId) (v : Val) (x : CompId)
    (hr : x ≠ c → R.contains x = p.replaced.contains x) :
    pform info ic { p with final := F, replaced := R, src := p.src.filter (·.1 != c) ++ [(c, v)] } x =
      if x = c then v else pform info ic p x := by
  unfold pform
  simp only [find_assigned]
  by_cases hx : x = c
  · rw [if_pos hx, if_pos hx]
  · rw [if_neg hx, if_neg hx, hr hx]

theorem pform_remove (ic : List (CompId × Val)) (p : PackSt) (F R : Mask) (c : CompId) {x : CompId} (hx : x ≠ c)
    (hr : R.contains x = p.replaced.contains x) :
    pform info ic { p with final := F, replaced := R, src := p.src.filter (·.1 != c) } x = pform info ic p x := by
  unfold pform
  rw [find?_fst_filter (q := (· != c)) (bne_iff_ne.mpr hx), hr]

section
variable {deps : List (CompId × Mask)} {ic : List (CompId × Val)} {base : Mask} {k : Nat} {p : PackSt} {ent : SEnt}
  {scbs : List SCb}

theorem pinv_assign (hp : PInv info deps ic base k p ent scbs) (hdb : DepsBounded deps) (S : WS)
    (hk : k < S.ents.length) (hal : S.alive k = some ent) (hdeps : S.deps = deps) (e : Handle) (c : CompId) (v : Val) :
    ∃ ent', (S.doAssign info k c v).1.alive k = some ent' ∧ ent'.shared = ent.shared ∧
      PInv info deps ic base k (pst deps p (.assign e c v)) ent' (scbs ++ (S.doAssign info k c v).2) ∧
      FrameK S (S.doAssign info k c v).1 k ∧ (S.doAssign info k c v).1.marked = S.marked := by
  have hcs := hp.compSet
  have halive := hp.alive
  have hsn := nodup_assigned hp.srcNodup c v
  by_cases hc : c ∈ p.final
  · -- re-assignment of a present component
    have hcc : p.final.contains c = true := List.contains_iff_mem.mpr hc
    have hpst : pst deps p (.assign e c v) =
        { p with replaced := Mask.insert p.replaced c, src := p.src.filter (·.1 != c) ++ [(c, v)] } := by
      simp only [pst, halive, Bool.false_eq_true, if_false, hcc, if_true]
    have hdo : S.doAssign info k c v =
        (S.setEnt k (some { ent with comps := ent.comps.map (fun q => if q.1 == c then (c, v) else q) }),
          if (info c).callbacks then [(false, c, k), (true, c, k)] else []) := by
      simp only [WS.doAssign, hal, hcs, hcc, if_true]
    rw [hdo, hpst]
    refine ⟨_, setEnt_alive_self S hk _, rfl, ?_, frameK_setEnt S k _, rfl⟩
    refine hp.step info ?_ hp.sorted hp.closedF (hp.bal.reassign info c) hsn halive
      (fun x h => (mem_insert _ _ _).mpr (Or.inr h)) (fun x h => Or.inl h) fun q hq => ?_
    · show ent.comps.map _ = _
      rw [hp.comps, List.map_map]
      apply List.map_congr_left
      intro x _
      rw [pform_assign info ic p _ _ c v x (fun hx => contains_insert_ne _ _ hx)]
      by_cases hxc : x = c
      · subst hxc; simp
      · simp [hxc]
    · rcases mem_assigned hq with h | rfl
      · exact ⟨hp.srcSub q h, Or.inl h⟩
      · exact ⟨hc, Or.inr (Or.inl ((mem_insert _ _ _).mpr (Or.inl rfl)))⟩
  · -- a new component
    have hcc : p.final.contains c = false := contains_false_iff.mpr hc
    have hsubA : ∀ x ∈ p.final, x ∈ closedMask deps (Mask.insert p.final c) :=
      fun x hx => subset_closedMask ((mem_insert _ _ _).mpr (Or.inr hx))
    have hcA : c ∈ closedMask deps (Mask.insert p.final c) := subset_closedMask ((mem_insert _ _ _).mpr (Or.inl rfl))
    have haok : MaskOk (closedMask deps (Mask.insert p.final c)) := maskOk_closedMask deps (maskOk_insert hp.sorted c)
    have hpst : pst deps p (.assign e c v) =
        { p with final := closedMask deps (Mask.insert p.final c), src := p.src.filter (·.1 != c) ++ [(c, v)] } := by
      simp only [pst, halive, Bool.false_eq_true, if_false, hcc]
    have hdo : S.doAssign info k c v =
        (S.setEnt k (some { ent with comps := rebuild info ent.comps (closedMask deps (Mask.insert p.final c)) [(c, v)] }),
          cbDiff info k p.final (closedMask deps (Mask.insert p.final c))) := by
      simp only [WS.doAssign, hal, hcs, hcc, Bool.false_eq_true, if_false, hdeps]
      rfl
    have hb := hp.bal.cbDiff info (replaced' := p.replaced) (maskOk_nodup hp.sorted) (maskOk_nodup haok)
      (fun _ h => Or.inl h)
    rw [hdo, hpst]
    refine ⟨_, setEnt_alive_self S hk _, rfl, ?_, frameK_setEnt S k _, rfl⟩
    refine hp.step info ?_ haok (Or.inr (closedMask_closed hdb _)) hb hsn halive (fun x h => h)
      (fun x h => Or.inl (hsubA x h)) fun q hq => ?_
    · show rebuild info ent.comps _ [(c, v)] = _
      rw [rebuild_eq]
      apply List.map_congr_left
      intro x _
      rw [hp.rebuild_get, pform_assign info ic p _ _ c v x (fun _ => rfl)]
      by_cases hxf : x ∈ p.final
      · rw [if_pos hxf, if_neg (fun h : x = c => hc (h ▸ hxf))]
      · rw [if_neg hxf]
        by_cases hxc : x = c
        · subst hxc; simp
        · have hb : (c == x) = false := by simpa using (Ne.symm hxc)
          simp only [List.find?_cons, hb, List.find?_nil, if_neg hxc, hp.pform_new info hxf]
    · rcases mem_assigned hq with h | rfl
      · exact ⟨hsubA _ (hp.srcSub q h), Or.inl h⟩
      · exact ⟨hcA, Or.inr (Or.inr hc)⟩

theorem pinv_remove (hp : PInv info deps ic base k p ent scbs) (hdb : DepsBounded deps) (S : WS)
    (hk : k < S.ents.length) (hal : S.alive k = some ent) (hdeps : S.deps = deps) (e : Handle) (c : CompId) :
    ∃ ent', (S.doRemove info k c).1.alive k = some ent' ∧ ent'.shared = ent.shared ∧
      PInv info deps ic base k (pst deps p (.remove e c)) ent' (scbs ++ (S.doRemove info k c).2) ∧
      FrameK S (S.doRemove info k c).1 k ∧ (S.doRemove info k c).1.marked = S.marked := by
  have hcs := hp.compSet
  have halive := hp.alive
  by_cases hc : c ∈ p.final
  case neg =>
    have hcc : p.final.contains c = false := contains_false_iff.mpr hc
    have hpst : pst deps p (.remove e c) = p := by
      simp only [pst, halive, Bool.false_eq_true, if_false, hcc]
    have hdo : S.doRemove info k c = (S, []) := by
      simp only [WS.doRemove, hal, hcs, hcc, Bool.not_false, if_true]
    rw [hdo, hpst, List.append_nil]
    exact ⟨ent, hal, rfl, hp, FrameK.refl S k, rfl⟩
  have hcc : p.final.contains c = true := List.contains_iff_mem.mpr hc
  have haok : MaskOk (closedMask deps (Mask.erase p.final c)) := maskOk_closedMask deps (maskOk_erase hp.sorted c)
  by_cases heq : closedMask deps (Mask.erase p.final c) = p.final
  · -- the closure puts the component back and nothing else changes
    have hca : c ∈ closedMask deps (Mask.erase p.final c) := by rw [heq]; exact hc
    have hpst : pst deps p (.remove e c) = p := by
      have h1 : pst deps p (.remove e c) = { p with final := closedMask deps (Mask.erase p.final c) } := by
        simp only [pst, halive, Bool.false_eq_true, if_false, hcc, if_true, List.contains_iff_mem.mpr hca]
      rw [h1, heq]
    have hdo : S.doRemove info k c = (S, []) := by
      have : (closed deps (Mask.erase p.final c) == p.final) = true := beq_iff_eq.mpr heq
      simp only [WS.doRemove, hal, hcs, hcc, Bool.not_true, Bool.false_eq_true, if_false, hdeps, this, if_true]
    rw [hdo, hpst, List.append_nil]
    exact ⟨ent, hal, rfl, hp, FrameK.refl S k, rfl⟩
  have hne : (closed deps (Mask.erase p.final c) == p.final) = false := beq_eq_false_iff_ne.mpr heq
  have hsubN : ∀ x ∈ p.final, x ≠ c → x ∈ closedMask deps (Mask.erase p.final c) :=
    fun x hx hxc => subset_closedMask ((mem_erase _ _ _).mpr ⟨hx, hxc⟩)
  by_cases hca : c ∈ closedMask deps (Mask.erase p.final c)
  · -- the closure puts the component back (its master is there) and adds what the set lacked: `c` is carried over
    have hsubN' : ∀ x ∈ p.final, x ∈ closedMask deps (Mask.erase p.final c) := fun x hx =>
      (Classical.em (x = c)).elim (fun h => h ▸ hca) (hsubN x hx)
    have hpst : pst deps p (.remove e c) = { p with final := closedMask deps (Mask.erase p.final c) } := by
      simp only [pst, halive, Bool.false_eq_true, if_false, hcc, if_true, List.contains_iff_mem.mpr hca]
    have hdo : S.doRemove info k c =
        (S.setEnt k (some { ent with comps := (rebuild info ent.comps (closedMask deps (Mask.erase p.final c)) []) }),
          cbDiff info k p.final (closedMask deps (Mask.erase p.final c))) := by
      have hcaS : (closed deps (Mask.erase p.final c)).contains c = true := List.contains_iff_mem.mpr hca
      simp only [WS.doRemove, hal, hcs, hcc, Bool.not_true, Bool.false_eq_true, if_false, hdeps, hne, hcaS, if_true]
      rfl
    have hb := hp.bal.cbDiff info (replaced' := p.replaced) (maskOk_nodup hp.sorted) (maskOk_nodup haok)
      (fun _ h => Or.inl h)
    rw [hdo, hpst]
    refine ⟨_, setEnt_alive_self S hk _, rfl, ?_, frameK_setEnt S k _, rfl⟩
    refine hp.step info ?_ haok (Or.inr (closedMask_closed hdb _)) hb hp.srcNodup halive (fun x h => h)
      (fun x h => Or.inl (hsubN' x h)) (fun q hq => ⟨hsubN' _ (hp.srcSub q hq), Or.inl hq⟩)
    show rebuild info ent.comps _ [] = _
    rw [rebuild_eq]
    exact List.map_congr_left fun x _ => hp.rebuildEntry_nil info x
  · have hpst : pst deps p (.remove e c) =
        { p with final := closedMask deps (Mask.erase p.final c), replaced := Mask.insert p.replaced c,
                 src := p.src.filter (·.1 != c) } := by
      simp only [pst, halive, Bool.false_eq_true, if_false, hcc, if_true, contains_false_iff.mpr hca]
    have hdo : S.doRemove info k c =
        (S.setEnt k (some { ent with comps :=
            (rebuild info (ent.comps.filter (·.1 != c)) (closedMask deps (Mask.erase p.final c)) []) }),
          cbDiff info k p.final (closedMask deps (Mask.erase p.final c))) := by
      have hcaS : (closed deps (Mask.erase p.final c)).contains c = false := contains_false_iff.mpr hca
      simp only [WS.doRemove, hal, hcs, hcc, Bool.not_true, Bool.false_eq_true, if_false, hdeps, hne, hcaS]
      rfl
    have hb := hp.bal.cbDiff info (replaced' := Mask.insert p.replaced c) (maskOk_nodup hp.sorted) (maskOk_nodup haok)
      (fun x hx => ((mem_insert _ _ _).mp hx).elim (fun h => Or.inr (by rw [h]; exact ⟨hc, hca⟩)) Or.inl)
    rw [hdo, hpst]
    refine ⟨_, setEnt_alive_self S hk _, rfl, ?_, frameK_setEnt S k _, rfl⟩
    refine hp.step info ?_ haok (Or.inr (closedMask_closed hdb _)) hb
      (hp.srcNodup.sublist (List.Sublist.map _ List.filter_sublist)) halive (fun x h => (mem_insert _ _ _).mpr (Or.inr h))
      (fun x h => (Classical.em (x = c)).elim (fun e => Or.inr ((mem_insert _ _ _).mpr (Or.inl e)))
        (fun e => Or.inl (hsubN x h e))) fun q hq => ?_
    · show rebuild info (ent.comps.filter (·.1 != c)) _ [] = _
      rw [rebuild_eq]
      apply List.map_congr_left
      intro x hx
      have hxc : x ≠ c := fun e' => hca (e' ▸ hx)
      have hsp : rebuildEntry info (ent.comps.filter (·.1 != c)) [] x = rebuildEntry info ent.comps [] x := by
        unfold rebuildEntry; rw [find?_fst_filter (q := (· != c)) (bne_iff_ne.mpr hxc)]
      rw [hsp, hp.rebuildEntry_nil, pform_remove info ic p _ _ c hxc (contains_insert_ne _ _ hxc)]
    · have h1 := List.mem_filter.mp hq
      exact ⟨hsubN _ (hp.srcSub q h1.1) (by simpa using h1.2), Or.inl h1.1⟩

end

/-- the spec side of a pack after some of its commands: the entity is alive and satisfies `PInv`, or it has been
destroyed and the events balance against the empty set -/
inductive SpecPackInv (deps : List (CompId × Mask)) (ic : List (CompId × Val)) (base : Mask) (k : Nat)
    (shr : List (Nat × Nat)) (p : PackSt) (S : WS) (scbs : List SCb) : Prop
  | alive (ent : SEnt) : S.alive k = some ent → ent.shared = shr → PInv info deps ic base k p ent scbs →
      SpecPackInv deps ic base k shr p S scbs
  | dead : p.dead = true → S.alive k = none → CbBal info base k [] [] scbs → SpecPackInv deps ic base k shr p S scbs

def specCmd (k : Nat) : Cmd → SCmd
  | .create _ m _ => .create k m []
  | .destroyNow _ => .destroyNow (some k)
  | .destroy _ => .destroy (some k)
  | .remove _ c => .remove (some k) c
  | .assign _ c v => .assign (some k) c v

theorem applyCmd_dead {S : WS} {k : Nat} (h : S.alive k = none) (cmd : Cmd) (hnc : crH cmd = none) :
    S.applyCmd info (specCmd k cmd) = (S, []) := by
  cases cmd with
  | create e m sh => cases hnc
  | destroyNow e => simp only [specCmd, WS.applyCmd, WS.doDestroy, h]
  | destroy e => simp only [specCmd, WS.applyCmd, h, Option.isSome_none, Bool.false_eq_true, if_false]
  | remove e c => simp only [specCmd, WS.applyCmd, WS.doRemove, h]
  | assign e c v => simp only [specCmd, WS.applyCmd, WS.doAssign, h]

theorem spec_pack_step {deps : List (CompId × Mask)} {ic : List (CompId × Val)} {base : Mask} {k : Nat}
    {shr : List (Nat × Nat)} {p : PackSt} {S : WS} {scbs : List SCb} (hdb : DepsBounded deps)
    (h : SpecPackInv info deps ic base k shr p S scbs) (hk : k < S.ents.length) (hdeps : S.deps = deps)
    (cmd : Cmd) (hnc : crH cmd = none) :
    SpecPackInv info deps ic base k shr (pst deps p cmd) (S.applyCmd info (specCmd k cmd)).1
      (scbs ++ (S.applyCmd info (specCmd k cmd)).2) ∧
    FrameK S (S.applyCmd info (specCmd k cmd)).1 k ∧
    (S.applyCmd info (specCmd k cmd)).1.marked =
      (if isDestroyCmd cmd && !p.dead then insertNat S.marked k else S.marked) := by
  cases h with
  | dead hd hal hb =>
    rw [applyCmd_dead info hal cmd hnc, pst_dead deps p cmd hd, List.append_nil, hd, Bool.not_true, Bool.and_false]
    exact ⟨.dead hd hal hb, FrameK.refl S k, rfl⟩
  | alive ent hal hshr hp =>
    have hd := hp.alive
    rw [hd, Bool.not_false, Bool.and_true]
    cases cmd with
    | create e m sh => cases hnc
    | destroyNow e =>
      have hstep : S.applyCmd info (specCmd k (.destroyNow e)) = (S.setEnt k none, cbDiff info k p.final []) := by
        simp only [specCmd, WS.applyCmd, WS.doDestroy, hal, hp.compSet]
      have hpst : pst deps p (.destroyNow e) = { p with dead := true } := by simp only [pst, hd, Bool.false_eq_true, if_false]
      rw [hstep, hpst]
      exact ⟨.dead rfl (setEnt_alive_self S hk none)
        (hp.bal.cbDiff info (maskOk_nodup hp.sorted) List.nodup_nil (fun _ h => (nomatch h))), frameK_setEnt S k none, rfl⟩
    | destroy e =>
      have hstep : S.applyCmd info (specCmd k (.destroy e)) = ({ S with marked := insertNat S.marked k }, []) := by
        simp only [specCmd, WS.applyCmd, hal, Option.isSome_some, if_true]
      have hpst : pst deps p (.destroy e) = p := by simp only [pst, hd, Bool.false_eq_true, if_false]
      rw [hstep, hpst, List.append_nil]
      exact ⟨.alive ent hal hshr hp, ⟨rfl, fun _ _ => rfl, rfl, rfl, rfl, rfl⟩, rfl⟩
    | remove e c =>
      rcases pinv_remove info hp hdb S hk hal hdeps e c with ⟨ent', hal', hsh', hp', hfr, hmk⟩
      exact ⟨.alive ent' hal' (hsh'.trans hshr) hp', hfr, hmk⟩
    | assign e c v =>
      rcases pinv_assign info hp hdb S hk hal hdeps e c v with ⟨ent', hal', hsh', hp', hfr, hmk⟩
      exact ⟨.alive ent' hal' (hsh'.trans hshr) hp', hfr, hmk⟩

def specFold (acc : WS × List SCb) (scs : List SCmd) : WS × List SCb :=
  scs.foldl (fun (acc : WS × List SCb) c =>
    let (s', cb) := acc.1.applyCmd info c
    (s', acc.2 ++ cb)) acc

theorem specFold_cons (acc : WS × List SCb) (c : SCmd) (rest : List SCmd) :
    specFold info acc (c :: rest) = specFold info ((acc.1.applyCmd info c).1, acc.2 ++ (acc.1.applyCmd info c).2) rest := rfl

theorem insertNat_idem (l : List Nat) (k : Nat) : insertNat (insertNat l k) k = insertNat l k :=
  if_pos (List.contains_iff_mem.mpr ((mem_insertNat l k k).mpr (Or.inl rfl)))

theorem spec_body_fold {deps : List (CompId × Mask)} {ic : List (CompId × Val)} {base : Mask} {k : Nat}
    {shr : List (Nat × Nat)} (hdb : DepsBounded deps) (M0 : List Nat) :
    ∀ (body : List Cmd) (mk : Bool) (p : PackSt) (S : WS) (scbs : List SCb),
      SpecPackInv info deps ic base k shr p S scbs → k < S.ents.length → S.deps = deps →
      S.marked = (if mk then insertNat M0 k else M0) → (∀ c ∈ body, crH c = none) →
      SpecPackInv info deps ic base k shr (body.foldl (pst deps) p) (specFold info (S, scbs) (body.map (specCmd k))).1
        (specFold info (S, scbs) (body.map (specCmd k))).2 ∧
      FrameK S (specFold info (S, scbs) (body.map (specCmd k))).1 k ∧
      (specFold info (S, scbs) (body.map (specCmd k))).1.marked =
        (if mk || markedBy deps p body then insertNat M0 k else M0)
  | [], mk, p, S, scbs, h, _, _, hm, _ => ⟨h, FrameK.refl S k, by rw [markedBy, Bool.or_false]; exact hm⟩
  | c :: rest, mk, p, S, scbs, h, hk, hdeps, hm, hall => by
    rcases spec_pack_step info hdb h hk hdeps c (hall c (by simp)) with ⟨h1, hfr, hmk⟩
    have hm1 : (S.applyCmd info (specCmd k c)).1.marked =
        (if mk || (isDestroyCmd c && !p.dead) then insertNat M0 k else M0) := by
      rw [hmk, hm]
      cases mk <;> cases (isDestroyCmd c && !p.dead) <;> simp only [Bool.false_eq_true, if_false, if_true, Bool.or_self,
        Bool.or_true, Bool.true_or, insertNat_idem]
    have ih := spec_body_fold hdb M0 rest _ (pst deps p c) _ _ h1 (by rw [hfr.len]; exact hk) (hfr.deps.trans hdeps) hm1
      (fun c' hc' => hall c' (by simp [hc']))
    simp only [List.map_cons, List.foldl_cons, specFold_cons, markedBy, ← Bool.or_assoc]
    exact ⟨ih.1, hfr.trans ih.2.1, ih.2.2⟩

theorem pinv_init_existing {deps : List (CompId × Mask)} {k : Nat} {ent : SEnt} {pm : Mask} {pvals : List Val}
    (hc : ent.comps = pm.zip pvals) (hl : pvals.length = pm.length) (hpm : MaskOk pm) :
    PInv info deps ent.comps pm k { final := pm } ent [] := by
  refine { CbBal.nil info pm k with
    sorted := hpm, closedF := Or.inl rfl, srcSub := List.forall_mem_nil _, srcNodup := List.nodup_nil,
    srcRepl := List.forall_mem_nil _, alive := rfl
    gone := fun q hq hnf => absurd (List.of_mem_zip (hc ▸ hq)).1 hnf
    comps := ?_ }
  show ent.comps = pm.map _
  rw [hc, zip_eq_map (maskOk_nodup hpm) hl]
  apply List.map_congr_left
  intro x hx
  unfold pform
  simp only [List.find?_nil]
  rw [find_map_key, if_pos hx]
  rfl

theorem pinv_init_created {deps : List (CompId × Mask)} {k : Nat} {initial : Mask} (ssh : List (Nat × Nat))
    (hm : MaskOk initial) (hcl : ClosedUnder deps initial) :
    PInv info deps (initial.map (fun c => (c, defaultVal info c))) [] k { final := initial }
      ⟨rebuild info [] initial [], ssh⟩ (cbDiff info k [] initial) := by
  have hb := (CbBal.nil info [] k).cbDiff info (replaced' := []) List.nodup_nil (maskOk_nodup hm) (fun _ h => (nomatch h))
  refine { hb with
    sorted := hm, closedF := Or.inr hcl, srcSub := List.forall_mem_nil _, srcNodup := List.nodup_nil,
    srcRepl := List.forall_mem_nil _, alive := rfl
    gone := fun q hq hnf => by
      rcases List.mem_map.mp hq with ⟨x, hx, rfl⟩
      exact absurd hx hnf
    comps := ?_ }
  show rebuild info [] initial [] = initial.map _
  unfold rebuild
  apply List.map_congr_left
  intro x hx
  unfold pform
  simp only [List.find?_nil]
  rw [find_map_key, if_pos hx]
  simp

end Mustache.Proofs.Refine
