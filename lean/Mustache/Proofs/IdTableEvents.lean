import Mustache.Proofs.IdTableHist
/-!
# Id table: the history-only reading of a run

`aliveB`, `issuedOf`, `reservedB` are computed from the event log alone (no table, no ghost). `EvOk`
says the ghost state is exactly that reading; `Dead` is "issued, creation took effect, destroyed".
Both are kept by the micro-steps, hence carried along every well-formed history (`run_micro`).
-/
namespace Mustache.Proofs.IdTable
open Mustache.Model

/-- alive according to the history: the last creation-effect / destruction event of `e` is a creation effect -/
def aliveB (evs : List Ev) (e : Handle) : Bool :=
  evs.foldl (fun a ev => match ev with
    | .effect h => if h = e then true else a
    | .killed h => if h = e then false else a
    | .issued _ => a) false

/-- handles returned by creation calls, in issue order -/
def issuedOf (evs : List Ev) : List Handle :=
  evs.filterMap (fun ev => match ev with | .issued h => some h | _ => none)

/-- returned by a creation call whose effect has not happened yet (creation under lock before the flush) -/
def reservedB (evs : List Ev) (e : Handle) : Bool := evs.contains (.issued e) && !evs.contains (.effect e)

theorem aliveB_snoc (evs : List Ev) (ev : Ev) (e : Handle) :
    aliveB (evs ++ [ev]) e = (match ev with
      | .effect h => if h = e then true else aliveB evs e
      | .killed h => if h = e then false else aliveB evs e
      | .issued _ => aliveB evs e) := by
  simp only [aliveB, List.foldl_append, List.foldl_cons, List.foldl_nil]

theorem issuedOf_append (a b : List Ev) : issuedOf (a ++ b) = issuedOf a ++ issuedOf b :=
  List.filterMap_append

theorem mem_issuedOf (evs : List Ev) (e : Handle) : e ∈ issuedOf evs ↔ Ev.issued e ∈ evs := by
  simp only [issuedOf, List.mem_filterMap]
  constructor
  · rintro ⟨ev, hev, h⟩
    cases ev <;> simp at h
    subst h; exact hev
  · intro h; exact ⟨_, h, rfl⟩

structure EvOk (g : Ghost) (evs : List Ev) : Prop where
  alive : ∀ e, aliveB evs e = true ↔ e ∈ g.live
  iss : issuedOf evs = g.issued.reverse
  eff : ∀ e, Ev.effect e ∈ evs → e ∈ g.issued
  pend : ∀ e, e ∈ g.pending ↔ (Ev.issued e ∈ evs ∧ Ev.effect e ∉ evs)

theorem evok_init : EvOk Ghost.init [] :=
  ⟨fun _ => ⟨fun h => absurd h Bool.false_ne_true, fun h => absurd h List.not_mem_nil⟩, rfl,
    fun _ h => absurd h List.not_mem_nil,
    fun _ => ⟨fun h => absurd h List.not_mem_nil, fun h => absurd h.1 List.not_mem_nil⟩⟩

theorem EvOk.pend_issued {g : Ghost} {evs : List Ev} (ok : EvOk g evs) {e : Handle} (h : e ∈ g.pending) :
    e ∈ g.issued :=
  List.mem_reverse.mp (ok.iss ▸ (mem_issuedOf evs e).mpr ((ok.pend e).mp h).1)

theorem EvOk.reserved {g : Ghost} {evs : List Ev} (ok : EvOk g evs) (e : Handle) :
    reservedB evs e = true ↔ e ∈ g.pending := by
  simp only [reservedB, Bool.and_eq_true, Bool.not_eq_true', List.contains_iff_mem, ← Bool.not_eq_true, ok.pend e]

theorem EvOk.issue {g : Ghost} {evs : List Ev} (ok : EvOk g evs) {h : Handle} (hni : h ∉ g.issued) :
    EvOk (g.reserve h) (evs ++ [.issued h]) where
  alive e := by rw [aliveB_snoc]; exact ok.alive e
  iss := by rw [issuedOf_append, ok.iss]; exact (List.reverse_cons ..).symm
  eff e he := by
    simp only [List.mem_append, List.mem_singleton, reduceCtorEq, or_false] at he
    exact List.mem_cons_of_mem _ (ok.eff e he)
  pend e := by
    simp only [Ghost.reserve, List.mem_cons, List.mem_append, List.not_mem_nil, Ev.issued.injEq, reduceCtorEq,
      or_false, ok.pend e]
    constructor
    · rintro (rfl | ⟨h1, h2⟩)
      · exact ⟨Or.inr rfl, fun he => hni (ok.eff e he)⟩
      · exact ⟨Or.inl h1, h2⟩
    · rintro ⟨h1 | h1, h2⟩
      · exact Or.inr ⟨h1, h2⟩
      · exact Or.inl h1

theorem EvOk.effect {g : Ghost} {evs : List Ev} (ok : EvOk g evs) {h : Handle} (hp : h ∈ g.pending) :
    EvOk (g.install h) (evs ++ [.effect h]) where
  alive e := by
    rw [aliveB_snoc]
    by_cases he : h = e
    · simp [he, Ghost.install]
    · simp only [he, if_false, ok.alive e, Ghost.install, List.mem_cons, Ne.symm he, false_or]
  iss := by rw [issuedOf_append, ok.iss]; exact List.append_nil _
  eff e he := by
    simp only [List.mem_append, List.mem_singleton, Ev.effect.injEq] at he
    exact he.elim (ok.eff e) fun e1 => by subst e1; exact ok.pend_issued hp
  pend e := by
    simp only [mem_install_pending, List.mem_append, List.mem_singleton, reduceCtorEq, or_false, Ev.effect.injEq,
      not_or, ok.pend e, and_assoc]

theorem EvOk.killed {g : Ghost} {evs : List Ev} (ok : EvOk g evs) (h : Handle) :
    EvOk (g.destroy h) (evs ++ [.killed h]) where
  alive e := by
    rw [aliveB_snoc, mem_destroy]
    by_cases he : h = e
    · simp [he]
    · simp only [he, if_false, ok.alive e, ne_eq, Ne.symm he, not_false_eq_true, and_true]
  iss := by rw [issuedOf_append, ok.iss]; exact List.append_nil _
  eff e he := by
    simp only [List.mem_append, List.mem_singleton, reduceCtorEq, or_false] at he
    exact ok.eff e he
  pend e := by
    simp only [List.mem_append, List.mem_singleton, reduceCtorEq, or_false]
    exact ok.pend e

theorem evok_micro : Micro fun s => EvOk s.g s.evs where
  alloc s si hd ok := by
    have hni := (alloc_inv si.tinv (si.idle hd) hd).2.not_issued
    have := (ok.issue hni).effect List.mem_cons_self
    rw [List.append_assoc, ← create_eq_reserve_install (si.idle hd)] at this
    exact this
  reserve s si hd ok := ok.issue (reserve_inv si.tinv hd).2.not_issued
  install s h _ hp ok := ok.effect hp
  kill s h _ _ _ ok := ok.killed h
  frame s s' hg he ok := hg ▸ he ▸ ok

/-- issued, not waiting for its install, not alive: its creation took effect and it was destroyed -/
def Dead (e : Handle) (g : Ghost) : Prop := e ∈ g.issued ∧ e ∉ g.live ∧ e ∉ g.pending

theorem Dead.issue {e : Handle} {g : Ghost} (hd : Dead e g) {h : Handle} (hni : h ∉ g.issued) : Dead e (g.reserve h) :=
  ⟨List.mem_cons_of_mem _ hd.1, hd.2.1, fun hp => (List.mem_cons.mp hp).elim (fun e1 => hni (e1 ▸ hd.1)) hd.2.2⟩

theorem Dead.effect {e : Handle} {g : Ghost} (hd : Dead e g) {h : Handle} (hp : h ∈ g.pending) : Dead e (g.install h) :=
  ⟨hd.1, fun hl => (List.mem_cons.mp hl).elim (fun e1 => hd.2.2 (e1 ▸ hp)) hd.2.1,
    fun hh => hd.2.2 ((mem_install_pending g h e).mp hh).1⟩

theorem Dead.killed {e : Handle} {g : Ghost} (hd : Dead e g) (h : Handle) : Dead e (g.destroy h) :=
  ⟨hd.1, fun hl => hd.2.1 ((mem_destroy g h e).mp hl).1, hd.2.2⟩

theorem dead_micro (e : Handle) : Micro fun s => Dead e s.g where
  alloc s si hd hdead := by
    have hni := (alloc_inv si.tinv (si.idle hd) hd).2.not_issued
    have := (hdead.issue hni).effect List.mem_cons_self
    rw [← create_eq_reserve_install (si.idle hd)] at this
    exact this
  reserve s si hd hdead := hdead.issue (reserve_inv si.tinv hd).2.not_issued
  install s h _ hp hdead := hdead.effect hp
  kill s h _ _ _ hdead := hdead.killed h
  frame s s' hg _ hdead := hg ▸ hdead

theorem run_all (wid : Nat) (ops : List TOp) (hwf : WF wid ops) (hr : InRange (run wid ops))
    (hw : NoWrap (run wid ops)) : SInv (run wid ops) ∧ EvOk (run wid ops).g (run wid ops).evs :=
  run_micro evok_micro ops (St.init wid) (init_sinv wid) evok_init hwf hr hw

theorem run_dead (e : Handle) (ops : List TOp) (s : St) (si : SInv s) (hd : Dead e s.g) (hwf : wfFrom s ops = true)
    (hr : InRange (runFrom s ops)) (hw : NoWrap (runFrom s ops)) : Dead e (runFrom s ops).g :=
  (run_micro (dead_micro e) ops s si hd hwf hr hw).2

theorem prefix_good (wid : Nat) (ops ext : List TOp) (hwf : WF wid (ops ++ ext))
    (hw : NoWrap (run wid (ops ++ ext))) (hr : InRange (run wid (ops ++ ext))) :
    WF wid ops ∧ NoWrap (run wid ops) ∧ InRange (run wid ops) ∧
    wfFrom (run wid ops) ext = true ∧ run wid (ops ++ ext) = runFrom (run wid ops) ext := by
  unfold WF at hwf ⊢
  rw [wfFrom_append, Bool.and_eq_true] at hwf
  have e : run wid (ops ++ ext) = runFrom (run wid ops) ext := runFrom_append _ _ _
  rw [e] at hw hr
  exact ⟨hwf.1, hw.of_run, hr.of_run, hwf.2, e⟩

end Mustache.Proofs.IdTable
