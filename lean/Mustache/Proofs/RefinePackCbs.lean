import Mustache.Proofs.RefineRun
/-!
# Refinement, the flush: counting callbacks

The flush fires its callbacks pack by pack, the spec command by command, so the two lists agree only in their net
effect (`NetAgree`, the counted form of `cbsAgreeNet`). `CbBal` is the invariant of the spec's list along the commands
of one pack: per component, assigns minus removes is what the component set gained.
-/
namespace Mustache.Proofs.Refine
open Mustache.Model Mustache.Spec

variable (info : CompId → CompInfo)

theorem count_map_inj {α β : Type} [BEq α] [LawfulBEq α] [BEq β] [LawfulBEq β] (f : α → β)
    (hf : ∀ a b, f a = f b → a = b) (l : List α) (x : α) : (l.map f).count (f x) = l.count x := by
  rw [List.count_eq_countP, List.countP_map, List.count_eq_countP]
  exact List.countP_congr (fun a _ => by simp only [Function.comp, beq_iff_eq]; exact ⟨hf a x, congrArg f⟩)

theorem count_map_tag (l : List CompId) (b b' : Bool) (x : CompId) (o o' : Nat) :
    (l.map (fun y => ((b', y, o') : SCb))).count (b, x, o) = if b = b' ∧ o = o' then l.count x else 0 := by
  by_cases h : b = b' ∧ o = o'
  · obtain ⟨rfl, rfl⟩ := h
    rw [if_pos ⟨rfl, rfl⟩]
    exact count_map_inj (fun y => ((b, y, o) : SCb)) (fun _ _ h => (Prod.mk.inj (Prod.mk.inj h).2).1) l x
  · rw [if_neg h]
    apply List.count_eq_zero_of_not_mem
    intro hm
    rcases List.mem_map.mp hm with ⟨y, _, hy⟩
    exact h ⟨(Prod.mk.inj hy).1.symm, (Prod.mk.inj (Prod.mk.inj hy).2).2.symm⟩

/-- `|P \ Q| + |Q| = |Q \ P| + |P|`, for indicators -/
theorem ite_diff (P Q : Prop) [Decidable P] [Decidable Q] :
    (if P ∧ ¬ Q then 1 else 0) + (if Q then 1 else 0) = (if Q ∧ ¬ P then 1 else 0) + (if P then 1 else 0) := by
  by_cases hp : P <;> by_cases hq : Q <;> simp [hp, hq]

theorem mem_cbDiff {o : Nat} {before after : Mask} {t : SCb} (h : t ∈ cbDiff info o before after) :
    t.2.2 = o ∧ (info t.2.1).callbacks = true := by
  unfold cbDiff at h
  simp only [List.mem_append, List.mem_map, List.mem_filter, Bool.and_eq_true] at h
  rcases h with ⟨c, hc, rfl⟩ | ⟨c, hc, rfl⟩ <;> exact ⟨rfl, hc.2.1⟩

theorem count_cbDiff_zero (o : Nat) (before after : Mask) (b : Bool) (x : CompId) (o' : Nat)
    (h : (info x).callbacks = false ∨ o' ≠ o) : (cbDiff info o before after).count (b, x, o') = 0 := by
  apply List.count_eq_zero_of_not_mem
  intro hm
  have := mem_cbDiff info hm
  rcases h with h | h
  · rw [this.2] at h; cases h
  · exact h this.1

theorem count_cbDiff_assign (o : Nat) (before after : Mask) (ha : after.Nodup) (x : CompId)
    (hx : (info x).callbacks = true) :
    (cbDiff info o before after).count (true, x, o) = if x ∈ after ∧ x ∉ before then 1 else 0 := by
  unfold cbDiff
  rw [List.count_append, count_map_tag, count_map_tag, (ha.sublist List.filter_sublist).count]
  simp [hx]

theorem count_cbDiff_remove (o : Nat) (before after : Mask) (hb : before.Nodup) (x : CompId)
    (hx : (info x).callbacks = true) :
    (cbDiff info o before after).count (false, x, o) = if x ∈ before ∧ x ∉ after then 1 else 0 := by
  unfold cbDiff
  rw [List.count_append, count_map_tag, count_map_tag, (hb.sublist List.filter_sublist).count]
  simp [hx]

/-- `scbs` are the events the spec fired for ordinal `k` while its component set went from `base` to `final`; every
component in `replaced` was removed at least once on the way -/
structure CbBal (base : Mask) (k : Nat) (final replaced : Mask) (scbs : List SCb) : Prop where
  net : ∀ x, (info x).callbacks = true →
    scbs.count (true, x, k) + (if x ∈ base then 1 else 0) = scbs.count (false, x, k) + (if x ∈ final then 1 else 0)
  repl : ∀ x ∈ replaced, (info x).callbacks = true → 1 ≤ scbs.count (false, x, k)
  nocb : ∀ b x o, (info x).callbacks = false → scbs.count (b, x, o) = 0
  other : ∀ b x o, o ≠ k → scbs.count (b, x, o) = 0

theorem CbBal.nil (base : Mask) (k : Nat) : CbBal info base k base [] [] :=
  ⟨fun _ _ => rfl, fun _ h => (nomatch h), fun _ _ _ _ => rfl, fun _ _ _ _ => rfl⟩

theorem CbBal.cbDiff {base : Mask} {k : Nat} {final replaced : Mask} {scbs : List SCb}
    (h : CbBal info base k final replaced scbs) {next replaced' : Mask} (hf : final.Nodup) (hn : next.Nodup)
    (hr : ∀ x ∈ replaced', x ∈ replaced ∨ (x ∈ final ∧ x ∉ next)) :
    CbBal info base k next replaced' (scbs ++ cbDiff info k final next) := by
  refine ⟨fun x hx => ?_, fun x hxr hx => ?_, fun b x o hx => ?_, fun b x o ho => ?_⟩
  · have := h.net x hx
    have := ite_diff (x ∈ next) (x ∈ final)
    rw [List.count_append, List.count_append, count_cbDiff_assign info k _ _ hn x hx, count_cbDiff_remove info k _ _ hf x hx]
    omega
  · rw [List.count_append]
    rcases hr x hxr with h1 | h1
    · exact Nat.le_trans (h.repl x h1 hx) (Nat.le_add_right _ _)
    · rw [count_cbDiff_remove info k _ _ hf x hx, if_pos h1]; exact Nat.le_add_left _ _
  · rw [List.count_append, h.nocb b x o hx, count_cbDiff_zero info k _ _ b x o (Or.inl hx)]
  · rw [List.count_append, h.other b x o ho, count_cbDiff_zero info k _ _ b x o (Or.inr ho)]

/-- a present component is assigned again: the spec fires a remove and an assign -/
theorem CbBal.reassign {base : Mask} {k : Nat} {final replaced : Mask} {scbs : List SCb}
    (h : CbBal info base k final replaced scbs) (c : CompId) :
    CbBal info base k final (Mask.insert replaced c)
      (scbs ++ if (info c).callbacks then [(false, c, k), (true, c, k)] else []) := by
  cases hcb : (info c).callbacks with
  | false =>
    rw [if_neg Bool.false_ne_true, List.append_nil]
    exact ⟨h.net, fun x hxr hx => ((Rows.mem_insert _ _ _).mp hxr).elim (fun e => by rw [e, hcb] at hx; cases hx)
      (fun h1 => h.repl x h1 hx), h.nocb, h.other⟩
  | true =>
    rw [if_pos rfl]
    -- whatever the tag, exactly one of the two events counts
    have hcount : ∀ b x o, (scbs ++ [(false, c, k), (true, c, k)]).count (b, x, o) =
        scbs.count (b, x, o) + if x = c ∧ o = k then 1 else 0 := by
      intro b x o
      rw [List.count_append, List.count_cons, List.count_cons, List.count_nil]
      by_cases h : x = c ∧ o = k
      · obtain ⟨rfl, rfl⟩ := h
        cases b <;> simp
      · have : ∀ b', (((b', c, k) : SCb) == (b, x, o)) = false := fun b' => by
          simpa using fun _ hc hk => h ⟨hc.symm, hk.symm⟩
        rw [this, this, if_neg h]
        rfl
    refine ⟨fun x hx => ?_, fun x hxr hx => ?_, fun b x o hx => ?_, fun b x o ho => ?_⟩
    · have := h.net x hx
      rw [hcount, hcount]
      omega
    · rw [hcount]
      rcases (Rows.mem_insert _ _ _).mp hxr with rfl | h1
      · rw [if_pos ⟨rfl, rfl⟩]
        exact Nat.le_add_left _ _
      · exact Nat.le_trans (h.repl x h1 hx) (Nat.le_add_right _ _)
    · rw [hcount, h.nocb b x o hx, if_neg (fun e => by rw [e.1, hcb] at hx; cases hx)]
    · rw [hcount, h.other b x o ho, if_neg (fun e => ho e.2)]

/-- the three conditions of the flush oracle, for one list of model events and one of spec events -/
def NetAgree (mc scbs : List SCb) : Prop :=
  ∀ (x : CompId) (o : Nat),
    mc.count (true, x, o) + scbs.count (false, x, o) = scbs.count (true, x, o) + mc.count (false, x, o) ∧
    mc.count (true, x, o) ≤ scbs.count (true, x, o) ∧ mc.count (false, x, o) ≤ scbs.count (false, x, o)

theorem net_add {ma mr sa sr ma' mr' sa' sr' : Nat} (h : ma + sr = sa + mr ∧ ma ≤ sa ∧ mr ≤ sr)
    (h' : ma' + sr' = sa' + mr' ∧ ma' ≤ sa' ∧ mr' ≤ sr') :
    (ma + ma') + (sr + sr') = (sa + sa') + (mr + mr') ∧ ma + ma' ≤ sa + sa' ∧ mr + mr' ≤ sr + sr' := by
  omega

theorem NetAgree.append {a b c d : List SCb} (h1 : NetAgree a b) (h2 : NetAgree c d) : NetAgree (a ++ c) (b ++ d) := by
  intro x o
  simp only [List.count_append]
  exact net_add (h1 x o) (h2 x o)

theorem NetAgree.nil : NetAgree [] [] := fun _ _ => ⟨rfl, Nat.le_refl _, Nat.le_refl _⟩

theorem CbBal.netAgree {base : Mask} {k : Nat} {final replaced : Mask} {scbs : List SCb}
    (h : CbBal info base k final replaced scbs) {mc : List SCb}
    (hm : ∀ t ∈ mc, t.2.2 = k ∧ (info t.2.1).callbacks = true)
    (hnet : ∀ x, (info x).callbacks = true →
      mc.count (true, x, k) + (if x ∈ base then 1 else 0) = mc.count (false, x, k) + (if x ∈ final then 1 else 0))
    (hle : ∀ x, (info x).callbacks = true → mc.count (false, x, k) ≤ scbs.count (false, x, k)) : NetAgree mc scbs := by
  intro x o
  by_cases hz : (info x).callbacks = true ∧ o = k
  · obtain ⟨hcb, rfl⟩ := hz
    have := h.net x hcb
    have := hnet x hcb
    have := hle x hcb
    omega
  · have hm0 : ∀ b, mc.count (b, x, o) = 0 := fun b =>
      List.count_eq_zero_of_not_mem fun ht => hz ⟨(hm _ ht).2, (hm _ ht).1⟩
    have hs0 : ∀ b, scbs.count (b, x, o) = 0 := fun b => by
      cases hcb : (info x).callbacks with
      | false => exact h.nocb b x o hcb
      | true => exact h.other b x o (fun e => hz ⟨hcb, e⟩)
    rw [hm0, hm0, hs0, hs0]
    exact ⟨rfl, Nat.le_refl _, Nat.le_refl _⟩

theorem count_map_some (l : List SCb) (t : SCb) : (l.map some).count (some t) = l.count t :=
  count_map_inj some (fun _ _ => Option.some.inj) l t

theorem cbsAgreeNet_of {iss : List Handle} {cbs : List Cb} {mc scbs : List SCb} (hm : cbs.map (cbAbs iss) = mc.map some)
    (hn : NetAgree mc scbs) : cbsAgreeNet iss cbs scbs := by
  refine ⟨?_, ?_⟩
  · intro cb hcb
    have : cbAbs iss cb ∈ cbs.map (cbAbs iss) := List.mem_map_of_mem hcb
    rw [hm] at this
    rcases List.mem_map.mp this with ⟨t, _, ht⟩
    rw [← ht]; rfl
  · intro comp o
    simp only
    rw [hm, count_map_some, count_map_some]
    have := hn comp o
    omega

theorem cbsAgreeNet_append {iss : List Handle} {a b : List Cb} {x y : List SCb} (h1 : cbsAgreeNet iss a x)
    (h2 : cbsAgreeNet iss b y) : cbsAgreeNet iss (a ++ b) (x ++ y) := by
  refine ⟨List.forall_mem_append.mpr ⟨h1.1, h2.1⟩, fun comp o => ?_⟩
  simp only [List.map_append, List.count_append]
  exact net_add (h1.2 comp o) (h2.2 comp o)

theorem cbsAgreeNet_nil (iss : List Handle) : cbsAgreeNet iss [] [] := cbsAgreeNet_of (mc := []) rfl NetAgree.nil

end Mustache.Proofs.Refine
