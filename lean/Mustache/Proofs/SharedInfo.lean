import Mustache.Proofs.ClosureMask
/-! # `SharedComponentsInfo` algebra (`Shared.add / remove / merge / get? / has`)

A descriptor whose two lists are aligned is `Shared.ofPairs l` for a list `l` of (type, instance) pairs, and its
lookup is `lookK l`. Each edit is described by what it does to the id list and to the lookup; a well-formed
descriptor (ids ascending) is determined by its lookup (`Shared.ext_get?`), so the equations between
descriptors (`add_comm`, `add_add_self`) follow from the lookup laws. -/
namespace Mustache.Model

def Shared.WF (s : Shared) : Prop :=
  s.ids.length = s.data.length ∧ s.ids.Nodup ∧ s.ids.Pairwise (· < ·)

theorem Shared.WF.len {s : Shared} (h : s.WF) : s.ids.length = s.data.length := h.1

theorem Shared.wf_of_sorted {s : Shared} (hl : s.ids.length = s.data.length) (hs : s.ids.Pairwise (· < ·)) :
    s.WF :=
  ⟨hl, hs.imp (fun h => Nat.ne_of_lt h), hs⟩

def Shared.ofPairs (l : List (Nat × Nat)) : Shared := ⟨l.map Prod.fst, l.map Prod.snd⟩

def lookK : List (Nat × Nat) → Nat → Option Nat
  | [], _ => none
  | (a, b) :: t, k => if k = a then some b else lookK t k

def delK : List (Nat × Nat) → Nat → List (Nat × Nat)
  | [], _ => []
  | (a, b) :: t, k => if k = a then t else (a, b) :: delK t k

def SortedK : List (Nat × Nat) → Prop
  | [] => True
  | (a, _) :: t => (∀ p ∈ t, a < p.1) ∧ SortedK t

theorem sortedK_iff (l : List (Nat × Nat)) : SortedK l ↔ (l.map Prod.fst).Pairwise (· < ·) := by
  induction l with
  | nil => exact iff_of_true trivial List.Pairwise.nil
  | cons p t ih =>
    obtain ⟨a, b⟩ := p
    rw [List.map_cons, List.pairwise_cons, ← ih]
    exact and_congr_left' ⟨fun h k hk => by obtain ⟨p, hp, rfl⟩ := List.mem_map.mp hk; exact h p hp,
      fun h p hp => h p.1 (List.mem_map_of_mem hp)⟩

theorem SortedK.tail {p : Nat × Nat} {t : List (Nat × Nat)} (h : SortedK (p :: t)) : SortedK t := by
  obtain ⟨a, b⟩ := p; exact h.2

theorem Shared.ofPairs_zip {s : Shared} (h : s.ids.length = s.data.length) :
    Shared.ofPairs (s.ids.zip s.data) = s := by
  obtain ⟨ids, data⟩ := s
  simp only [Shared.ofPairs]
  rw [List.map_fst_zip (Nat.le_of_eq h), List.map_snd_zip (Nat.le_of_eq h.symm)]

theorem Shared.exists_pairs {s : Shared} (h : s.ids.length = s.data.length) : ∃ l, s = Shared.ofPairs l :=
  ⟨_, (Shared.ofPairs_zip h).symm⟩

theorem Shared.len_ofPairs (l : List (Nat × Nat)) :
    (Shared.ofPairs l).ids.length = (Shared.ofPairs l).data.length :=
  (List.length_map _).trans (List.length_map _).symm

theorem Shared.wf_ofPairs {l : List (Nat × Nat)} (h : SortedK l) : (Shared.ofPairs l).WF :=
  Shared.wf_of_sorted (Shared.len_ofPairs l) ((sortedK_iff l).1 h)

theorem Shared.WF.exists_pairs {s : Shared} (h : s.WF) : ∃ l, SortedK l ∧ s = Shared.ofPairs l := by
  refine ⟨s.ids.zip s.data, ?_, (Shared.ofPairs_zip h.1).symm⟩
  rw [sortedK_iff, List.map_fst_zip (Nat.le_of_eq h.1)]
  exact h.2.2

theorem Shared.wf_iff (s : Shared) : s.WF ↔ ∃ l, SortedK l ∧ s = Shared.ofPairs l :=
  ⟨Shared.WF.exists_pairs, fun ⟨_, hl, e⟩ => e ▸ Shared.wf_ofPairs hl⟩

theorem lookK_eq_none {l : List (Nat × Nat)} {k : Nat} (h : k ∉ l.map Prod.fst) : lookK l k = none := by
  induction l with
  | nil => rfl
  | cons p t ih =>
    obtain ⟨a, b⟩ := p
    rw [List.map_cons, List.mem_cons, not_or] at h
    simp only [lookK, if_neg h.1]; exact ih h.2

theorem lookK_mem {l : List (Nat × Nat)} {k v : Nat} (h : lookK l k = some v) : (k, v) ∈ l := by
  induction l with
  | nil => cases h
  | cons p t ih =>
    obtain ⟨a, b⟩ := p
    simp only [lookK] at h
    split at h
    · rename_i hk; cases h; subst hk; exact List.mem_cons_self
    · exact List.mem_cons_of_mem _ (ih h)

theorem lookK_isSome (l : List (Nat × Nat)) (k : Nat) : (lookK l k).isSome = true ↔ k ∈ l.map Prod.fst := by
  constructor
  · intro h
    obtain ⟨v, hv⟩ := Option.isSome_iff_exists.mp h
    exact List.mem_map_of_mem (f := Prod.fst) (lookK_mem hv)
  · intro h
    induction l with
    | nil => cases h
    | cons p t ih =>
      obtain ⟨a, b⟩ := p
      simp only [lookK]
      split
      · rfl
      · rename_i hk
        exact ih ((List.mem_cons.mp h).resolve_left hk)

theorem lookK_append (l₁ l₂ : List (Nat × Nat)) (k : Nat) :
    lookK (l₁ ++ l₂) k = (lookK l₁ k).or (lookK l₂ k) := by
  induction l₁ with
  | nil => rfl
  | cons p t ih =>
    obtain ⟨a, b⟩ := p
    simp only [List.cons_append, lookK]
    split
    · rfl
    · exact ih

theorem lookK_insertAt (l : List (Nat × Nat)) (n : Nat) {k : Nat} (v j : Nat) (h : k ∉ l.map Prod.fst) :
    lookK (l.take n ++ (k, v) :: l.drop n) j = if j = k then some v else lookK l j := by
  rw [lookK_append]
  simp only [lookK]
  split
  · rename_i hj; subst hj
    rw [lookK_eq_none (fun hm => h (List.mem_of_mem_take (List.map_take ▸ hm)))]
    rfl
  · rw [← lookK_append, List.take_append_drop]

theorem lookK_none_of_sorted {a b : Nat} {t : List (Nat × Nat)} (h : SortedK ((a, b) :: t)) {k : Nat}
    (hk : k ≤ a) : lookK t k = none := by
  apply lookK_eq_none
  intro hm
  obtain ⟨p, hp, rfl⟩ := List.mem_map.1 hm
  exact absurd (h.1 p hp) (Nat.not_lt.mpr hk)

theorem lookK_delK_ne (l : List (Nat × Nat)) {j k : Nat} (h : j ≠ k) : lookK (delK l k) j = lookK l j := by
  induction l with
  | nil => rfl
  | cons p t ih =>
    obtain ⟨a, b⟩ := p
    simp only [delK]
    split
    · rename_i hk; subst hk; simp only [lookK, if_neg h]
    · simp only [lookK, ih]

theorem lookK_delK_self {l : List (Nat × Nat)} (k : Nat) (h : SortedK l) : lookK (delK l k) k = none := by
  induction l with
  | nil => rfl
  | cons q t ih =>
    obtain ⟨a, b⟩ := q
    simp only [delK]
    split
    · rename_i hk; exact lookK_none_of_sorted h (Nat.le_of_eq hk)
    · rename_i hk; simp only [lookK, if_neg hk]; exact ih h.2

theorem mem_iff_lookK {l : List (Nat × Nat)} (hs : SortedK l) {k v : Nat} : (k, v) ∈ l ↔ lookK l k = some v := by
  refine ⟨fun hm => ?_, lookK_mem⟩
  induction l with
  | nil => cases hm
  | cons p t ih =>
    obtain ⟨a, b⟩ := p
    rcases List.mem_cons.mp hm with e | hm
    · cases e; exact if_pos rfl
    · exact (if_neg (Nat.ne_of_gt (hs.1 _ hm))).trans (ih hs.2 hm)

theorem sortedK_ext {l₁ l₂ : List (Nat × Nat)} (h₁ : SortedK l₁) (h₂ : SortedK l₂)
    (h : ∀ j, lookK l₁ j = lookK l₂ j) : l₁ = l₂ :=
  pairwise_ext (R := fun p q => p.1 < q.1) (fun _ _ => Nat.lt_asymm)
    (List.pairwise_map.mp ((sortedK_iff l₁).mp h₁)) (List.pairwise_map.mp ((sortedK_iff l₂).mp h₂))
    fun ⟨k, v⟩ => by rw [mem_iff_lookK h₁, mem_iff_lookK h₂, h]

theorem Shared.indexOf?_eq (s : Shared) (k : Nat) : s.indexOf? k = idx? s.ids k := rfl

theorem Shared.get?_cons (a b : Nat) (ids data : List Nat) (k : Nat) :
    Shared.get? ⟨a :: ids, b :: data⟩ k = if k = a then some b else Shared.get? ⟨ids, data⟩ k := by
  simp only [Shared.get?, Shared.indexOf?_eq, idx?_cons]
  by_cases h : k = a
  · simp only [if_pos h, List.getElem?_cons_zero]
  · simp only [if_neg h]
    cases idx? ids k <;> rfl

theorem Shared.get?_ofPairs (l : List (Nat × Nat)) (k : Nat) : (Shared.ofPairs l).get? k = lookK l k := by
  induction l with
  | nil => rfl
  | cons p t ih =>
    obtain ⟨a, b⟩ := p
    exact (Shared.get?_cons a b _ _ k).trans (by rw [lookK, ← ih]; rfl)

theorem Shared.has_ofPairs (l : List (Nat × Nat)) (k : Nat) :
    (Shared.ofPairs l).has k = true ↔ k ∈ l.map Prod.fst :=
  List.contains_iff_mem

theorem Shared.remove_cons (a b : Nat) (ids data : List Nat) (k : Nat) :
    Shared.remove ⟨a :: ids, b :: data⟩ k =
      if k = a then ⟨ids, data⟩
      else ⟨a :: (Shared.remove ⟨ids, data⟩ k).ids, b :: (Shared.remove ⟨ids, data⟩ k).data⟩ := by
  simp only [Shared.remove, Shared.indexOf?_eq, idx?_cons]
  by_cases h : k = a
  · simp only [if_pos h, List.eraseIdx_cons_zero]
  · simp only [if_neg h]
    cases idx? ids k <;> rfl

theorem Shared.remove_ofPairs (l : List (Nat × Nat)) (k : Nat) :
    (Shared.ofPairs l).remove k = Shared.ofPairs (delK l k) := by
  induction l with
  | nil => rfl
  | cons p t ih =>
    obtain ⟨a, b⟩ := p
    refine (Shared.remove_cons a b _ _ k).trans ?_
    rw [delK]
    split
    · rfl
    · show Shared.mk _ _ = _
      rw [show Shared.remove ⟨t.map Prod.fst, t.map Prod.snd⟩ k = Shared.ofPairs (delK t k) from ih]
      rfl

theorem Shared.add_ofPairs_not_mem {l : List (Nat × Nat)} {k : Nat} (v : Nat) (h : k ∉ l.map Prod.fst) :
    (Shared.ofPairs l).add k v =
      Shared.ofPairs (l.take (l.filter (·.1 < k)).length ++ (k, v) :: l.drop (l.filter (·.1 < k)).length) := by
  have hn : ((l.map Prod.fst).filter (· < k)).length = (l.filter (·.1 < k)).length := by
    rw [List.filter_map, List.length_map]; rfl
  simp only [Shared.add, Shared.indexOf?_eq, Shared.ofPairs, idx?_eq_none.mpr h, hn]
  simp [List.map_take, List.map_drop]

theorem Shared.add_of_mem {s : Shared} {id : Nat} (x : Nat) (h : id ∈ s.ids) :
    s.add id x = { s with data := s.data.set (s.ids.idxOf id) x } := by
  simp only [Shared.add, Shared.indexOf?_eq, idx?_of_mem h]

theorem Shared.get?_add {s : Shared} (id x j : Nat) (h : s.ids.length = s.data.length) :
    (s.add id x).get? j = if j = id then some x else s.get? j := by
  by_cases hm : id ∈ s.ids
  · -- `id` sits at position `i`; any other `j` is found elsewhere or not at all
    have hi := idx?_of_mem hm
    have hlt : s.ids.idxOf id < s.data.length := h ▸ List.idxOf_lt_length_iff.mpr hm
    rw [Shared.add_of_mem x hm]
    simp only [Shared.get?, Shared.indexOf?_eq]
    by_cases hj : j = id
    · subst hj
      rw [if_pos rfl, hi]
      simp only [List.getElem?_set, if_pos hlt, if_true]
    · rw [if_neg hj]
      cases hj' : idx? s.ids j with
      | none => rfl
      | some i' =>
        have hne : s.ids.idxOf id ≠ i' := by
          rintro rfl
          have h1 := (idx?_eq_some hi).2
          rw [(idx?_eq_some hj').2] at h1
          exact hj (Option.some.inj h1)
        simp only [List.getElem?_set_ne hne]
  · obtain ⟨l, rfl⟩ := Shared.exists_pairs h
    rw [Shared.add_ofPairs_not_mem x hm, Shared.get?_ofPairs, Shared.get?_ofPairs, lookK_insertAt l _ x j hm]

/-- only the lengths matter (not the order of the ids) -/
theorem Shared.get?_add_self {s : Shared} (id x : Nat) (h : s.ids.length = s.data.length) :
    (s.add id x).get? id = some x := by
  rw [Shared.get?_add id x id h, if_pos rfl]

theorem Shared.get?_add_ne {s : Shared} {j id : Nat} (x : Nat) (h : s.ids.length = s.data.length)
    (hj : j ≠ id) : (s.add id x).get? j = s.get? j := by
  rw [Shared.get?_add id x j h, if_neg hj]

theorem Shared.get?_remove_self {s : Shared} (id : Nat) (h : s.WF) : (s.remove id).get? id = none := by
  obtain ⟨l, hl, rfl⟩ := h.exists_pairs
  rw [Shared.remove_ofPairs, Shared.get?_ofPairs, lookK_delK_self id hl]

theorem Shared.get?_remove_ne {s : Shared} {j id : Nat} (h : s.ids.length = s.data.length) (hj : j ≠ id) :
    (s.remove id).get? j = s.get? j := by
  obtain ⟨l, rfl⟩ := Shared.exists_pairs h
  rw [Shared.remove_ofPairs, Shared.get?_ofPairs, Shared.get?_ofPairs, lookK_delK_ne l hj]

theorem Shared.has_iff_get? {s : Shared} (j : Nat) (h : s.ids.length = s.data.length) :
    s.has j = true ↔ (s.get? j).isSome = true := by
  obtain ⟨l, rfl⟩ := Shared.exists_pairs h
  rw [Shared.has_ofPairs, Shared.get?_ofPairs, lookK_isSome]

theorem Shared.add_ids (s : Shared) (id x : Nat) :
    (s.add id x).ids = if id ∈ s.ids then s.ids else
      s.ids.take (s.ids.filter (· < id)).length ++ [id] ++ s.ids.drop (s.ids.filter (· < id)).length := by
  split
  · rename_i h; rw [Shared.add_of_mem x h]
  · rename_i h; simp only [Shared.add, Shared.indexOf?_eq, idx?_eq_none.mpr h]

theorem Shared.has_add (s : Shared) (id x j : Nat) :
    (s.add id x).has j = true ↔ j = id ∨ s.has j = true := by
  simp only [Shared.has, List.contains_iff_mem, Shared.add_ids]
  split
  · rename_i h
    exact ⟨Or.inr, fun hj => hj.elim (fun e => e ▸ h) (fun hj => hj)⟩
  · rw [List.append_assoc, List.singleton_append, List.perm_middle.mem_iff, List.take_append_drop, List.mem_cons]

theorem Shared.len_add {s : Shared} (id x : Nat) (h : s.ids.length = s.data.length) :
    (s.add id x).ids.length = (s.add id x).data.length := by
  by_cases hm : id ∈ s.ids
  · rw [Shared.add_of_mem x hm, List.length_set]; exact h
  · obtain ⟨l, rfl⟩ := Shared.exists_pairs h
    rw [Shared.add_ofPairs_not_mem x hm]; exact Shared.len_ofPairs _

theorem Shared.len_remove {s : Shared} (id : Nat) (h : s.ids.length = s.data.length) :
    (s.remove id).ids.length = (s.remove id).data.length := by
  obtain ⟨l, rfl⟩ := Shared.exists_pairs h
  rw [Shared.remove_ofPairs]; exact Shared.len_ofPairs _

/-- in an ascending list the members below `id` form a prefix: `add` puts a new id where `Mask.insert` does -/
theorem Shared.ids_add {s : Shared} (id x : Nat) (hs : Sorted s.ids) : (s.add id x).ids = Mask.insert s.ids id := by
  rw [Shared.add_ids]
  split
  · rename_i hm; exact (Mask.insert_of_mem hs hm).symm
  · rename_i hm
    generalize s.ids = l at hs hm
    induction l with
    | nil => rfl
    | cons a t ih =>
      have ha := List.pairwise_cons.mp hs
      rw [List.mem_cons, not_or] at hm
      unfold Mask.insert
      by_cases hlt : a < id
      · rw [List.filter_cons_of_pos (by simpa using hlt), if_neg (Nat.lt_asymm hlt), if_neg hm.1, ← ih ha.2 hm.2]
        rfl
      · have hka : id < a := Nat.lt_of_le_of_ne (Nat.le_of_not_lt hlt) hm.1
        have hnil : t.filter (· < id) = [] := List.filter_eq_nil_iff.mpr fun y hy => by
          simpa using Nat.le_of_lt (Nat.lt_trans hka (ha.1 y hy))
        rw [if_pos hka, List.filter_cons_of_neg (by simpa using hlt), hnil]
        rfl

theorem Shared.wf_null : Shared.null.WF :=
  ⟨rfl, List.nodup_nil, List.Pairwise.nil⟩

theorem Shared.wf_add {s : Shared} (id x : Nat) (h : s.WF) : (s.add id x).WF := by
  refine Shared.wf_of_sorted (Shared.len_add id x h.1) ?_
  rw [Shared.ids_add id x h.2.2]
  exact Mask.sorted_insert h.2.2

/-- `remove` leaves a sublist of the ids -/
theorem Shared.wf_remove {s : Shared} (id : Nat) (h : s.WF) : (s.remove id).WF := by
  refine Shared.wf_of_sorted (Shared.len_remove id h.1) (List.Pairwise.sublist ?_ h.2.2)
  unfold Shared.remove
  split
  · exact List.eraseIdx_sublist _ _
  · exact List.Sublist.refl _

theorem Shared.has_remove {s : Shared} (id j : Nat) (h : s.WF) :
    (s.remove id).has j = true ↔ j ≠ id ∧ s.has j = true := by
  rw [Shared.has_iff_get? j (Shared.wf_remove id h).1, Shared.has_iff_get? j h.1]
  by_cases hj : j = id
  · subst hj; simp [Shared.get?_remove_self j h]
  · simp [Shared.get?_remove_ne h.1 hj, hj]

theorem Shared.null_merge (s : Shared) : Shared.null.merge s = s := rfl

theorem Shared.wf_foldl_add (l : List (Nat × Nat)) {oth : Shared} (h : oth.WF) :
    (l.foldl (fun r p => r.add p.1 p.2) oth).WF := by
  induction l generalizing oth with
  | nil => exact h
  | cons p t ih => exact ih (Shared.wf_add p.1 p.2 h)

theorem Shared.wf_merge (s : Shared) {oth : Shared} (h : oth.WF) : (s.merge oth).WF :=
  Shared.wf_foldl_add _ h

theorem Shared.get?_foldl_add (l : List (Nat × Nat)) (hn : (l.map Prod.fst).Nodup) {oth : Shared}
    (h : oth.ids.length = oth.data.length) (j : Nat) :
    (l.foldl (fun r p => r.add p.1 p.2) oth).get? j =
      (match lookK l j with | some v => some v | none => oth.get? j) := by
  induction l generalizing oth with
  | nil => rfl
  | cons p t ih =>
    obtain ⟨a, b⟩ := p
    rw [List.map_cons, List.nodup_cons] at hn
    rw [List.foldl_cons, ih hn.2 (Shared.len_add a b h), lookK, Shared.get?_add a b j h]
    by_cases hj : j = a
    · subst hj; rw [if_pos rfl, if_pos rfl, lookK_eq_none hn.1]
    · rw [if_neg hj, if_neg hj]

theorem Shared.get?_merge {s oth : Shared} (j : Nat) (hs : s.WF) (ho : oth.ids.length = oth.data.length) :
    (s.merge oth).get? j = (match s.get? j with | some v => some v | none => oth.get? j) := by
  have hn : ((s.ids.zip s.data).map Prod.fst).Nodup := by
    rw [List.map_fst_zip (Nat.le_of_eq hs.1)]; exact hs.2.1
  have := Shared.get?_foldl_add (s.ids.zip s.data) hn ho j
  rw [← Shared.get?_ofPairs, Shared.ofPairs_zip hs.1] at this
  exact this

theorem Shared.ext_get? {a b : Shared} (ha : a.WF) (hb : b.WF) (h : ∀ j, a.get? j = b.get? j) : a = b := by
  obtain ⟨l₁, h₁, rfl⟩ := ha.exists_pairs
  obtain ⟨l₂, h₂, rfl⟩ := hb.exists_pairs
  simp only [Shared.get?_ofPairs] at h
  rw [sortedK_ext h₁ h₂ h]

theorem Shared.add_comm {s : Shared} {i j : Nat} (x y : Nat) (h : s.WF) (hij : i ≠ j) :
    (s.add i x).add j y = (s.add j y).add i x := by
  refine Shared.ext_get? (Shared.wf_add j y (Shared.wf_add i x h)) (Shared.wf_add i x (Shared.wf_add j y h)) fun k => ?_
  rw [Shared.get?_add j y k (Shared.len_add i x h.1), Shared.get?_add i x k h.1,
    Shared.get?_add i x k (Shared.len_add j y h.1), Shared.get?_add j y k h.1]
  by_cases hk : k = j
  · rw [if_pos hk, if_neg (fun e : k = i => hij (e.symm.trans hk)), if_pos hk]
  · rw [if_neg hk, if_neg hk]

theorem Shared.add_add_self {s : Shared} (i x y : Nat) (h : s.WF) : (s.add i x).add i y = s.add i y := by
  refine Shared.ext_get? (Shared.wf_add i y (Shared.wf_add i x h)) (Shared.wf_add i y h) fun k => ?_
  rw [Shared.get?_add i y k (Shared.len_add i x h.1), Shared.get?_add i x k h.1, Shared.get?_add i y k h.1]
  split <;> rfl

end Mustache.Model
