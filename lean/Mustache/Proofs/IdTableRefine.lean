import Mustache.Model.IdTable
import Mustache.Proofs.RowsPack
/-!
# The id table of the world model: `tabOf w`, and every WM operation seen through it

`tabOf w` keeps the six fields of `WM` the id table consists of. Each lemma says that a WM operation acts
on the projection as the `Tab` operation of `Model/IdTable.lean`. The operations that only move rows
(`setLoc`, `getArch`, `archRemove`, `archInsert`, `externalMove`, ...) are `Rows.SameTable` steps, and
`SameTable.tab` reads such a step through `tabOf`. Together with the `world` correspondence harness (WM vs.
the C++) this is what connects the `Tab` theorems of C01 to the code.
-/
namespace Mustache.Proofs.IdTable
open Mustache.Model

def tabOf (w : WM) : Tab := ⟨w.worldId, w.slots, w.next, w.empty, w.lockDepth, w.nextEntityId⟩

def rowHandles (w : WM) (ai : Nat) : List Handle := (w.arch ai).rows.map (·.ent)

variable (info : CompId → CompInfo)

theorem isValid_tab (w : WM) (h : Handle) : w.isValid h = (tabOf w).valid h := rfl

theorem allocId_tab (w : WM) : tabOf (w.allocId).1 = ((tabOf w).alloc).1 ∧ (w.allocId).2 = ((tabOf w).alloc).2 := by
  unfold WM.allocId Tab.alloc
  by_cases he : w.empty = 0
  · simp only [tabOf, he, ↓reduceIte, and_self]
  · cases hs : w.slots[w.next]? <;> simp only [tabOf, he, hs, ↓reduceIte, and_self]

theorem ensureId_tab (w : WM) (id : Nat) : tabOf (w.ensureId id) = (tabOf w).ensureId id := rfl

theorem release_tab (w : WM) (h : Handle) : tabOf (w.release h) = (tabOf w).release h := by
  unfold WM.release Tab.release
  by_cases hl : h.id < w.slots.length
  · simp only [tabOf, hl, ↓reduceIte]
  · simp only [tabOf, hl, ↓reduceIte, WM.ensureId, Tab.ensureId]

theorem createLocked_tab (w : WM) (t : Nat) (m : Mask) (sh : Shared) :
    tabOf (w.createLocked t m sh).1 = ((tabOf w).reserve).1 ∧ (w.createLocked t m sh).2 = ((tabOf w).reserve).2 :=
  ⟨rfl, rfl⟩

theorem lock_tab (w : WM) : tabOf w.lock = (tabOf w).lock := by
  unfold WM.lock Tab.lock
  exact (apply_ite tabOf _ _ _).trans rfl

theorem _root_.Mustache.Proofs.Rows.SameTable.tab {w w' : WM} (h : Rows.SameTable w w') : tabOf w' = tabOf w := by
  unfold tabOf
  rw [h.worldId, h.slots, h.next, h.empty, h.lockDepth, h.nextEntityId]

theorem setArch_tab (w : WM) (i : Nat) (a : Arch) : tabOf (w.setArch i a) = tabOf w := rfl

theorem pushCmd_tab (w : WM) (t : Nat) (c : Cmd) : tabOf (w.pushCmd t c) = tabOf w := rfl

theorem destroy_tab (w : WM) (t : Nat) (e : Handle) : tabOf (w.destroy t e) = tabOf w := by
  unfold WM.destroy; split
  · rfl
  · split <;> rfl

theorem destroyNowU_tab (w : WM) (h : Handle) : tabOf (w.destroyNowU info h).1 = (tabOf w).destroyNow h := by
  unfold WM.destroyNowU Tab.destroyNow
  rw [isValid_tab]
  split
  · rfl
  · cases ha : (w.locOf h).arch with
    | none => simp only [ha, release_tab]
    | some ai => simp only [ha, release_tab, (Rows.archRemove_sameTable info w ai _ _).tab]

theorem destroyNow_tab (w : WM) (t : Nat) (e : Handle) :
    tabOf (w.destroyNow info t e).1 = if w.isLocked then tabOf w else (tabOf w).destroyNow e := by
  unfold WM.destroyNow
  split
  · rfl
  · exact destroyNowU_tab info w e

theorem update_tab (w : WM) :
    tabOf (w.update info).1 = if w.isLocked then tabOf w else (tabOf w).destroyAll w.marked := by
  unfold WM.update
  split
  · rfl
  · have key : ∀ (l : List Handle) (acc : WM × List Cb),
        tabOf (l.foldl (fun (acc : WM × List Cb) h =>
          let (w', c) := acc.1.destroyNowU info h
          (w', acc.2 ++ c)) acc).1 = (tabOf acc.1).destroyAll l := by
      intro l
      induction l with
      | nil => intro acc; rfl
      | cons a r ih =>
        intro acc
        simp only [List.foldl_cons, Tab.destroyAll] at ih ⊢
        rw [ih]
        simp only [destroyNowU_tab]
    have := key w.marked (w, [])
    simp only at this ⊢
    exact this

theorem clearArch_tab (w : WM) (ai : Nat) : tabOf (w.clearArch info ai).1 = (tabOf w).clearList (rowHandles w ai) := by
  unfold WM.clearArch rowHandles Tab.clearList
  rw [List.foldl_map]
  exact (List.foldl_hom tabOf fun _ _ => rfl).symm

theorem create_tab (w : WM) (t : Nat) (m : Mask) (sh : Shared) :
    (tabOf (w.create info t m sh).1 = if w.isLocked then ((tabOf w).reserve).1 else ((tabOf w).alloc).1) ∧
    (w.create info t m sh).2.1 = if w.isLocked then ((tabOf w).reserve).2 else ((tabOf w).alloc).2 := by
  unfold WM.create
  split
  · exact ⟨rfl, rfl⟩
  · have h1 := allocId_tab (w.getArch m sh).1
    rw [(Rows.getArch_sameTable w m sh).tab] at h1
    simp only [(Rows.archInsert_sameTable info _ _ _ _).tab]
    exact h1

end Mustache.Proofs.IdTable
