import Mustache.Proofs.RefineFrame
/-!
# Refinement: steps that only make the pool grow (`getCreatedSharedComponent`), descriptors of pooled instances
-/
namespace Mustache.Proofs.Refine
open Mustache.Model Mustache.Spec
open Mustache.Proofs.IdTable (tabOf Ghost TInv)
open Mustache.Proofs.Rows

variable (info : CompId → CompInfo) {c : CW} {s : WS}

/-- `w'` agrees with `w` on everything but `pool`, `nextInst`, `temps` -/
structure FrameEq (w w' : WM) : Prop where
  worldId : w'.worldId = w.worldId
  slots : w'.slots = w.slots
  next : w'.next = w.next
  empty : w'.empty = w.empty
  locs : w'.locs = w.locs
  archs : w'.archs = w.archs
  deps : w'.deps = w.deps
  lockDepth : w'.lockDepth = w.lockDepth
  nextEntityId : w'.nextEntityId = w.nextEntityId
  nthreads : w'.nthreads = w.nthreads
  buffers : w'.buffers = w.buffers
  marked : w'.marked = w.marked

theorem FrameEq.refl (w : WM) : FrameEq w w := ⟨rfl, rfl, rfl, rfl, rfl, rfl, rfl, rfl, rfl, rfl, rfl, rfl⟩

theorem FrameEq.trans {a b c : WM} (h₁ : FrameEq a b) (h₂ : FrameEq b c) : FrameEq a c :=
  ⟨h₂.worldId.trans h₁.worldId, h₂.slots.trans h₁.slots, h₂.next.trans h₁.next, h₂.empty.trans h₁.empty,
   h₂.locs.trans h₁.locs, h₂.archs.trans h₁.archs, h₂.deps.trans h₁.deps, h₂.lockDepth.trans h₁.lockDepth,
   h₂.nextEntityId.trans h₁.nextEntityId, h₂.nthreads.trans h₁.nthreads, h₂.buffers.trans h₁.buffers,
   h₂.marked.trans h₁.marked⟩

theorem frameEq_set (w : WM) (p : Pool) (n : Nat) (t : List (CompId × Nat)) :
    FrameEq w { w with pool := p, nextInst := n, temps := t } := ⟨rfl, rfl, rfl, rfl, rfl, rfl, rfl, rfl, rfl, rfl, rfl, rfl⟩

theorem frameEq_temps (w : WM) (t : List (CompId × Nat)) : FrameEq w { w with temps := t } :=
  frameEq_set w w.pool w.nextInst t

theorem frameEq_poolGet (w : WM) (sid v : Nat) : FrameEq w (w.poolGet sid v).1 := by
  unfold WM.poolGet
  simp only
  split
  · exact FrameEq.refl w
  · exact frameEq_set w _ _ w.temps

theorem frame_arch {w w' : WM} (h : FrameEq w w') (ai : Nat) : w'.arch ai = w.arch ai := by
  rw [arch_def, arch_def, h.archs]

theorem frame_locOf {w w' : WM} (h : FrameEq w w') (e : Handle) : w'.locOf e = w.locOf e := by
  unfold WM.locOf; rw [h.locs]

theorem frame_isValid {w w' : WM} (h : FrameEq w w') (e : Handle) : w'.isValid e = w.isValid e := by
  unfold WM.isValid; rw [h.slots, h.worldId]

/-- the abstraction reads the pool only at pooled instances -/
theorem frame_absEnt {w w' : WM} (hsh : SharedPooled w) (h : FrameEq w w') (he : PoolExt w.pool w'.pool) (e : Handle) :
    absEnt w' e = absEnt w e := by
  unfold absEnt
  rw [frame_isValid h, frame_locOf h]
  cases w.isValid e with
  | false => rfl
  | true =>
    cases (w.locOf e).arch with
    | none => rfl
    | some ai =>
      simp only [if_true, frame_arch h]
      by_cases hai : ai < w.archs.length
      · rw [absShared_ext (hsh _ (arch_mem_archs hai)) he]
      · rw [arch_of_ge w ai (Nat.le_of_not_lt hai)]
        rfl

theorem FrameEq.keeps {w w' : WM} (h : FrameEq w w') (he : PoolExt w.pool w'.pool) : KeepsCtl w w' :=
  ⟨h.worldId, h.deps, h.lockDepth, h.nthreads, h.buffers, h.marked, he⟩

theorem frame_refines {w' : WM} (hi : Inv c) (hr : Rel c s) (hf : FrameEq c.w w')
    (he : PoolExt c.w.pool w'.pool) (hp : PoolInv w') : Inv ⟨w', c.issued⟩ ∧ Rel ⟨w', c.issued⟩ s := by
  have hst := Step.of_same hi.rows 0 hf.archs hf.locs (frame_isValid hf)
  have hi' : Inv ⟨w', c.issued⟩ := by
    refine inv_of_keepsCtl hi (hf.keeps he) (fun _ h => h) ?_ hst.ok (hst.keys hi.keys)
      (liveInv_of_same hi.live (fun ai => by rw [frame_arch hf]) (frame_isValid hf)) hp ?_ ?_
    · have : tabOf w' = tabOf c.w := by
        unfold tabOf; rw [hf.worldId, hf.slots, hf.next, hf.empty, hf.lockDepth, hf.nextEntityId]
      rw [this]; exact hi.tinv
    · intro a ha
      rw [hf.archs] at ha
      exact (hi.shared a ha).ext he
    · rw [hf.slots, hf.locs]; exact hi.locsCover
  exact ⟨hi', rel_of_ents hi hr (hf.keeps he) hi'.rows hi'.live rfl
    (fun o h ho => by rw [frame_absEnt hi.shared hf he]; exact hr.ents o h ho)
    (fun h _ hv _ => (frame_isValid hf h).symm.trans hv)⟩

theorem AliveAt.frame {e : Handle} {k pi i : Nat} {prow : Row} {ent : SEnt}
    (ha : AliveAt c s e k pi i prow ent) (hi : Inv c) {w' : WM} (hf : FrameEq c.w w') (he : PoolExt c.w.pool w'.pool) :
    AliveAt ⟨w', c.issued⟩ s e k pi i prow ent :=
  { valid := (frame_isValid hf e).trans ha.valid, ord := ha.ord, issued := ha.issued
    row := by show (w'.arch pi).rows[i]? = _; rw [frame_arch hf]; exact ha.row
    own := ha.own, loc := (frame_locOf hf e).trans ha.loc, alive := ha.alive
    rel := by
      show entRel ent ⟨(w'.arch pi).mask.zip prow.vals, absShared w'.pool (w'.arch pi).shared⟩
      rw [frame_arch hf, absShared_ext (ha.sharedIn hi) he]; exact ha.rel }

theorem temps_refines (hi : Inv c) (hr : Rel c s) (tmp : List (CompId × Nat)) :
    Inv ⟨{ c.w with temps := tmp }, c.issued⟩ ∧ Rel ⟨{ c.w with temps := tmp }, c.issued⟩ s :=
  frame_refines hi hr (frameEq_temps _ tmp) (PoolExt.refl _) (hi.pool.of_eq rfl rfl)

theorem instVal_of_mem {w : WM} (hp : PoolInv w) {sid v i : Nat} (hm : (v, i) ∈ poolEntries w.pool sid) :
    instVal w.pool sid i = v := by
  unfold instVal
  cases hf : (poolEntries w.pool sid).find? (·.2 == i) with
  | none => simpa using List.find?_eq_none.mp hf _ hm
  | some q =>
    have hq := List.mem_of_find?_eq_some hf
    have hq2 : q.2 = i := by simpa using List.find?_some hf
    rw [show q = (q.1, i) by rw [← hq2]] at hq
    exact snd_inj_of_nodup (hp.insts_nodup sid) hq hm

theorem zip_mem_iff_get? {sh : Shared} (h : sh.WF) (a b : Nat) :
    (a, b) ∈ sh.ids.zip sh.data ↔ sh.get? a = some b := by
  obtain ⟨l, hl, he⟩ := h.exists_pairs
  rw [he, zip_ofPairs, Shared.get?_ofPairs]
  exact mem_iff_lookK hl

theorem sharedIn_null (p : Pool) : SharedIn p Shared.null :=
  ⟨Shared.wf_null, fun q hq => by simp [Shared.null] at hq⟩

theorem sharedIn_add {p : Pool} {sh : Shared} (h : SharedIn p sh) (sid inst : Nat)
    (hin : inst ∈ (poolEntries p sid).map (·.2)) : SharedIn p (sh.add sid inst) := by
  have hwf := Shared.wf_add sid inst h.1
  refine ⟨hwf, fun q hq => ?_⟩
  obtain ⟨a, b⟩ := q
  have hg := (zip_mem_iff_get? hwf a b).mp hq
  by_cases hs : a = sid
  · rw [hs, Shared.get?_add_self sid inst h.1.1] at hg
    cases hg
    rw [hs]; exact hin
  · rw [Shared.get?_add_ne inst h.1.1 hs] at hg
    exact h.2 (a, b) ((zip_mem_iff_get? h.1 a b).mpr hg)

theorem sharedIn_remove {p : Pool} {sh : Shared} (h : SharedIn p sh) (sid : Nat) : SharedIn p (sh.remove sid) := by
  have hwf := Shared.wf_remove sid h.1
  refine ⟨hwf, fun q hq => ?_⟩
  obtain ⟨a, b⟩ := q
  have hg := (zip_mem_iff_get? hwf a b).mp hq
  by_cases hs : a = sid
  · rw [hs, Shared.get?_remove_self sid h.1] at hg; cases hg
  · rw [Shared.get?_remove_ne h.1.1 hs] at hg
    exact h.2 (a, b) ((zip_mem_iff_get? h.1 a b).mpr hg)

theorem poolGet_add {w : WM} (hp : PoolInv w) {sh : Shared} (hsh : SharedIn w.pool sh) (sid v : Nat) :
    SharedIn (w.poolGet sid v).1.pool (sh.add sid (w.poolGet sid v).2) ∧
    ∀ sid', lookupS (absShared (w.poolGet sid v).1.pool (sh.add sid (w.poolGet sid v).2)) sid' =
      if sid' = sid then some v else lookupS (absShared w.pool sh) sid' := by
  have he := poolGet_ext w sid v
  have hmem := poolGet_mem w sid v
  have hin := sharedIn_add (hsh.ext he) sid _ (List.mem_map.mpr ⟨_, hmem, rfl⟩)
  refine ⟨hin, fun sid' => ?_⟩
  rw [lookupS_absShared _ hin.1.1]
  by_cases hs : sid' = sid
  · rw [if_pos hs, hs, Shared.get?_add_self sid _ hsh.1.1, Option.map_some, instVal_of_mem (poolGet_inv sid v hp) hmem]
  · rw [if_neg hs, Shared.get?_add_ne _ hsh.1.1 hs, ← lookupS_absShared _ hsh.1.1, absShared_ext hsh he]

/-- two pooled descriptors with the same instance list are the same descriptor: an instance id names its type -/
theorem shared_eq_of_data {w : WM} (hp : PoolInv w) {a b : Shared} (ha : SharedIn w.pool a) (hb : SharedIn w.pool b)
    (hd : a.data = b.data) : a = b := by
  have hla := ha.1.1
  have hlb := hb.1.1
  have hids : a.ids = b.ids := by
    apply List.ext_getElem
    · rw [hla, hlb, hd]
    · intro i h1 h2
      have hda : i < a.data.length := by rw [← hla]; exact h1
      have hdb : i < b.data.length := by rw [← hlb]; exact h2
      have hma : (a.ids[i], a.data[i]) ∈ a.ids.zip a.data := by
        rw [List.mem_iff_getElem]
        exact ⟨i, by rw [List.length_zip]; exact Nat.lt_min.mpr ⟨h1, hda⟩, by simp⟩
      have hmb : (b.ids[i], b.data[i]) ∈ b.ids.zip b.data := by
        rw [List.mem_iff_getElem]
        exact ⟨i, by rw [List.length_zip]; exact Nat.lt_min.mpr ⟨h2, hdb⟩, by simp⟩
      have pa := ha.2 _ hma
      have pb := hb.2 _ hmb
      simp only at pa pb
      rcases List.mem_map.mp pa with ⟨qa, hqa, hqa2⟩
      rcases List.mem_map.mp pb with ⟨qb, hqb, hqb2⟩
      have hdi : a.data[i] = b.data[i] := by simp [hd]
      exact hp.inst_sid _ _ qa hqa qb hqb (by rw [hqa2, hqb2, hdi])
  cases a; cases b
  simp only at hids hd
  rw [hids, hd]

def poolFold (w : WM) (shared : List Nat) (sh0 : Shared) : WM × Shared :=
  shared.foldl (fun (acc : WM × Shared) sid =>
    let (w', inst) := acc.1.poolGet sid 0
    (w', acc.2.add sid inst)) (w, sh0)

theorem step_create_eq (w : WM) (t : Nat) (mask : Mask) (shared : List Nat) :
    w.step info (.create t mask shared) =
      (((poolFold w shared Shared.null).1.create info t mask (poolFold w shared Shared.null).2).1,
       .created ((poolFold w shared Shared.null).1.create info t mask (poolFold w shared Shared.null).2).2.1,
       ((poolFold w shared Shared.null).1.create info t mask (poolFold w shared Shared.null).2).2.2) := by
  unfold poolFold
  rfl

theorem lookupS_defaults (shared : List Nat) (sid : Nat) :
    lookupS (shared.map (fun x => (x, 0))) sid = if sid ∈ shared then some 0 else none := by
  induction shared with
  | nil => rfl
  | cons a t ih =>
    rw [List.map_cons, lookupS_cons, ih]
    by_cases h : sid = a
    · rw [if_pos h, if_pos (h ▸ List.mem_cons_self)]
    · rw [if_neg h]; simp only [List.mem_cons, h, false_or]

theorem poolFold_spec : ∀ (shared : List Nat) {w : WM} {sh0 : Shared} (S : List Nat) {w1 : WM} {sh1 : Shared},
    poolFold w shared sh0 = (w1, sh1) → PoolInv w → SharedIn w.pool sh0 →
    (∀ sid, lookupS (absShared w.pool sh0) sid = if sid ∈ S then some 0 else none) →
    FrameEq w w1 ∧ PoolExt w.pool w1.pool ∧ PoolInv w1 ∧ SharedIn w1.pool sh1 ∧
    (∀ sid, lookupS (absShared w1.pool sh1) sid = if sid ∈ S ++ shared then some 0 else none)
  | [], w, sh0, S, _, _, h, hp, hsh, hv => by
    cases h
    rw [List.append_nil]
    exact ⟨FrameEq.refl w, PoolExt.refl _, hp, hsh, hv⟩
  | sid0 :: rest, w, sh0, S, _, _, h, hp, hsh, hv => by
    obtain ⟨hsh1, hadd⟩ := poolGet_add hp hsh sid0 0
    have h' : poolFold (w.poolGet sid0 0).1 rest (sh0.add sid0 (w.poolGet sid0 0).2) = _ := h
    obtain ⟨hfr, hext, hp1, hsh', hv'⟩ := poolFold_spec rest (S ++ [sid0]) h' (poolGet_inv sid0 0 hp) hsh1 fun sid => by
      rw [hadd sid, hv sid]
      by_cases hs : sid = sid0 <;> simp [hs]
    refine ⟨(frameEq_poolGet w sid0 0).trans hfr, (poolGet_ext w sid0 0).trans hext, hp1, hsh', fun sid => ?_⟩
    rw [hv' sid, List.append_assoc]
    rfl

theorem poolFold_refines {w : WM} {iss : List Handle} {s : WS} (hi : Inv ⟨w, iss⟩) (hr : Rel ⟨w, iss⟩ s)
    {shared : List Nat} {w1 : WM} {sh : Shared} (hpf : poolFold w shared Shared.null = (w1, sh)) :
    FrameEq w w1 ∧ Inv ⟨w1, iss⟩ ∧ Rel ⟨w1, iss⟩ s ∧ SharedIn w1.pool sh ∧
    ∀ sid, lookupS (shared.map (fun x => (x, 0))) sid = lookupS (absShared w1.pool sh) sid := by
  obtain ⟨hfr, hext, hp1, hsh, hv⟩ := poolFold_spec shared [] hpf hi.pool (sharedIn_null _) (fun sid => rfl)
  obtain ⟨hi1, hr1⟩ := frame_refines (c := ⟨w, iss⟩) hi hr hfr hext hp1
  exact ⟨hfr, hi1, hr1, hsh, fun sid => by rw [hv sid, lookupS_defaults, List.nil_append]⟩

end Mustache.Proofs.Refine
