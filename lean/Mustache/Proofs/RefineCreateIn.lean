import Mustache.Model.WorldClear
import Mustache.Proofs.RefineCreate
import Mustache.Proofs.RefineLocked
/-!
# Refinement: `create(Archetype&)` (`WM.createIn`), the creating entry point outside `Op`

`WM.createIn info t ai` is `WM.create info t (arch ai).mask (arch ai).shared` on every state whose archetype keys are
unique (`createIn_eq_create`): with an empty dependency table the lookup of the archetype's own key returns the
archetype itself, otherwise both look the key up (the archetype may predate a declaration, then the entity goes to
the archetype of the closed set). The refinement statement is that of `.create`, against the spec creation with the
archetype's component set and the VALUES of its shared components (`specCreateWith`; `WS.step (.create t m ids)` is
`specCreateWith s t m (ids at value 0)`, by `rfl`).
-/
namespace Mustache.Proofs.Refine
open Mustache.Model Mustache.Spec
open Mustache.Proofs.IdTable (tabOf Ghost TInv)
open Mustache.Proofs.Rows

variable (info : CompId → CompInfo) {c : CW} {s : WS}

theorem closedMask_of_isEmpty {deps : List (CompId × Mask)} (h : deps.isEmpty = true) (m : Mask) :
    closedMask deps m = m := by
  simp [closedMask, extraComponents, h, Mask.union]

theorem createIn_eq_create {w : WM} (hk : KeysOK w) (t ai : Nat) (hai : ai < w.archs.length) :
    w.createIn info t ai = w.create info t (w.arch ai).mask (w.arch ai).shared := by
  unfold WM.createIn WM.create
  by_cases hl : w.isLocked = true
  · rw [if_pos hl, if_pos hl]
  · rw [if_neg hl, if_neg hl]
    by_cases hd : w.deps.isEmpty = true
    · have hg : w.getArch (w.arch ai).mask (w.arch ai).shared = (w, ai) :=
        getArch_own hk _ _ ai hai (closedMask_of_isEmpty hd _).symm rfl
      rw [if_pos hd, hg]
    · rw [if_neg hd]

/-- `create(Archetype&)` on the combined state: the returned handle gets the next ordinal, as for `.create` -/
def CW.createIn (c : CW) (t ai : Nat) : CW × Out Handle × List Cb :=
  let r := c.w.createIn info t ai
  (⟨r.1, issueOut c.issued (.created r.2.1)⟩, .created r.2.1, r.2.2)

/-- the spec's creation step with explicit shared VALUES (`WS.step (.create …)` has every value 0) -/
def specCreateWith (s : WS) (t : Nat) (mask : Mask) (sh : List (Nat × Nat)) : WS × Out Nat × List SCb :=
  if s.lockDepth > 0 then
    let o := s.ents.length
    ({ s with ents := s.ents ++ [none] }.push t (.create o mask sh), .created o, [])
  else
    let (s, o, cbs) := s.doCreate info mask sh
    (s, .created o, cbs)

theorem step_create_eq_specCreateWith (s : WS) (t : Nat) (mask : Mask) (shared : List Nat) :
    s.step info (.create t mask shared) = specCreateWith info s t mask (shared.map (fun sid => (sid, 0))) := rfl

/-- the statement of `step_refines` for `.create`, for `create(Archetype&)`; `ssh` = any list of shared values that
reads like the archetype's descriptor -/
theorem createIn_refines_gen (hi : Inv c) (hb : Bounds c) (hr : Rel c s) (t ai : Nat)
    (ht : t < c.w.nthreads) (hai : ai < c.w.archs.length) (ssh : List (Nat × Nat))
    (hv : ∀ sid, lookupS ssh sid = lookupS (absShared c.w.pool (c.w.arch ai).shared) sid)
    (hb' : Bounds (c.createIn info t ai).1) :
    Inv (c.createIn info t ai).1 ∧
    Rel (c.createIn info t ai).1 (specCreateWith info s t (c.w.arch ai).mask ssh).1 ∧
    stepAgree (c.createIn info t ai).1 (.create t (c.w.arch ai).mask []) (c.createIn info t ai).2.1
      (c.createIn info t ai).2.2 (specCreateWith info s t (c.w.arch ai).mask ssh).2.1
      (specCreateWith info s t (c.w.arch ai).mask ssh).2.2 := by
  obtain ⟨w, iss⟩ := c
  have heq := createIn_eq_create info hi.keys t ai hai
  have hm : MaskOk (w.arch ai).mask := hi.keys.masks ai hai
  have hshin : SharedIn w.pool (w.arch ai).shared := hi.shared _ (arch_mem_archs hai)
  generalize hmdef : (w.arch ai).mask = mask at *
  generalize hshdef : (w.arch ai).shared = sh at *
  have hceq : CW.createIn info ⟨w, iss⟩ t ai =
      (⟨(w.create info t mask sh).1, iss ++ [(w.create info t mask sh).2.1]⟩, .created (w.create info t mask sh).2.1,
        (w.create info t mask sh).2.2) := by
    simp only [CW.createIn, heq, issueOut]
  rw [hceq] at hb' ⊢
  by_cases hl : w.isLocked = true
  · have hl' : 0 < w.lockDepth := (isLocked_iff w).mp hl
    obtain ⟨hi', hr', _⟩ := createLocked_core (w := w) (iss := iss) hi hr hl' t ht mask hm sh hshin ssh hv
    have hsl : s.lockDepth > 0 := by rw [hr.lockDepth]; exact hl'
    have hs : specCreateWith info s t mask ssh =
        (WS.push { s with ents := s.ents ++ [none] } t (.create s.ents.length mask ssh), .created s.ents.length, []) := by
      simp only [specCreateWith, hsl, if_true]
    rw [create_locked info w t mask sh hl, hs]
    refine ⟨hi', hr', ?_⟩
    rw [hr.len]
    exact agree_created _ _ _ _ rfl
  · have hl0 : w.isLocked = false := Bool.eq_false_iff.mpr hl
    have hnl := unlocked_spec (c := ⟨w, iss⟩) hr hl0
    obtain ⟨hi', hr', hout, hcbs⟩ :=
      create_unlocked_core info hi hb hr hl0 t mask hm sh hshin ssh hv (cbs := (w.create info t mask sh).2.2) hb' rfl
    have hs : specCreateWith info s t mask ssh =
        ((s.doCreate info mask ssh).1, .created (s.doCreate info mask ssh).2.1, (s.doCreate info mask ssh).2.2) := by
      simp only [specCreateWith, hnl, if_false]
    rw [hs]
    exact ⟨hi', hr', hout, by simpa only [isUnlockOp, Bool.false_eq_true, if_false] using hcbs⟩

/-- `create(Archetype&)` refines the spec creation with the archetype's component set and the values of its shared
components, in every state (locked or not, dependencies declared before or after the archetype came to exist) -/
theorem createIn_refines {c : CW} {s : WS} (hi : Inv c) (hb : Bounds c) (hr : Rel c s) (t ai : Nat)
    (ht : t < c.w.nthreads) (hai : ai < c.w.archs.length) (hb' : Bounds (c.createIn info t ai).1) :
    Inv (c.createIn info t ai).1 ∧
    Rel (c.createIn info t ai).1
      (specCreateWith info s t (c.w.arch ai).mask (absShared c.w.pool (c.w.arch ai).shared)).1 ∧
    stepAgree (c.createIn info t ai).1 (.create t (c.w.arch ai).mask []) (c.createIn info t ai).2.1
      (c.createIn info t ai).2.2
      (specCreateWith info s t (c.w.arch ai).mask (absShared c.w.pool (c.w.arch ai).shared)).2.1
      (specCreateWith info s t (c.w.arch ai).mask (absShared c.w.pool (c.w.arch ai).shared)).2.2 :=
  createIn_refines_gen info hi hb hr t ai ht hai _ (fun _ => rfl) hb'

/-- for an archetype without shared components the spec step is literally the operation `.create t mask []` -/
theorem createIn_refines_sharedfree (hi : Inv c) (hb : Bounds c) (hr : Rel c s) (t ai : Nat)
    (ht : t < c.w.nthreads) (hai : ai < c.w.archs.length) (hsf : (c.w.arch ai).shared = Shared.null)
    (hb' : Bounds (c.createIn info t ai).1) :
    Inv (c.createIn info t ai).1 ∧
    Rel (c.createIn info t ai).1 (s.step info (.create t (c.w.arch ai).mask [])).1 ∧
    stepAgree (c.createIn info t ai).1 (.create t (c.w.arch ai).mask []) (c.createIn info t ai).2.1
      (c.createIn info t ai).2.2 (s.step info (.create t (c.w.arch ai).mask [])).2.1
      (s.step info (.create t (c.w.arch ai).mask [])).2.2 := by
  rw [step_create_eq_specCreateWith]
  exact createIn_refines_gen info hi hb hr t ai ht hai _
    (fun sid => by rw [hsf]; rfl) hb'

end Mustache.Proofs.Refine
