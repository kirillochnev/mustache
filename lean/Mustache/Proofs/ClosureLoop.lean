import Mustache.Proofs.ClosureMask
/-! # The dependency closure loop (`getExtraComponents`) terminates within its fuel and computes the
least closed superset (C13, `closure_lfp`). No acyclicity hypothesis: chains, diamonds, cycles alike. -/
namespace Mustache.Model

/-- every stored dependency mask only mentions component ids below 128 (the width of `ComponentIdMask`) -/
def DepsBounded (deps : List (CompId × Mask)) : Prop := ∀ p ∈ deps, ∀ c ∈ p.2, c < 128

instance (deps : List (CompId × Mask)) : Decidable (DepsBounded deps) := by
  unfold DepsBounded; infer_instance

/-- `S` is closed under the dependency table: with a component it has all its stored dependents -/
def ClosedUnder (deps : List (CompId × Mask)) (S : List Nat) : Prop :=
  ∀ c ∈ S, ∀ d ∈ depsOf deps c, d ∈ S

instance (deps : List (CompId × Mask)) (S : List Nat) : Decidable (ClosedUnder deps S) := by
  unfold ClosedUnder; infer_instance

variable {deps : List (CompId × Mask)}

theorem depsOf_of_find {k : Nat} {p : Nat × List Nat}
    (h : deps.find? (·.1 == k) = some p) : depsOf deps k = p.2 := by
  unfold depsOf; rw [h]

theorem depsOf_of_find_none {k : Nat}
    (h : deps.find? (·.1 == k) = none) : depsOf deps k = [] := by
  unfold depsOf; rw [h]

theorem depsOf_mem_table {c d : Nat} (h : d ∈ depsOf deps c) :
    ∃ p ∈ deps, p.1 = c ∧ d ∈ p.2 := by
  cases hf : deps.find? (·.1 == c) with
  | none => rw [depsOf_of_find_none hf] at h; cases h
  | some p => exact ⟨p, (find?_fst_some hf).1, (find?_fst_some hf).2, depsOf_of_find hf ▸ h⟩

theorem depsOf_bounded (hb : DepsBounded deps) {c d : Nat}
    (h : d ∈ depsOf deps c) : d < 128 := by
  obtain ⟨p, hp, _, hd⟩ := depsOf_mem_table h
  exact hb p hp d hd

theorem depsOf_nil (c : Nat) : depsOf [] c = [] := rfl

theorem closureRound_nil (deps : List (CompId × Mask)) (r : List Nat) : closureRound deps r [] = r := rfl
theorem closureRound_cons (deps : List (CompId × Mask)) (r : List Nat) (c : Nat) (t : List Nat) :
    closureRound deps r (c :: t) = closureRound deps (Mask.union r (depsOf deps c)) t := rfl

theorem closureRound_eq_union (deps : List (CompId × Mask)) (r cur : List Nat) :
    closureRound deps r cur = Mask.union r (cur.flatMap (depsOf deps)) := by
  induction cur generalizing r with
  | nil => rfl
  | cons c t ih => rw [closureRound_cons, ih, List.flatMap_cons, Mask.union_append]

theorem mem_closureRound {r cur : List Nat} {x : Nat} :
    x ∈ closureRound deps r cur ↔ x ∈ r ∨ ∃ c ∈ cur, x ∈ depsOf deps c := by
  rw [closureRound_eq_union, Mask.mem_union, List.mem_flatMap]

theorem sorted_closureRound {r cur : List Nat} (h : Sorted r) :
    Sorted (closureRound deps r cur) :=
  closureRound_eq_union deps r cur ▸ Mask.sorted_union h

theorem grow_closureRound {r cur : List Nat} (h : Sorted r) :
    Grow r (closureRound deps r cur) :=
  closureRound_eq_union deps r cur ▸ Mask.grow_union h

theorem bounded_closureRound (hb : DepsBounded deps) {r cur : List Nat}
    (hr : ∀ x ∈ r, x < 128) : ∀ x ∈ closureRound deps r cur, x < 128 := by
  intro x hx
  rcases mem_closureRound.mp hx with h | ⟨c, _, h⟩
  · exact hr x h
  · exact depsOf_bounded hb h

theorem closureLoop_zero (deps : List (CompId × Mask)) (r cur : List Nat) : closureLoop deps 0 r cur = r := rfl
theorem closureLoop_succ (deps : List (CompId × Mask)) (fuel : Nat) (r cur : List Nat) :
    closureLoop deps (fuel + 1) r cur =
      if closureRound deps r cur = r then closureRound deps r cur
      else closureLoop deps fuel (closureRound deps r cur) (closureRound deps r cur) := by
  simp only [closureLoop, beq_iff_eq]

/-- soundness w.r.t. any closed superset, for any fuel (no bound needed) -/
theorem closureLoop_sub {S : List Nat} (hS : ClosedUnder deps S) :
    ∀ (fuel : Nat) (r cur : List Nat), (∀ x ∈ r, x ∈ S) → (∀ x ∈ cur, x ∈ S) →
      ∀ x ∈ closureLoop deps fuel r cur, x ∈ S := by
  intro fuel
  induction fuel with
  | zero => intro r cur hr _ x hx; exact hr x hx
  | succ n ih =>
    intro r cur hr hc
    have hround : ∀ x ∈ closureRound deps r cur, x ∈ S := by
      intro x hx
      rcases mem_closureRound.mp hx with h | ⟨c, hc', h⟩
      · exact hr x h
      · exact hS c (hc c hc') x h
    rw [closureLoop_succ]
    split
    · exact hround
    · exact ih _ _ hround hround

/-- what the loop establishes when the fuel covers the remaining head-room `128 - |result|` -/
structure LoopPost (deps : List (CompId × Mask)) (r cur R : List Nat) : Prop where
  sorted : Sorted R
  bounded : ∀ x ∈ R, x < 128
  incl : ∀ x ∈ r, x ∈ R
  first : ∀ c ∈ cur, ∀ d ∈ depsOf deps c, d ∈ R
  fix : closureRound deps R R = R

/-- A round that changes the sorted result makes it longer, and a sorted result within the mask width has at
    most 128 members: with `129 ≤ |result| + fuel` the loop stops at a fixpoint of the round before the fuel
    runs out, so more fuel changes nothing. -/
theorem closureLoop_enough (hb : DepsBounded deps) :
    ∀ (fuel : Nat) (r cur : List Nat), Sorted r → (∀ x ∈ r, x < 128) → (∀ x ∈ r, x ∈ cur) →
      129 ≤ r.length + fuel →
      LoopPost deps r cur (closureLoop deps fuel r cur) ∧
      ∀ k, closureLoop deps (fuel + k) r cur = closureLoop deps fuel r cur := by
  intro fuel
  induction fuel with
  | zero =>
    intro r cur hs hbr _ hf
    exact absurd (Nat.le_trans hf (sorted_length_le_128 hs hbr)) (by decide)
  | succ n ih =>
    intro r cur hs hbr hsub hf
    have hs' : Sorted (closureRound deps r cur) := sorted_closureRound hs
    have hb' := bounded_closureRound hb (cur := cur) hbr
    by_cases heq : closureRound deps r cur = r
    · refine ⟨?_, fun k => by rw [Nat.add_right_comm, closureLoop_succ, closureLoop_succ, if_pos heq, if_pos heq]⟩
      rw [closureLoop_succ, if_pos heq]
      refine ⟨hs', hb', fun x hx => by rw [heq]; exact hx, fun c hc d hd => mem_closureRound.mpr (Or.inr ⟨c, hc, hd⟩), ?_⟩
      rw [heq]
      refine sorted_ext (sorted_closureRound hs) hs fun x => ⟨fun hx => ?_, fun hx => mem_closureRound.mpr (Or.inl hx)⟩
      rcases mem_closureRound.mp hx with h | ⟨c, hc, h⟩
      · exact h
      · rw [← heq]; exact mem_closureRound.mpr (Or.inr ⟨c, hsub c hc, h⟩)
    · have hlen : r.length < (closureRound deps r cur).length :=
        (grow_closureRound (cur := cur) hs).resolve_left fun h => heq h.symm
      obtain ⟨post, hfuel⟩ := ih (closureRound deps r cur) (closureRound deps r cur) hs' hb' (fun _ h => h)
        (Nat.le_trans hf (by rw [Nat.add_comm n 1, ← Nat.add_assoc]; exact Nat.add_le_add_right hlen n))
      refine ⟨?_, fun k => by rw [Nat.add_right_comm, closureLoop_succ, closureLoop_succ, if_neg heq, if_neg heq, hfuel k]⟩
      rw [closureLoop_succ, if_neg heq]
      exact ⟨post.sorted, post.bounded, fun x hx => post.incl x (mem_closureRound.mpr (Or.inl hx)),
        fun c hc d hd => post.incl d (mem_closureRound.mpr (Or.inr ⟨c, hc, hd⟩)), post.fix⟩

theorem extraComponents_enough (hb : DepsBounded deps) (m : List Nat) :
    LoopPost deps [] m (closureLoop deps 130 [] m) ∧
      ∀ k, closureLoop deps (130 + k) [] m = closureLoop deps 130 [] m :=
  closureLoop_enough hb 130 [] m List.Pairwise.nil (fun _ h => nomatch h) (fun _ h => nomatch h) (Nat.le_add_left ..)

theorem extraComponents_post (hb : DepsBounded deps) (m : List Nat) :
    LoopPost deps [] m (extraComponents deps m) := by
  unfold extraComponents
  split
  · rename_i he
    have : deps = [] := List.isEmpty_iff.mp he
    subst this
    exact ⟨List.Pairwise.nil, fun _ h => (nomatch h), fun _ h => (nomatch h),
      fun _ _ d (h : d ∈ ([] : List Nat)) => (nomatch h), rfl⟩
  · exact (extraComponents_enough hb m).1

/-- the fuel 130 suffices: any larger fuel gives the same result -/
theorem extraComponents_fuel (hb : DepsBounded deps) (m : List Nat) (k : Nat) :
    closureLoop deps (130 + k) [] m = closureLoop deps 130 [] m :=
  (extraComponents_enough hb m).2 k

theorem extraComponents_closed (hb : DepsBounded deps) (m : List Nat) :
    ClosedUnder deps (extraComponents deps m) := by
  intro c hc d hd
  have post := extraComponents_post hb m
  rw [← post.fix]
  exact mem_closureRound.mpr (Or.inr ⟨c, hc, hd⟩)

theorem extraComponents_sub {S : List Nat} (hS : ClosedUnder deps S)
    {m : List Nat} (hm : ∀ x ∈ m, x ∈ S) : ∀ x ∈ extraComponents deps m, x ∈ S := by
  unfold extraComponents
  split
  · exact fun _ h => nomatch h
  · exact closureLoop_sub hS 130 [] m (fun _ h => nomatch h) hm

theorem closedMask_closed (hb : DepsBounded deps) (m : List Nat) :
    ClosedUnder deps (closedMask deps m) := by
  intro c hc d hd
  rcases mem_closedMask.mp hc with h | h
  · exact mem_closedMask.mpr (Or.inr ((extraComponents_post hb m).first c h d hd))
  · exact mem_closedMask.mpr (Or.inr (extraComponents_closed hb m c h d hd))

/-- leastness (needs no bound: the loop never leaves a closed superset) -/
theorem closedMask_least {S m : List Nat} (hS : ClosedUnder deps S)
    (hm : ∀ x ∈ m, x ∈ S) : ∀ x ∈ closedMask deps m, x ∈ S := by
  intro x hx
  rcases mem_closedMask.mp hx with h | h
  · exact hm x h
  · exact extraComponents_sub hS hm x h

theorem closedMask_mono (hb : DepsBounded deps) {m m' : List Nat}
    (h : ∀ x ∈ m, x ∈ m') : ∀ x ∈ closedMask deps m, x ∈ closedMask deps m' :=
  closedMask_least (closedMask_closed hb m') (fun x hx => subset_closedMask (h x hx))

theorem closedMask_eq_self {m : List Nat} (hs : Sorted m)
    (hc : ClosedUnder deps m) : closedMask deps m = m :=
  Mask.union_of_subset hs (extraComponents_sub hc (fun _ h => h))

theorem closedMask_idem (hb : DepsBounded deps) {m : List Nat} (hs : Sorted m) :
    closedMask deps (closedMask deps m) = closedMask deps m :=
  closedMask_eq_self (sorted_closedMask hs) (closedMask_closed hb m)

theorem closedMask_idem_mem (hb : DepsBounded deps) (m : List Nat) (x : Nat) :
    x ∈ closedMask deps (closedMask deps m) ↔ x ∈ closedMask deps m :=
  ⟨closedMask_least (closedMask_closed hb m) (fun _ h => h) x, subset_closedMask⟩

theorem closedMask_bounded {deps : List (CompId × Mask)} (hb : DepsBounded deps) {m : List Nat}
    (hm : ∀ x ∈ m, x < 128) : ∀ x ∈ closedMask deps m, x < 128 := by
  intro x hx
  rcases mem_closedMask.mp hx with h | h
  · exact hm x h
  · exact (extraComponents_post hb m).bounded x h

theorem closedMask_single_sub (hb : DepsBounded deps) {m : List Nat} {c : Nat}
    (hc : c ∈ closedMask deps m) : ∀ d ∈ closedMask deps [c], d ∈ closedMask deps m :=
  closedMask_least (closedMask_closed hb m) (fun _ hx => List.mem_singleton.mp hx ▸ hc)

theorem depsOf_sub_closedMask {deps : List (CompId × Mask)} (hb : DepsBounded deps) {c d : Nat}
    (h : d ∈ depsOf deps c) : d ∈ closedMask deps [c] :=
  closedMask_closed hb [c] c (subset_closedMask List.mem_cons_self) d h

end Mustache.Model
