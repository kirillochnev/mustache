import Mustache.Proofs.ListLookup
/-! # Masks as strictly ascending lists

Membership and sortedness of `insert`, `union`, `erase`, `diff`, `ofList`; two sorted masks with the same
members are the same list (`sorted_ext`), which turns every equation between masks into a statement about
members; `Grow` measures the progress of the closure loop. -/
namespace Mustache.Model

abbrev Sorted (m : List Nat) : Prop := m.Pairwise (· < ·)

theorem sorted_nodup {l : List Nat} (hs : Sorted l) : l.Nodup :=
  hs.imp (fun h => Nat.ne_of_lt h)

theorem sorted_ext {a b : List Nat} (ha : Sorted a) (hb : Sorted b) (h : ∀ x, x ∈ a ↔ x ∈ b) : a = b :=
  pairwise_ext (fun _ _ => Nat.lt_asymm) ha hb h

theorem sorted_length_le {l : List Nat} (hs : Sorted l) (lo hi : Nat)
    (hb : ∀ x ∈ l, lo ≤ x ∧ x < hi) : l.length ≤ hi - lo := by
  induction l generalizing lo with
  | nil => exact Nat.zero_le _
  | cons x xs ih =>
    have hx := List.pairwise_cons.mp hs
    have h1 := hb x List.mem_cons_self
    have := ih hx.2 (x + 1) (fun y hy => ⟨hx.1 y hy, (hb y (List.mem_cons_of_mem _ hy)).2⟩)
    refine Nat.le_sub_of_add_le (Nat.le_trans ?_ (Nat.add_le_of_le_sub h1.2 this))
    rw [List.length_cons, Nat.add_assoc, Nat.add_comm 1 lo]
    exact Nat.add_le_add_left (Nat.succ_le_succ h1.1) _

theorem sorted_length_le_128 {l : List Nat} (hs : Sorted l) (hb : ∀ x ∈ l, x < 128) : l.length ≤ 128 :=
  sorted_length_le hs 0 128 (fun x hx => ⟨Nat.zero_le _, hb x hx⟩)

theorem Mask.mem_insert {m : List Nat} {c x : Nat} : x ∈ Mask.insert m c ↔ x = c ∨ x ∈ m := by
  induction m with
  | nil => simp [Mask.insert]
  | cons a t ih =>
    unfold Mask.insert
    split
    · exact List.mem_cons
    · split
      · rename_i h; subst h
        exact ⟨Or.inr, fun h => h.elim (fun e => e ▸ List.mem_cons_self) id⟩
      · rw [List.mem_cons, ih, List.mem_cons]
        exact or_left_comm

theorem Mask.sorted_insert {m : List Nat} {c : Nat} (h : Sorted m) : Sorted (Mask.insert m c) := by
  induction m with
  | nil => exact List.pairwise_singleton _ _
  | cons a t ih =>
    have ha := List.pairwise_cons.mp h
    unfold Mask.insert
    split
    · rename_i hlt
      refine List.pairwise_cons.mpr ⟨fun y hy => ?_, h⟩
      rcases List.mem_cons.mp hy with rfl | hy
      · exact hlt
      · exact Nat.lt_trans hlt (ha.1 y hy)
    · split
      · exact h
      · rename_i h1 h2
        refine List.pairwise_cons.mpr ⟨fun y hy => ?_, ih ha.2⟩
        rcases Mask.mem_insert.mp hy with rfl | hy
        · exact Nat.lt_of_le_of_ne (Nat.le_of_not_lt h1) (fun e => h2 e.symm)
        · exact ha.1 y hy

theorem Mask.insert_of_mem {m : List Nat} {c : Nat} (h : Sorted m) (hc : c ∈ m) : Mask.insert m c = m :=
  sorted_ext (Mask.sorted_insert h) h fun _ => Mask.mem_insert.trans ⟨fun h => h.elim (· ▸ hc) id, Or.inr⟩

theorem Mask.length_insert_of_not_mem {m : List Nat} {c : Nat} (hc : c ∉ m) :
    (Mask.insert m c).length = m.length + 1 := by
  induction m with
  | nil => rfl
  | cons a t ih =>
    have hca : ¬ c = a := fun h => hc (h ▸ List.mem_cons_self)
    unfold Mask.insert
    split
    · rfl
    · simp only [List.length_cons, ih (fun h => hc (List.mem_cons_of_mem _ h))]

def Grow (a b : List Nat) : Prop := a = b ∨ a.length < b.length

theorem Grow.refl (a : List Nat) : Grow a a := Or.inl rfl
theorem Grow.trans {a b c : List Nat} (h1 : Grow a b) (h2 : Grow b c) : Grow a c := by
  rcases h1 with rfl | h1
  · exact h2
  · rcases h2 with rfl | h2
    · exact Or.inr h1
    · exact Or.inr (Nat.lt_trans h1 h2)
theorem Grow.length_le {a b : List Nat} (h : Grow a b) : a.length ≤ b.length := by
  rcases h with rfl | h
  · exact Nat.le_refl _
  · exact Nat.le_of_lt h

theorem Mask.grow_insert {m : List Nat} {c : Nat} (h : Sorted m) : Grow m (Mask.insert m c) := by
  by_cases hc : c ∈ m
  · exact Or.inl (Mask.insert_of_mem h hc).symm
  · exact Or.inr (by rw [Mask.length_insert_of_not_mem hc]; exact Nat.lt_succ_self _)

theorem Mask.union_nil (a : List Nat) : Mask.union a [] = a := rfl
theorem Mask.union_cons (a : List Nat) (c : Nat) (b : List Nat) :
    Mask.union a (c :: b) = Mask.union (Mask.insert a c) b := rfl

theorem Mask.union_append (a b c : List Nat) : Mask.union a (b ++ c) = Mask.union (Mask.union a b) c :=
  List.foldl_append

theorem Mask.mem_union {a b : List Nat} {x : Nat} : x ∈ Mask.union a b ↔ x ∈ a ∨ x ∈ b := by
  induction b generalizing a with
  | nil => exact (or_iff_left List.not_mem_nil).symm
  | cons c t ih =>
    rw [Mask.union_cons, ih, Mask.mem_insert, List.mem_cons, or_comm (a := x = c), or_assoc]

theorem Mask.sorted_union {a b : List Nat} (h : Sorted a) : Sorted (Mask.union a b) := by
  induction b generalizing a with
  | nil => exact h
  | cons c t ih => exact ih (Mask.sorted_insert h)

theorem Mask.grow_union {a b : List Nat} (h : Sorted a) : Grow a (Mask.union a b) := by
  induction b generalizing a with
  | nil => exact Grow.refl _
  | cons c t ih => exact (Mask.grow_insert h).trans (ih (Mask.sorted_insert h))

theorem Mask.union_of_subset {a b : List Nat} (h : Sorted a) (hb : ∀ x ∈ b, x ∈ a) : Mask.union a b = a :=
  sorted_ext (Mask.sorted_union h) h fun x => Mask.mem_union.trans ⟨fun h => h.elim id (hb x), Or.inl⟩

theorem Mask.mem_erase {m : List Nat} {c x : Nat} : x ∈ Mask.erase m c ↔ x ∈ m ∧ x ≠ c := by
  simp [Mask.erase]

theorem Mask.sorted_erase {m : List Nat} {c : Nat} (h : Sorted m) : Sorted (Mask.erase m c) :=
  List.Pairwise.filter _ h

theorem Mask.mem_diff {a b : List Nat} {x : Nat} : x ∈ Mask.diff a b ↔ x ∈ a ∧ x ∉ b := by
  simp [Mask.diff]

theorem Mask.sorted_diff {a b : List Nat} (h : Sorted a) : Sorted (Mask.diff a b) :=
  List.Pairwise.filter _ h

theorem Mask.ofList_eq (l : List Nat) : Mask.ofList l = Mask.union [] l := rfl

theorem Mask.mem_ofList {l : List Nat} {x : Nat} : x ∈ Mask.ofList l ↔ x ∈ l := by
  rw [Mask.ofList_eq, Mask.mem_union]; simp

theorem Mask.sorted_ofList (l : List Nat) : Sorted (Mask.ofList l) := by
  rw [Mask.ofList_eq]; exact Mask.sorted_union List.Pairwise.nil

theorem Mask.has_iff {m : List Nat} {c : Nat} : Mask.has m c = true ↔ c ∈ m := by
  simp [Mask.has]

theorem Mask.indexOf?_eq (m : List Nat) (c : Nat) : Mask.indexOf? m c = idx? m c := rfl

theorem Mask.indexOf?_eq_some {m : List Nat} {c : Nat} {i : Nat} (h : Mask.indexOf? m c = some i) :
    i < m.length ∧ m[i]? = some c :=
  idx?_eq_some h

theorem Mask.indexOf?_eq_none {m : List Nat} {c : Nat} : Mask.indexOf? m c = none ↔ c ∉ m :=
  idx?_eq_none

theorem mem_closedMask {deps : List (CompId × Mask)} {m : List Nat} {x : Nat} :
    x ∈ closedMask deps m ↔ x ∈ m ∨ x ∈ extraComponents deps m := Mask.mem_union

theorem subset_closedMask {deps : List (CompId × Mask)} {m : List Nat} {x : Nat} (h : x ∈ m) :
    x ∈ closedMask deps m := mem_closedMask.mpr (Or.inl h)

theorem sorted_closedMask {deps : List (CompId × Mask)} {m : List Nat} (h : Sorted m) :
    Sorted (closedMask deps m) := Mask.sorted_union h

end Mustache.Model
