import Mustache.Proofs.DispatcherReach

/-! Deadlock freedom of the dispatcher model. -/
namespace Mustache.Dispatcher

/-- actions that start a new API call of the external thread -/
def Action.isCall : Action → Bool
  | .createQueue _ => true
  | .setSingle _ => true
  | .submit _ => true
  | .submitInline => true
  | .waitBegin _ => true
  | .sdFlag => true
  | _ => false

/-- a progress action: neither a busy-wait iteration / spurious wake-up nor a new API call -/
def Progress (s : State) : Prop := ∃ a : Action, a.isSpin = false ∧ a.isCall = false ∧ (step s a).isSome = true

theorem Progress.of_step {s s' : State} {a : Action} (h : Step s a s') (h1 : a.isSpin = false) (h2 : a.isCall = false) :
    Progress s :=
  ⟨a, h1, h2, h.isSome⟩

theorem progress_of_worker {s : State} {th : Nat} {p : Pc} (hth : th ≠ 0) (hp : s.pcs[th]? = some p)
    (hsl : p ≠ .sleeping) (hex : p ≠ .exited) : Progress s := by
  cases p with
  | idle => exact .of_step (.scan hth hp) rfl rfl
  | woken => exact .of_step (.rescan hth hp) rfl rfl
  | running t q => exact .of_step (.taskEnd hp) rfl rfl
  | relock q => exact .of_step (.relock hp) rfl rfl
  | sleeping => exact absurd rfl hsl
  | exited => exact absurd rfl hex

theorem progress_of_locked {s : State} (hi : Inv s) {q : Nat} (hq : q ≠ 0) (hl : s.locked q = true) : Progress s := by
  rcases hi.c.locked_owner q hq hl with h | h
  · exact .of_step (.relock h) rfl rfl
  · exact .of_step (.taskEnd h) rfl rfl

theorem exists_worker_not {l : List Pc} {P : Pc → Prop} (h : ¬∀ th p, 1 ≤ th → l[th]? = some p → P p) :
    ∃ th p, th ≠ 0 ∧ l[th]? = some p ∧ ¬P p :=
  Classical.byContradiction fun hno => h fun th p h1 hp =>
    Classical.byContradiction fun hne => hno ⟨th, p, Nat.ne_of_gt h1, hp, hne⟩

theorem no_deadlock_inv {s : State} (hi : Inv s) (hm : s.mode ≠ .destroyed) : s.mode = .api ∨ Progress s := by
  have ⟨hA, hB, hC⟩ := hi
  cases hmode : s.mode with
  | api => exact Or.inl rfl
  | destroyed => exact absurd hmode hm
  | inline =>
    right
    rcases hB.ext.inline hmode with ⟨t, h⟩ | h
    · exact .of_step (.taskEnd h) rfl rfl
    · exact .of_step (.relock h) rfl rfl
  | waitLoop q =>
    right
    have hterm : s.terminate = false := hB.term_of hmode
    rcases hB.ext.wait q hmode with h | ⟨t, h⟩ | h
    · cases hj : s.jobs q with
      | nil => exact .of_step (.waitEmpty hmode h (Or.inr hj)) rfl rfl
      | cons t r =>
        cases hl : s.locked q
        · exact .of_step (.waitPop hmode h hterm hl hj) rfl rfl
        · have hq : q ≠ 0 := by intro e; rw [e, hC.par_unlocked] at hl; cases hl
          exact progress_of_locked hi hq hl
    · exact .of_step (.taskEnd h) rfl rfl
    · exact .of_step (.relock h) rfl rfl
  | spin q =>
    right
    have hterm : s.terminate = false := hB.term_of hmode
    have hext : s.pcs[0]? = some Pc.idle := hB.ext.idle (Or.inr (Or.inl ⟨q, hmode⟩))
    by_cases hq : q = 0
    · subst hq
      by_cases hall : ∀ th p, 1 ≤ th → s.pcs[th]? = some p → isWaiting p = true
      · have htw := (countP_isWaiting_eq_iff hA.len fun p hp => by cases hext.symm.trans hp; rfl).mpr hall
        exact .of_step (.spinExit hmode (fun _ => hC.tw_count.trans htw) (fun h => absurd rfl h)) rfl rfl
      · -- some worker is not waiting, nor (before `terminate`) gone
        obtain ⟨th, p, hth, hp, hw⟩ := exists_worker_not hall
        refine progress_of_worker hth hp (fun e => hw (e ▸ rfl)) fun e => ?_
        have := hB.exited_term th (e ▸ hp)
        rw [hterm] at this; cases this
    · cases hl : s.locked q
      · exact .of_step (.spinExit hmode (fun h => absurd h hq) (fun _ => hl)) rfl rfl
      · exact progress_of_locked hi hq hl
  | sdFlag => exact Or.inr (.of_step (.sdClear hmode) rfl rfl)
  | sdCleared => exact Or.inr (.of_step (.sdNotify hmode) rfl rfl)
  | joining =>
    right
    by_cases hall : ∀ th p, 1 ≤ th → s.pcs[th]? = some p → p = Pc.exited
    · exact .of_step (.sdJoin hmode ((allExited_iff s).mpr hall)) rfl rfl
    · obtain ⟨th, p, hth, hp, hne⟩ := exists_worker_not hall
      exact progress_of_worker hth hp (fun e => hB.join_awake (Or.inl hmode) th (e ▸ hp)) hne

end Mustache.Dispatcher
