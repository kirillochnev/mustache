import Mustache.Model.Layout
/-! Helper lemmas for C10: align-up arithmetic, the constructor's fold read recursively, the order of the columns
and of the slots inside a chunk. -/
namespace Mustache.Proofs.Layout
open Mustache.Model.Layout


theorem alignUp_dvd (off a : Nat) : a ∣ alignUp off a := Nat.dvd_mul_left _ _

theorem alignUp_mod (off a : Nat) : alignUp off a % a = 0 :=
  Nat.mod_eq_zero_of_dvd (alignUp_dvd off a)

theorem alignUp_ge (off a : Nat) (ha : 0 < a) : off ≤ alignUp off a := by
  have h := Nat.lt_mul_div_succ (off + a - 1) ha
  rw [Nat.mul_succ, Nat.mul_comm] at h
  exact Nat.le_of_add_le_add_right (Nat.le_of_pred_lt h)

theorem alignUp_lt (off a : Nat) (ha : 0 < a) : alignUp off a < off + a :=
  Nat.lt_of_le_of_lt (Nat.div_mul_le_self _ _) (Nat.sub_lt (Nat.add_pos_right _ ha) Nat.one_pos)

theorem alignUp_unique (off a r : Nat) (ha : 0 < a) (hd : a ∣ r) (h1 : off ≤ r) (h2 : r < off + a) :
    r = alignUp off a := by
  obtain ⟨k, rfl⟩ := hd
  rw [Nat.mul_comm] at h1 h2 ⊢
  have hi : off + a - 1 < (k + 1) * a := by
    rw [Nat.succ_mul]
    exact Nat.lt_of_lt_of_le (Nat.sub_lt (Nat.add_pos_right _ ha) Nat.one_pos) (Nat.add_le_add_right h1 a)
  unfold alignUp
  rw [Nat.div_eq_of_lt_le (Nat.le_sub_one_of_lt h2) hi]

theorem alignUp_of_dvd (off a : Nat) (ha : 0 < a) (hd : a ∣ off) : alignUp off a = off :=
  (alignUp_unique off a off ha hd (Nat.le_refl _) (Nat.lt_add_of_pos_right ha)).symm

theorem roundChunk_ge (e a : Nat) (ha : 0 < a) : e ≤ roundChunk e a := by
  have h := alignUp_ge e a ha
  unfold roundChunk
  split
  · rename_i h0
    exact Nat.le_trans (h0 ▸ h) (Nat.zero_le a)
  · exact h

theorem roundChunk_dvd (e a : Nat) : a ∣ roundChunk e a := by
  unfold roundChunk
  split
  · exact Nat.dvd_refl _
  · exact alignUp_dvd e a

theorem roundChunk_pos (e a : Nat) (ha : 0 < a) : 0 < roundChunk e a := by
  unfold roundChunk
  split
  · exact ha
  · exact Nat.pos_of_ne_zero ‹_›


/-- every alignment is positive (`alignof` of a C++ type; a run-time described component must say so) -/
def WF (cs : List Comp) : Prop := ∀ c ∈ cs, 0 < c.align

/-- `sizeof(T) % alignof(T) = 0` -/
def Strided (cs : List Comp) : Prop := ∀ c ∈ cs, c.align ∣ c.size

def IsPow2 (a : Nat) : Prop := ∃ k, a = 2 ^ k

def sizeAt (cs : List Comp) (i : Nat) : Nat := (cs.getD i ⟨0, 0⟩).size
def alignAt (cs : List Comp) (i : Nat) : Nat := (cs.getD i ⟨0, 0⟩).align

@[simp] theorem sizeAt_zero (c : Comp) (cs : List Comp) : sizeAt (c :: cs) 0 = c.size := rfl
@[simp] theorem sizeAt_succ (c : Comp) (cs : List Comp) (i : Nat) : sizeAt (c :: cs) (i + 1) = sizeAt cs i := rfl
@[simp] theorem alignAt_zero (c : Comp) (cs : List Comp) : alignAt (c :: cs) 0 = c.align := rfl
@[simp] theorem alignAt_succ (c : Comp) (cs : List Comp) (i : Nat) : alignAt (c :: cs) (i + 1) = alignAt cs i := rfl

theorem WF.tail {c : Comp} {cs : List Comp} (h : WF (c :: cs)) : WF cs :=
  fun x hx => h x (List.mem_cons_of_mem _ hx)
theorem WF.head {c : Comp} {cs : List Comp} (h : WF (c :: cs)) : 0 < c.align := h c (List.mem_cons_self)

theorem getD_mem (cs : List Comp) (i : Nat) (hi : i < cs.length) : cs.getD i ⟨0, 0⟩ ∈ cs := by
  rw [List.getD_eq_getElem?_getD, List.getElem?_eq_getElem hi]
  exact List.getElem_mem hi

theorem alignAt_pos {cs : List Comp} (h : WF cs) {i : Nat} (hi : i < cs.length) : 0 < alignAt cs i :=
  h _ (getD_mem cs i hi)

theorem strided_at {cs : List Comp} (h : Strided cs) {i : Nat} (hi : i < cs.length) : alignAt cs i ∣ sizeAt cs i :=
  h _ (getD_mem cs i hi)


def caOf (rule : Rule) (cap : Nat) (e ca : Nat) (cs : List Comp) : Nat :=
  match rule with
  | .first => firstAlign cap e ca cs
  | .largest => cs.foldl (fun m c => max m c.align) ca

theorem foldl_step (rule : Rule) (cap : Nat) (cs : List Comp) (b : Build) :
    cs.foldl (step rule cap) b =
      ⟨endOf cap b.offset cs, caOf rule cap b.offset b.chunkAlign cs, b.getters ++ colsFrom cap b.offset cs⟩ := by
  induction cs generalizing b with
  | nil => cases rule <;> simp [endOf, colsFrom, caOf, firstAlign]
  | cons c cs ih =>
    rw [List.foldl_cons, ih]
    cases rule <;> simp [step, endOf, colsFrom, caOf, firstAlign]

theorem build_eq (rule : Rule) (cap : Nat) (cs : List Comp) :
    build rule cap cs = ⟨endOf cap 0 cs, caOf rule cap 0 0 cs, colsFrom cap 0 cs⟩ := by
  unfold build; rw [foldl_step]; simp [Build.init]

theorem layout_eq (rule : Rule) (cap : Nat) (cs : List Comp) :
    layout rule cap cs = ⟨cap, colsFrom cap 0 cs,
      if cs.isEmpty then 0 else roundChunk (endOf cap 0 cs) (caOf rule cap 0 0 cs), caOf rule cap 0 0 cs⟩ := by
  rw [layout, build_eq]

theorem colsFrom_length (cap e : Nat) (cs : List Comp) : (colsFrom cap e cs).length = cs.length := by
  induction cs generalizing e with
  | nil => rfl
  | cons c cs ih => exact congrArg (· + 1) (ih _)

theorem colsFrom_get (cap e : Nat) (cs : List Comp) (i : Nat) (hi : i < cs.length) :
    (colsFrom cap e cs)[i]? = some ⟨offsetOf cap e cs i, sizeAt cs i⟩ := by
  induction cs generalizing e i with
  | nil => exact absurd hi (Nat.not_lt_zero _)
  | cons c cs ih =>
    cases i with
    | zero => rfl
    | succ n => exact ih _ n (Nat.lt_of_succ_lt_succ hi)

section
variable (cap e : Nat) (cs : List Comp)

theorem endOf_ge (h : WF cs) : e ≤ endOf cap e cs := by
  induction cs generalizing e with
  | nil => exact Nat.le_refl _
  | cons c cs ih =>
    exact Nat.le_trans (Nat.le_trans (alignUp_ge e c.align h.head) (Nat.le_add_right _ _)) (ih _ h.tail)

theorem offsetOf_dvd (i : Nat) (hi : i < cs.length) :
    alignAt cs i ∣ offsetOf cap e cs i := by
  induction cs generalizing e i with
  | nil => exact absurd hi (Nat.not_lt_zero _)
  | cons c cs ih =>
    cases i with
    | zero => exact alignUp_dvd e c.align
    | succ n => exact ih _ n (Nat.lt_of_succ_lt_succ hi)

theorem col_order (h : WF cs) (i : Nat) (hi : i < cs.length) :
    e ≤ offsetOf cap e cs i ∧ offsetOf cap e cs i + cap * sizeAt cs i ≤ endOf cap e cs ∧
    ∀ i', i < i' → i' < cs.length → offsetOf cap e cs i + cap * sizeAt cs i ≤ offsetOf cap e cs i' := by
  induction cs generalizing e i with
  | nil => exact absurd hi (Nat.not_lt_zero _)
  | cons c cs ih =>
    have a := alignUp_ge e c.align h.head
    cases i with
    | zero =>
      refine ⟨a, endOf_ge cap _ cs h.tail, fun i' hlt hi' => ?_⟩
      cases i' with
      | zero => exact absurd hlt (Nat.lt_irrefl _)
      | succ m => exact (ih _ h.tail m (Nat.lt_of_succ_lt_succ hi')).1
    | succ n =>
      have r := ih (alignUp e c.align + cap * c.size) h.tail n (Nat.lt_of_succ_lt_succ hi)
      refine ⟨Nat.le_trans (Nat.le_trans a (Nat.le_add_right _ _)) r.1, r.2.1, fun i' hlt hi' => ?_⟩
      cases i' with
      | zero => exact absurd hlt (Nat.not_lt_zero _)
      | succ m => exact r.2.2 m (Nat.lt_of_succ_lt_succ hlt) (Nat.lt_of_succ_lt_succ hi')

theorem col_before (h : WF cs) (i i' : Nat) (hlt : i < i') (hi : i' < cs.length) :
    offsetOf cap e cs i + cap * sizeAt cs i ≤ offsetOf cap e cs i' :=
  (col_order cap e cs h i (Nat.lt_trans hlt hi)).2.2 i' hlt hi

theorem col_end (h : WF cs) (i : Nat) (hi : i < cs.length) :
    offsetOf cap e cs i + cap * sizeAt cs i ≤ endOf cap e cs :=
  (col_order cap e cs h i hi).2.1

end


theorem pow2_max {a b : Nat} (ha : IsPow2 a) (hb : IsPow2 b) : IsPow2 (max a b) ∧ a ∣ max a b ∧ b ∣ max a b := by
  rcases ha with ⟨k, rfl⟩
  rcases hb with ⟨l, rfl⟩
  rcases Nat.le_total k l with h | h
  · rw [Nat.max_eq_right (Nat.pow_le_pow_right (by decide) h)]
    exact ⟨⟨l, rfl⟩, Nat.pow_dvd_pow 2 h, Nat.dvd_refl _⟩
  · rw [Nat.max_eq_left (Nat.pow_le_pow_right (by decide) h)]
    exact ⟨⟨k, rfl⟩, Nat.dvd_refl _, Nat.pow_dvd_pow 2 h⟩

theorem foldmax_pow2 (cs : List Comp) (m : Nat) (hm : IsPow2 m) (h : ∀ c ∈ cs, IsPow2 c.align) :
    IsPow2 (cs.foldl (fun m c => max m c.align) m) ∧ m ∣ cs.foldl (fun m c => max m c.align) m ∧
    ∀ c ∈ cs, c.align ∣ cs.foldl (fun m c => max m c.align) m := by
  induction cs generalizing m with
  | nil => exact ⟨hm, Nat.dvd_refl _, fun _ hc => absurd hc List.not_mem_nil⟩
  | cons c cs ih =>
    obtain ⟨hc, hcs⟩ := List.forall_mem_cons.mp h
    have p := pow2_max hm hc
    have r := ih (max m c.align) p.1 hcs
    exact ⟨r.1, Nat.dvd_trans p.2.1 r.2.1, List.forall_mem_cons.mpr ⟨Nat.dvd_trans p.2.2 r.2.1, r.2.2⟩⟩

theorem maxAlign_dvd (cs : List Comp) (h : ∀ c ∈ cs, IsPow2 c.align) : ∀ c ∈ cs, c.align ∣ maxAlign cs := by
  cases cs with
  | nil => exact fun _ hc => absurd hc List.not_mem_nil
  | cons c cs =>
    obtain ⟨hc, hcs⟩ := List.forall_mem_cons.mp h
    have r := foldmax_pow2 cs c.align hc hcs
    rw [maxAlign, List.foldl_cons, Nat.zero_max]
    exact List.forall_mem_cons.mpr ⟨r.2.1, r.2.2⟩

theorem pow2_pos {a : Nat} (h : IsPow2 a) : 0 < a :=
  let ⟨_, hk⟩ := h; hk ▸ Nat.pow_pos Nat.two_pos

section
variable (cap : Nat) (cs : List Comp)

theorem rel_eq (i k : Nat) :
    rel cap cs i k = offsetOf cap 0 cs i + k * sizeAt cs i := rfl

/-- consecutive slots of a column do not overlap; with `k' = cap`, the last slot ends with the column -/
theorem slots_apart (s : Nat) {k k' : Nat} (h : k < k') : k * s + s ≤ k' * s := by
  rw [← Nat.succ_mul]; exact Nat.mul_le_mul_right s h

theorem rel_end (i : Nat) {k : Nat} (hk : k < cap) :
    rel cap cs i k + sizeAt cs i ≤ offsetOf cap 0 cs i + cap * sizeAt cs i := by
  rw [rel_eq, Nat.add_assoc]
  exact Nat.add_le_add_left (slots_apart _ hk) _

theorem rel_in_chunk (ca : Nat) (h : WF cs) (hca : 0 < ca) (i k : Nat)
    (hi : i < cs.length) (hk : k < cap) : rel cap cs i k + sizeAt cs i ≤ chunkSizeOf cap cs ca :=
  Nat.le_trans (rel_end cap cs i hk) (Nat.le_trans (col_end cap 0 cs h i hi) (roundChunk_ge _ _ hca))

theorem rel_before (h : WF cs) {i i' : Nat} (k k' : Nat) (hlt : i < i')
    (hi' : i' < cs.length) (hk : k < cap) : rel cap cs i k + sizeAt cs i ≤ rel cap cs i' k' :=
  Nat.le_trans (rel_end cap cs i hk) (Nat.le_trans (col_before cap 0 cs h i i' hlt hi') (Nat.le_add_right _ _))

end

end Mustache.Proofs.Layout
