import Mustache.Proofs.DispatcherReach

/-! What holds when the final spin of `wait` sees its exit condition (shared by C08 and C06). -/
namespace Mustache.Dispatcher

theorem step_spinExit {s s' : State} {q : Nat} (hm : s.mode = .spin q) (hs : step s .spinExit = some s') :
    (q = 0 → s.tw = s.n) ∧ (q ≠ 0 → s.locked q = false) ∧ s' = { s with mode := .api, synced := syncedAfter s q } := by
  cases step_iff.mp hs with
  | spinExit hm' hw hl =>
    cases hm.symm.trans hm'
    exact ⟨hw, hl, rfl⟩

/-- In the final spin of `wait(q)`, once the exit condition reads true: every task submitted to `q` before the
call is done, for the parallel queue every worker is idle (asleep or about to re-check), and the waiter itself
runs nothing. -/
theorem wait_exit_ready {n : Nat} {s : State} {q : Nat} (hr : Reachable n s) (hm : s.mode = .spin q)
    (hw : q = 0 → s.tw = s.n) (hl : q ≠ 0 → s.locked q = false) :
    (∀ t, t < s.waitSnap → s.tq t = q → t ∈ s.done) ∧
    (q = 0 → ∀ th, 1 ≤ th → th ≤ n → ∃ p, s.pcs[th]? = some p ∧ isWaiting p = true) ∧
    s.pcs[0]? = some Pc.idle := by
  have hn := reachable_n hr
  obtain ⟨hA, hB, hC⟩ := reachable_inv hr
  have hext : s.pcs[0]? = some Pc.idle := hB.ext.idle (Or.inr (Or.inl ⟨q, hm⟩))
  have hterm : s.terminate = false := hB.term_of hm
  have hall : q = 0 → ∀ th p, 1 ≤ th → s.pcs[th]? = some p → isWaiting p = true := fun hq0 =>
    (countP_isWaiting_eq_iff hA.len fun p hp => by cases hext.symm.trans hp; rfl).mp (hC.tw_count.symm.trans (hw hq0))
  refine ⟨fun t ht htq => ?_, fun hq0 th h1 h2 => ?_, hext⟩
  · rcases hA.cover t ((hB.wait_q q (Or.inr hm)).2 ▸ ht) with ⟨q', hq'⟩ | hst | hd
    · -- still pending: but the queue is empty
      have : q' = q := by rw [← hA.jobs_tq q' t hq', htq]
      subst this
      rw [hB.spin_empty q' hm] at hq'
      cases hq'
    · rcases hA.started_cases t hst with hd | hrun
      · exact hd
      · -- still running: on a waiting thread (parallel queue), or with the queue marked idle (serial queue)
        exfalso
        rw [htq] at hrun
        by_cases hq0 : q = 0
        · by_cases hth : s.runner t = 0
          · rw [hth, hext] at hrun; cases hrun
          · cases hall hq0 _ _ (Nat.pos_of_ne_zero hth) hrun
        · have := (hC.hold_run q _ t hq0 hrun).1
          rw [hl hq0] at this
          cases this
    · rw [hA.dropped_term hterm] at hd
      cases hd
  · have hlt : th < s.pcs.length := by rw [hA.len, hn]; exact Nat.lt_succ_of_le h2
    exact ⟨_, List.getElem?_eq_getElem hlt, hall hq0 th _ h1 (List.getElem?_eq_getElem hlt)⟩

end Mustache.Dispatcher
