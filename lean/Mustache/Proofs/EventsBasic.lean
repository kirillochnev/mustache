import Mustache.Model.Events
/-!
List-level lemmas behind C15: the process-global registry (`idOf`, `register`) and the slot table of
one manager (`resize`, `ensureSlot`, `slotList`). `ensureSlot_eq` puts `ensureSlot` in closed form; the
other facts about it are read off that.
-/
namespace Mustache.Proofs.Events
open Mustache.Model.Events

section
-- The qualified name, because a bare `TypeName` could also be the class of that name in core, and Lean
-- elaborates both readings at every use.
variable {ids : List Model.Events.TypeName} {T T' : Model.Events.TypeName} {i : Nat}

theorem idOf_eq_idxOf? : idOf ids T = ids.idxOf? T := by
  induction ids with
  | nil => rfl
  | cons x xs ih => simp only [idOf, List.idxOf?_cons, ih, beq_iff_eq]

theorem idOf_append {ids' : List Model.Events.TypeName} :
    idOf (ids ++ ids') T = (idOf ids T).or ((idOf ids' T).map (· + ids.length)) := by
  simp only [idOf_eq_idxOf?, List.idxOf?, List.findIdx?_append]

theorem idOf_singleton : idOf [T] T' = if T = T' then some 0 else none := rfl

theorem idOf_some_get (h : idOf ids T = some i) : ids[i]? = some T := by
  rw [idOf_eq_idxOf?, List.idxOf?_eq_some_iff] at h
  rcases h with ⟨hlt, hi, _⟩
  rw [List.getElem?_eq_getElem hlt, hi]

theorem idOf_some_lt (h : idOf ids T = some i) : i < ids.length :=
  (List.getElem?_eq_some_iff.mp (idOf_some_get h)).1

theorem idOf_inj (h : idOf ids T = some i) (h' : idOf ids T' = some i) : T = T' :=
  Option.some.inj ((idOf_some_get h).symm.trans (idOf_some_get h'))

variable (ids T T')

theorem register_cases :
    (∃ i, idOf ids T = some i ∧ register ids T = (ids, i)) ∨
    (idOf ids T = none ∧ register ids T = (ids ++ [T], ids.length)) := by
  unfold register
  cases idOf ids T with
  | some i => exact Or.inl ⟨i, rfl, rfl⟩
  | none => exact Or.inr ⟨rfl, rfl⟩

theorem idOf_register :
    idOf (register ids T).1 T' = if T' = T then some (register ids T).2 else idOf ids T' := by
  by_cases h : T' = T
  · rw [if_pos h, h]
    rcases register_cases ids T with ⟨i, hi, hr⟩ | ⟨hn, hr⟩
    · rw [hr]; exact hi
    · rw [hr, idOf_append, hn, idOf_singleton, if_pos rfl]; exact congrArg some (Nat.zero_add _)
  · rw [if_neg h]
    rcases register_cases ids T with ⟨i, _, hr⟩ | ⟨_, hr⟩
    · rw [hr]
    · rw [hr, idOf_append, idOf_singleton, if_neg (Ne.symm h)]; exact Option.or_none

theorem register_idOf : idOf (register ids T).1 T = some (register ids T).2 := by
  rw [idOf_register, if_pos rfl]

theorem register_id_lt : (register ids T).2 < (register ids T).1.length :=
  idOf_some_lt (register_idOf ids T)

theorem register_length_le : ids.length ≤ (register ids T).1.length := by
  rcases register_cases ids T with ⟨i, _, hr⟩ | ⟨_, hr⟩
  · rw [hr]; exact Nat.le_refl _
  · rw [hr, List.length_append]; exact Nat.le_add_right _ _

variable {ids T T'}

theorem register_stable (h : idOf ids T' = some i) : idOf (register ids T).1 T' = some i := by
  rcases register_cases ids T with ⟨_, _, hr⟩ | ⟨_, hr⟩
  · rw [hr]; exact h
  · rw [hr, idOf_append, h]; rfl

theorem register_id_ne (hne : T' ≠ T) (h : idOf ids T' = some i) : i ≠ (register ids T).2 :=
  fun e => hne (idOf_inj (register_stable h) (e ▸ register_idOf ids T))

end

section
variable {sl : Slots} {id j : Nat}

theorem slotList_of_getElem? {l : List Rcv} (h : sl[j]? = some (some l)) : slotList sl j = l := by
  unfold slotList; rw [h]

theorem slotList_of_length_le (h : sl.length ≤ j) : slotList sl j = [] := by
  unfold slotList
  rw [List.getElem?_eq_none h]

theorem slotList_set_self {l : List Rcv} (h : id < sl.length) : slotList (sl.set id (some l)) id = l :=
  slotList_of_getElem? (List.getElem?_set_self h)

theorem slotList_set_ne {l : List Rcv} (h : j ≠ id) : slotList (sl.set id (some l)) j = slotList sl j := by
  unfold slotList; rw [List.getElem?_set_ne (Ne.symm h)]

/-- without the guard `has`, `resize` would truncate; under the guard it only appends nulls -/
theorem resize_of_le {n : Nat} (h : sl.length ≤ n) :
    resize sl n = sl ++ List.replicate (n - sl.length) none := by
  unfold resize
  rw [List.take_of_length_le h]

theorem slotList_append_replicate {n : Nat} :
    slotList (sl ++ List.replicate n none) j = slotList sl j := by
  unfold slotList
  by_cases h : j < sl.length
  · rw [List.getElem?_append_left h]
  · have hle := Nat.le_of_not_lt h
    rw [List.getElem?_append_right hle, List.getElem?_replicate, List.getElem?_eq_none hle]
    by_cases h2 : j - sl.length < n
    · rw [if_pos h2]
    · rw [if_neg h2]

theorem ensureSlot_eq :
    ensureSlot sl id =
      List.set (sl ++ List.replicate (id + 1 - sl.length) none) id (some (slotList sl id)) := by
  unfold ensureSlot has slotList
  by_cases h : id < sl.length
  · rw [Nat.sub_eq_zero_of_le h, List.replicate_zero, List.append_nil, if_pos (decide_eq_true h)]
    dsimp only
    rw [List.getElem?_eq_getElem h]
    cases hs : sl[id] with
    | none => rfl
    | some l => exact (hs ▸ List.set_getElem_self h).symm
  · have hle : sl.length ≤ id := Nat.le_of_not_lt h
    rw [if_neg (mt of_decide_eq_true h), resize_of_le (Nat.le_succ_of_le hle)]
    dsimp only
    rw [List.getElem?_append_right hle,
      List.getElem?_replicate_of_lt (Nat.sub_lt_sub_right hle (Nat.lt_succ_self id)),
      List.getElem?_eq_none hle]

theorem ensureSlot_length : (ensureSlot sl id).length = max sl.length (id + 1) := by
  rw [ensureSlot_eq, List.length_set, List.length_append, List.length_replicate, Nat.add_comm,
    Nat.sub_add_eq_max, Nat.max_comm]

theorem ensureSlot_length_ge : sl.length ≤ (ensureSlot sl id).length := by
  rw [ensureSlot_length]; exact Nat.le_max_left _ _

theorem ensureSlot_id_lt : id < (ensureSlot sl id).length := by
  rw [ensureSlot_length]; exact Nat.lt_of_lt_of_le (Nat.lt_succ_self id) (Nat.le_max_right _ _)

/-- This is what makes `subscriptions_[id]->…` right after `registerEventType<T>()` defined. -/
theorem ensureSlot_self : (ensureSlot sl id)[id]? = some (some (slotList sl id)) := by
  have h : id < (ensureSlot sl id).length := ensureSlot_id_lt
  rw [ensureSlot_eq] at h ⊢
  rw [List.length_set] at h
  exact List.getElem?_set_self h

theorem slotList_ensureSlot : slotList (ensureSlot sl id) j = slotList sl j := by
  by_cases hne : j = id
  · rw [hne]; exact slotList_of_getElem? ensureSlot_self
  · rw [ensureSlot_eq, slotList_set_ne hne, slotList_append_replicate]

theorem ensureSlot_other (hne : j ≠ id) (hj : j < sl.length) : (ensureSlot sl id)[j]? = sl[j]? := by
  rw [ensureSlot_eq, List.getElem?_set_ne (Ne.symm hne), List.getElem?_append_left hj]

theorem ensureSlot_keeps {l : List Rcv} (h : sl[j]? = some (some l)) : (ensureSlot sl id)[j]? = some (some l) := by
  by_cases hne : j = id
  · rw [hne, ensureSlot_self, ← hne, slotList_of_getElem? h]
  · rw [ensureSlot_other hne (List.getElem?_eq_some_iff.mp h).1]; exact h

theorem set_ensureSlot_keeps {l : List Rcv} (x : List Rcv) (h : sl[j]? = some (some l)) :
    ∃ l', ((ensureSlot sl id).set id (some x))[j]? = some (some l') := by
  by_cases hj : id = j
  · exact ⟨x, hj ▸ List.getElem?_set_self ensureSlot_id_lt⟩
  · exact ⟨l, (List.getElem?_set_ne hj).trans (ensureSlot_keeps h)⟩

end

end Mustache.Proofs.Events
