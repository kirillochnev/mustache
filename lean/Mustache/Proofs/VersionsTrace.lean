import Mustache.Proofs.VersionsInv
import Mustache.Spec.Versions
/-!
# What persists along a history: job masks, the ghost `pending` (C07), quiescence (C11)

* The masks of the jobs never change; `pending j e c` survives every operation except a run of `j`.
* `QuietS s j`: no checked stamp of a chunk that `j`'s constant filters accept is newer than `j`'s last run.
  It holds after every run of `j`, is preserved by every operation that does not write `j`'s checked
  components, and makes a run of a version-filtered `j` select nothing.
-/
namespace Mustache.Versions


def Keeps (s s' : State) : Prop :=
  s'.jobs = s.jobs ∧ ∀ j e c, s.pending j e c = true → s'.pending j e c = true

theorem Keeps.rfl {s : State} : Keeps s s := ⟨.refl _, fun _ _ _ => id⟩

theorem Keeps.trans {s s' s'' : State} (h : Keeps s s') (h' : Keeps s' s'') : Keeps s s'' :=
  ⟨h'.1.trans h.1, fun j e c hp => h'.2 j e c (h.2 j e c hp)⟩

theorem writeAt_keeps (s : State) (ai i e c : Nat) : Keeps s (s.writeAt ai i e c) := by
  unfold State.writeAt
  split
  · exact .rfl
  · exact ⟨rfl, fun _ _ _ hp => ite_eq_left_iff.mpr fun _ => hp⟩

theorem arrive_keeps (s : State) (ai e : Nat) : Keeps s (s.arrive ai e) := by
  unfold State.arrive
  split
  · exact .rfl
  · exact ⟨rfl, fun _ _ _ hp => ite_eq_left_iff.mpr fun _ => hp⟩

theorem depart_keeps (s : State) (ai i : Nat) : Keeps s (s.depart ai i) := by
  unfold State.depart
  split
  · exact .rfl
  · exact ⟨rfl, fun _ _ _ hp => ite_eq_left_iff.mpr fun _ => hp⟩

theorem getArch_keeps {s s1 : State} {m : List Comp} {aj : Nat} (hg : s.getArch m = .ok (s1, aj)) :
    Keeps s s1 := by
  rcases getArchClosed_ok hg with ⟨rfl, _⟩ | ⟨_, _, _, _, rfl⟩ <;> exact .rfl

theorem set_map_specOf {jobs : List Job} {j : Nat} {J J' : Job} (hj : jobs[j]? = some J)
    (hs : specOf J' = specOf J) : (jobs.set j J').map specOf = jobs.map specOf := by
  apply List.ext_getElem?
  intro n
  rw [List.getElem?_map, List.getElem?_map, List.getElem?_set]
  by_cases hn : j = n
  · rw [if_pos hn, if_pos (getElem?_lt hj), ← hn, hj, Option.map_some, Option.map_some, hs]
  · rw [if_neg hn]

/-- Every operation keeps the masks of the jobs, and `pending j e c` is cleared by nothing but a run of `j`:
a run changes the `last` of its job and clears what that job processed; every other operation is composed of
steps that `Keeps`. -/
theorem step_keeps (s : State) (op : Op) :
    (s.step op).1.jobs.map specOf = s.jobs.map specOf ∧
      ∀ j e c, op ≠ .run j → s.pending j e c = true → (s.step op).1.pending j e c = true := by
  have keeps : ∀ {s'}, Keeps s s' → s'.jobs.map specOf = s.jobs.map specOf ∧
      ∀ j e c, op ≠ .run j → s.pending j e c = true → s'.pending j e c = true :=
    fun k => ⟨congrArg _ k.1, fun j e c _ => k.2 j e c⟩
  refine step_cases s op (keeps .rfl) (keeps .rfl) (fun k hop => ?_)
    (fun ai i a e c _ _ => keeps (writeAt_keeps ..)) (fun m s1 aj hg => keeps (getArch_keeps hg))
    (fun m s1 ai hg => keeps ((getArch_keeps hg).trans (arrive_keeps ..)))
    (fun ai i a e m s1 aj _ _ hg _ =>
      keeps (((getArch_keeps hg).trans (depart_keeps ..)).trans (arrive_keeps ..)))
    (fun ai i a e _ _ => keeps (depart_keeps ..)) (fun d f g _ => keeps .rfl)
  cases hk : s.jobs[k]? with
  | none => rw [jobRun_none hk]; exact keeps .rfl
  | some K =>
    refine ⟨?_, fun j e c hne hp => ?_⟩
    · rw [jobRun_eq hk]
      show (if _ then _ else _ : List Job).map specOf = _
      split
      · exact set_map_specOf hk rfl
      · rfl
    · rw [jobRun_pending hk, if_neg fun hjk : j = k => hne (hjk ▸ hop), hp, Bool.true_or, ite_self]

theorem exec_specs (s : State) (ops : List Op) : (s.exec ops).jobs.map specOf = s.jobs.map specOf :=
  exec_induction (P := fun s' => s'.jobs.map specOf = s.jobs.map specOf) ops rfl
    fun s' op _ h => (step_keeps s' op).1.trans h

theorem run_specs (cfg : Config) (ops : List Op) : (run cfg ops).jobs.map specOf = cfg.jobs := by
  unfold run
  rw [exec_specs, init, List.map_map]
  exact (List.map_congr_left fun sp _ => rfl).trans (List.map_id _)

theorem spec_of_job {s : State} {specs : List JobSpec} (hs : s.jobs.map specOf = specs) {j : Nat}
    {J : Job} (hj : s.jobs[j]? = some J) : specs[j]? = some (specOf J) := by
  rw [← hs, List.getElem?_map, hj]; rfl

theorem exec_pending_mono (s : State) (ops : List Op) (j e c : Nat) (hops : ∀ op ∈ ops, op ≠ .run j)
    (h : s.pending j e c = true) : (s.exec ops).pending j e c = true :=
  exec_induction (P := fun s' => s'.pending j e c = true) ops h
    fun s' op hop h => (step_keeps s' op).2 j e c (hops op hop) h


def QuietS (s : State) (j : Nat) : Prop :=
  ∀ (J : Job) (ai : Nat) (a : Arch) (k : Nat) (c : Comp), s.jobs[j]? = some J → s.archs[ai]? = some a →
    J.reqOk a = true → k * a.cs < a.ents.length → J.chunkOk k = true → c ∈ J.check → c ∈ a.mask →
    ¬ J.newer (a.cst k c)

theorem vf_fmask {J : Job} (hvf : VersionFiltered (specOf J)) {a : Arch} (hreq : J.reqOk a = true) :
    a.fmask J.check ≠ [] := by
  obtain ⟨hne, hsub⟩ := hvf
  obtain ⟨c, hc⟩ := List.exists_mem_of_ne_nil _ hne
  unfold Job.reqOk at hreq
  rw [Bool.and_eq_true, List.all_eq_true] at hreq
  exact List.ne_nil_of_mem (mem_fmask.mpr ⟨hc, List.contains_iff_mem.mp (hreq.1 c (hsub c hc))⟩)

theorem quiet_processed {s : State} (h : Inv s) {j : Nat}
    (hvf : ∀ J, s.jobs[j]? = some J → VersionFiltered (specOf J)) (hq : QuietS s j) :
    (s.jobRun j).2 = [] := by
  cases hj : s.jobs[j]? with
  | none => rw [jobRun_none hj]
  | some J =>
    rw [List.eq_nil_iff_forall_not_mem]
    intro e he
    obtain ⟨ai, a, i, ha, _, hp⟩ := (mem_procs h hj e).mp he
    obtain ⟨hk, hreq, hck, _, hcm⟩ := procChunk_iff.mp hp
    rcases matchSt_iff.mp hcm with hnil | ⟨c, hc, hn⟩
    · exact vf_fmask (hvf J hj) hreq hnil
    · exact hq J ai a _ c hj ha hreq hk hck (mem_fmask.mp hc).1 (mem_fmask.mp hc).2 hn

/-- After any run of `j` no checked stamp is newer than `last_j`: a run with work sets `last_j` to the
version that bounds every stamp; a run without work found no newer stamp and changed none. -/
theorem quiet_after_run {s : State} (h : Inv s) (j : Nat) : QuietS (s.jobRun j).1 j := by
  cases hj : s.jobs[j]? with
  | none => rw [jobRun_none hj]; exact fun J _ _ _ _ hJ => nomatch hj.symm.trans hJ
  | some J =>
  intro J' x a' k c hj' hx hreq hk hck hcc hcm hn
  obtain ⟨a, ha, rfl⟩ := jobRun_archs hj hx
  rw [runJob_ents, runJob_cs] at hk
  rw [reqOk_congr J' (runJob_mask ..)] at hreq
  rw [runJob_mask] at hcm
  rcases jobRun_jobs hj hj' with ⟨hold, hnil⟩ | ⟨_, _, rfl⟩
  · cases hj.symm.trans hold
    have hpc := procs_nil_no_chunk h hj (hnil rfl) ha k
    rw [runJob_cst, if_neg fun hh => hpc hh.1] at hn
    exact hpc ((h.stamps ha).procChunk_of_newer hk hreq hck hcc hcm hn)
  · exact absurd (hn s.w rfl) (Nat.not_lt.mpr
      (((restamp_runJob a J s.w).stamps (h.stamps ha)).cstLeW (by rwa [runJob_ents, runJob_cs]) c))


theorem writeAt_quiet {s : State} {j : Nat} (hq : QuietS s j) {ai : Nat} {a0 : Arch}
    (ha0 : s.archs[ai]? = some a0) (i e : Nat) {c0 : Comp}
    (hc : ∀ J, s.jobs[j]? = some J → c0 ∉ J.check) : QuietS (s.writeAt ai i e c0) j := by
  rw [writeAt_eq ha0]
  intro J x a' k c hj hx hreq hk hck hcc hcm hn
  rcases getElem?_modify_some ha0 hx with ⟨rfl, rfl⟩ | ⟨_, hx0⟩
  · rw [stampComp_cst, if_neg fun hh : k = i / a0.cs ∧ c = c0 => hc J hj (hh.2 ▸ hcc)] at hn
    exact hq J x a0 k c hj ha0 hreq hk hck hcc hcm hn
  · exact hq J x a' k c hj hx0 hreq hk hck hcc hcm hn

theorem jobRun_other_quiet {s : State} {j k : Nat} (hq : QuietS s j) (hkj : k ≠ j)
    (hdis : ∀ K J, s.jobs[k]? = some K → s.jobs[j]? = some J → overlaps K.upd J.check = false) :
    QuietS (s.jobRun k).1 j := by
  cases hk : s.jobs[k]? with
  | none => rw [jobRun_none hk]; exact hq
  | some K =>
    intro J x a' kk c hj hx hreq hkk hck hcc hcm hn
    obtain ⟨a, ha, rfl⟩ := jobRun_archs hk hx
    have hj0 : s.jobs[j]? = some J := (jobRun_jobs hk hj).elim (·.1) fun h' => absurd h'.1.symm hkj
    rw [runJob_ents, runJob_cs] at hkk
    rw [reqOk_congr J (runJob_mask ..)] at hreq
    rw [runJob_mask] at hcm
    rw [runJob_cst, if_neg ?_] at hn
    · exact hq J x a kk c hj0 ha hreq hkk hck hcc hcm hn
    · rintro ⟨_, hcu⟩
      have := hdis K J hk hj0
      rw [overlaps, List.any_eq_false] at this
      exact this c (mem_fmask.mp hcu).1 (List.contains_iff_mem.mpr hcc)

theorem step_quiet {s : State} (h : Inv s) {specs : List JobSpec} (hs : s.jobs.map specOf = specs)
    {j : Nat} (hq : QuietS s j) (op : Op) (hni : nonInterfering specs j op = true) :
    QuietS (s.step op).1 j := by
  -- mutable access and `markDirty` are the same transition, with the same condition on the component
  have write : ∀ e c, nonInterfering specs j (.getMut e c) = true → QuietS (s.step (.getMut e c)).1 j := by
    intro e c hni
    have hc : ∀ J, s.jobs[j]? = some J → c ∉ J.check := by
      intro J hj hcc
      dsimp only [nonInterfering] at hni
      rw [spec_of_job hs hj, Bool.not_eq_true'] at hni
      exact absurd (List.contains_iff_mem.mpr hcc) (Bool.eq_false_iff.mp hni)
    rcases step_getMut s e c with h0 | ⟨ai, i, a, ha, _, h0⟩
    · rw [h0]; exact hq
    · rw [h0]; exact writeAt_quiet hq ha i e hc
  cases op with
  | update => exact hq
  | getConst e c => rw [getConst_state]; exact hq
  | setDefault n => dsimp only [State.step]; split <;> exact hq
  | addFn m mn mx => exact hq
  | addDep c0 ds => exact hq
  | getMut e c => exact write e c hni
  | markDirty e c => exact write e c hni
  | run k =>
    by_cases hkj : k = j
    · exact hkj ▸ quiet_after_run h k
    · refine jobRun_other_quiet hq hkj fun K J hK hJ => ?_
      simp only [nonInterfering, spec_of_job hs hK, spec_of_job hs hJ, specOf, Bool.or_eq_true, beq_iff_eq, hkj,
        false_or, Bool.not_eq_true'] at hni
      exact hni
  | create m => cases hni
  | assign e c => cases hni
  | remove e c => cases hni
  | destroyNow e => cases hni

theorem exec_quiet {s : State} (h : Inv s) {specs : List JobSpec} (hs : s.jobs.map specOf = specs)
    {j : Nat} (hq : QuietS s j) (ops : List Op) (hni : ∀ op ∈ ops, nonInterfering specs j op = true) :
    QuietS (s.exec ops) j :=
  (exec_induction (P := fun s' => Inv s' ∧ s'.jobs.map specOf = specs ∧ QuietS s' j) ops ⟨h, hs, hq⟩
    fun s' op hop ⟨h', hs', hq'⟩ =>
      ⟨step_inv h' op, (step_keeps s' op).1.trans hs', step_quiet h' hs' hq' op (hni op hop)⟩).2.2

end Mustache.Versions
