import Mustache.Model.ChunkSize
/-!
# The chunk-size fold of `getArchetype` computes "default clamped by largest minimum / smallest maximum"
-/
namespace Mustache.ChunkSize

theorem foldMin_eq_max (m : Nat) (s : Size) : foldMin m s = max m s.min := by
  unfold foldMin
  by_cases h : m = 0 ∨ s.min > m
  · exact (if_pos h).trans (Nat.max_eq_right (h.elim (· ▸ Nat.zero_le _) Nat.le_of_lt)).symm
  · exact (if_neg h).trans (Nat.max_eq_left (Nat.le_of_not_lt fun h' => h (Or.inr h'))).symm

theorem foldMin_eq_maxMin (fs : List Size) : fs.foldl foldMin 0 = maxMin fs := by
  unfold maxMin
  rw [List.foldl_map]
  congr; funext m s; exact foldMin_eq_max m s

def nzMax (fs : List Size) : List Nat := (fs.map (·.max)).filter (· ≠ 0)

theorem minMax_eq (fs : List Size) :
    minMax fs = match nzMax fs with | [] => 0 | x :: xs => least x xs := rfl

theorem nzMax_cons (s : Size) (fs : List Size) :
    nzMax (s :: fs) = if s.max = 0 then nzMax fs else s.max :: nzMax fs := by
  unfold nzMax
  rw [List.map_cons, List.filter_cons]
  by_cases h : s.max = 0 <;> simp [h]

theorem minMax_cons (s : Size) (fs : List Size) :
    minMax (s :: fs) = if s.max = 0 then minMax fs else (nzMax fs).foldl min s.max := by
  rw [minMax_eq, nzMax_cons]
  by_cases hs : s.max = 0
  · rw [if_pos hs, if_pos hs]; rfl
  · rw [if_neg hs, if_neg hs]; rfl

theorem foldMax_of_max_eq_zero {s : Size} (M : Nat) (hs : s.max = 0) : foldMax M s = M := by
  unfold foldMax
  by_cases h : M = 0 ∨ (s.max > 0 ∧ s.max < M)
  · exact (if_pos h).trans (hs.trans (h.elim Eq.symm fun h' => absurd (hs ▸ h'.1) (Nat.lt_irrefl 0)))
  · exact if_neg h

theorem foldMax_of_max_ne_zero {s : Size} (M : Nat) (hs : s.max ≠ 0) :
    foldMax M s = if M = 0 then s.max else min M s.max := by
  unfold foldMax
  by_cases hM : M = 0
  · rw [if_pos (Or.inl hM), if_pos hM]
  · rw [if_neg hM]
    by_cases h : M = 0 ∨ (s.max > 0 ∧ s.max < M)
    · exact (if_pos h).trans (Nat.min_eq_right (Nat.le_of_lt (h.resolve_left hM).2)).symm
    · exact (if_neg h).trans
        (Nat.min_eq_left (Nat.le_of_not_lt fun h' => h (Or.inr ⟨Nat.pos_of_ne_zero hs, h'⟩))).symm

/-- The loop on `max` treats 0 as "no maximum yet": started at 0 it yields the least non-zero maximum,
started at a proper maximum `M` it lowers `M` by the non-zero maxima. -/
theorem foldl_foldMax (fs : List Size) (M : Nat) :
    fs.foldl foldMax M = if M = 0 then minMax fs else (nzMax fs).foldl min M := by
  induction fs generalizing M with
  | nil =>
    by_cases hM : M = 0
    · exact hM.trans (if_pos hM).symm
    · exact (if_neg hM).symm
  | cons s fs ih =>
    rw [List.foldl_cons, ih, minMax_cons, nzMax_cons]
    by_cases hs : s.max = 0
    · rw [foldMax_of_max_eq_zero M hs, if_pos hs, if_pos hs]
    · rw [foldMax_of_max_ne_zero M hs, if_neg hs, if_neg hs]
      by_cases hM : M = 0
      · rw [if_pos hM, if_pos hM, if_neg hs]
      · rw [if_neg hM, if_neg hM,
          if_neg (Nat.ne_of_gt (Nat.lt_min.mpr ⟨Nat.pos_of_ne_zero hM, Nat.pos_of_ne_zero hs⟩))]
        rfl

theorem foldMax_eq_minMax (fs : List Size) : fs.foldl foldMax 0 = minMax fs :=
  (foldl_foldMax fs 0).trans (if_pos rfl)

theorem clamp_eq (d lo hi : Nat) : clamp d lo hi = if hi = 0 then max d lo else min (max d lo) hi := rfl

/-- the two clamping steps of `getArchetype`, as written there -/
theorem clamp_steps (d lo hi : Nat) :
    (if hi > 0 ∧ (if d < lo then lo else d) > hi then hi else if d < lo then lo else d) = clamp d lo hi := by
  have hc : (if d < lo then lo else d) = max d lo := by
    by_cases h : d < lo
    · exact (if_pos h).trans (Nat.max_eq_right (Nat.le_of_lt h)).symm
    · exact (if_neg h).trans (Nat.max_eq_left (Nat.le_of_not_lt h)).symm
  rw [clamp_eq, hc]
  generalize max d lo = c
  by_cases h : hi > 0 ∧ c > hi
  · rw [if_pos h, if_neg (Nat.ne_of_gt h.1)]; exact (Nat.min_eq_right (Nat.le_of_lt h.2)).symm
  · rw [if_neg h]
    by_cases h0 : hi = 0
    · rw [if_pos h0]
    · rw [if_neg h0]
      exact (Nat.min_eq_left (Nat.le_of_not_lt fun h' => h ⟨Nat.pos_of_ne_zero h0, h'⟩)).symm

theorem resolve_eq (d : Nat) (fs : List Size) :
    resolve d fs =
      if minMax fs > 0 ∧ minMax fs < maxMin fs then .error (minMax fs) (maxMin fs)
      else .ok (clamp d (maxMin fs) (minMax fs)) := by
  simp only [resolve, foldMin_eq_maxMin, foldMax_eq_minMax, clamp_steps]

theorem not_reject_iff (mx mn : Nat) : ¬(mx > 0 ∧ mx < mn) ↔ mx = 0 ∨ mn ≤ mx := by
  rw [Decidable.not_and_iff_not_or_not, Nat.not_lt, Nat.not_lt, Nat.le_zero]

theorem resolve_ok_iff (d : Nat) (fs : List Size) (s : Nat) :
    resolve d fs = .ok s ↔
      (minMax fs = 0 ∨ maxMin fs ≤ minMax fs) ∧ s = clamp d (maxMin fs) (minMax fs) := by
  rw [resolve_eq]
  split
  · next hC => exact ⟨nofun, fun h => absurd hC ((not_reject_iff ..).mpr h.1)⟩
  · next hC => exact ⟨fun h => ⟨(not_reject_iff ..).mp hC, (Res.ok.inj h).symm⟩, fun h => h.2 ▸ rfl⟩

theorem resolve_no_max (d : Nat) (fs : List Size) (h : minMax fs = 0) :
    resolve d fs = .ok (max d (maxMin fs)) := by
  rw [resolve_eq, h, clamp_eq, if_pos rfl, if_neg fun hc => Nat.lt_irrefl 0 hc.1]

theorem resolve_pos {d : Nat} {fs : List Size} {s : Nat} (hd : 0 < d) (h : resolve d fs = .ok s) :
    0 < s := by
  have hc : 0 < max d (maxMin fs) := Nat.lt_of_lt_of_le hd (Nat.le_max_left ..)
  rw [((resolve_ok_iff d fs s).mp h).2, clamp_eq]
  by_cases h0 : minMax fs = 0
  · rw [if_pos h0]; exact hc
  · rw [if_neg h0]; exact Nat.lt_min.mpr ⟨hc, Nat.pos_of_ne_zero h0⟩


theorem maxMin_spec (fs : List Size) :
    (∀ s ∈ fs, s.min ≤ maxMin fs) ∧ (maxMin fs = 0 ∨ ∃ s ∈ fs, s.min = maxMin fs) := by
  have h : (0 :: fs.map (·.min)).max? = some (maxMin fs) := List.max?_cons'
  rw [List.max?_eq_some_iff, List.mem_cons, List.mem_map] at h
  exact ⟨fun s hs => h.2 _ (List.mem_cons_of_mem _ (List.mem_map.mpr ⟨s, hs, rfl⟩)), h.1⟩

theorem mem_nzMax {fs : List Size} {x : Nat} : x ∈ nzMax fs ↔ x ≠ 0 ∧ ∃ s ∈ fs, s.max = x := by
  unfold nzMax
  rw [List.mem_filter, List.mem_map, decide_eq_true_eq, and_comm]

theorem minMax_spec (fs : List Size) :
    (minMax fs = 0 ↔ ∀ s ∈ fs, s.max = 0) ∧
    (minMax fs ≠ 0 → (∃ s ∈ fs, s.max = minMax fs) ∧ ∀ s ∈ fs, s.max ≠ 0 → minMax fs ≤ s.max) := by
  have hmem : ∀ y, y ∈ nzMax fs ↔ y ≠ 0 ∧ ∃ s ∈ fs, s.max = y := fun y => mem_nzMax
  rw [minMax_eq]
  cases hnz : nzMax fs with
  | nil =>
    simp only [hnz, List.not_mem_nil, false_iff, not_and, not_exists] at hmem
    refine ⟨⟨fun _ s hs => Classical.byContradiction fun hne => hmem _ hne s hs rfl, fun _ => rfl⟩,
      fun h => absurd rfl h⟩
  | cons x xs =>
    have h : (x :: xs).min? = some (least x xs) := List.min?_cons'
    rw [List.min?_eq_some_iff, ← hnz] at h
    obtain ⟨hne, s, hs, hsx⟩ := (hmem _).mp h.1
    refine ⟨⟨fun h0 => absurd h0 hne, fun hall => absurd ((hall s hs).symm.trans hsx).symm hne⟩,
      fun _ => ⟨⟨s, hs, hsx⟩, fun s' hs' hne' => h.2 _ ((hmem _).mpr ⟨hne', s', hs', rfl⟩)⟩⟩

end Mustache.ChunkSize
