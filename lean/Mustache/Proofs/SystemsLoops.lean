import Mustache.Proofs.SystemsRun
/-!
What the manager's loops (`configureAll`, `startAll`, `updateAll`, `destroyAll`) preserve (`RInv`), and which
systems one `updateAll` updates.
-/
namespace Mustache.Systems

def StartedSub (O : List Nat) (ss : List SysInfo) : Prop :=
  ∀ v s, stateOf ss v = some s → s.started = true → v ∈ O

def NoUninit (ss : List SysInfo) : Prop := ∀ v, stateOf ss v ≠ some .uninit

/-- What the manager's loops preserve: `tr0` = callbacks before the current op, `dom`/`nms` = identities
and names registered, `O` = identities the op is allowed to start/update. -/
structure RInv (tr0 : List Ev) (dom : List Nat) (nms : List Name) (O : List Nat) (r : Run) : Prop where
  uids : r.ss.map (·.uid) = dom
  names : r.ss.map (·.name) = nms
  good : Good (tr0 ++ r.evs) r.ss
  present : ∀ e ∈ r.evs, e.uid ∈ dom
  noUninit : NoUninit r.ss
  started : StartedSub O r.ss

theorem foldl_inv {α β : Type} (P : β → Prop) (f : β → α → β) (l : List α) (b : β) (hb : P b)
    (hf : ∀ b a, a ∈ l → P b → P (f b a)) : P (l.foldl f b) := by
  induction l generalizing b with
  | nil => exact hb
  | cons x xs ih =>
    rw [List.foldl_cons]
    exact ih _ (hf b x (List.mem_cons_self ..) hb) (fun b a ha => hf b a (List.mem_cons_of_mem _ ha))

section
variable {tr0 : List Ev} {dom : List Nat} {nms : List Name} {O : List Nat} {r : Run} {t : Tr}

theorem call_noUninit (h : NoUninit r.ss) (u : Nat) (ht : t ≠ .destroy) :
    NoUninit (r.call u t).ss := by
  rcases call_cases r u t with h' | ⟨s, s', cbs, _, ha, h'⟩
  · rw [h'.1]; exact h
  · intro v
    by_cases hv : v = u
    · rw [hv, h'.same]
      exact fun e => (apply_state ha).1 ht (Option.some.inj e)
    · rw [h'.other v hv]; exact h v

theorem call_startedSub (h : StartedSub O r.ss) (u : Nat) (ht : t = .start → u ∈ O) :
    StartedSub O (r.call u t).ss := by
  rcases call_cases r u t with h' | ⟨s, s', cbs, hs, ha, h'⟩
  · rw [h'.1]; exact h
  · intro v sv hsv hst
    by_cases hv : v = u
    · rw [hv, h'.same] at hsv
      cases hsv
      rcases (apply_state ha).2 hst with hst | ht'
      · exact hv ▸ h u s hs hst
      · exact hv ▸ ht ht'
    · rw [h'.other v hv] at hsv
      exact h v sv hsv hst

theorem call_present (hu : r.ss.map (·.uid) = dom) (hp : ∀ e ∈ r.evs, e.uid ∈ dom) (u : Nat) (t : Tr) :
    ∀ e ∈ (r.call u t).evs, e.uid ∈ dom := by
  rcases call_cases r u t with h' | ⟨s, s', cbs, hs, _, h'⟩
  · rw [h'.2]; exact hp
  · intro e he
    rw [h'.evs] at he
    rcases List.mem_append.mp he with he | he
    · exact hp e he
    · obtain ⟨c, _, rfl⟩ := List.mem_map.mp he
      exact hu ▸ mem_uids_of_stateOf hs

theorem call_rinv (h : RInv tr0 dom nms O r) (u : Nat) (hd : t ≠ .destroy) (hc : t ≠ .create)
    (hO : t = .start → u ∈ O) : RInv tr0 dom nms O (r.call u t) :=
  ⟨(call_uids ..).trans h.uids, (call_names ..).trans h.names,
    call_good h.good u t (fun e => absurd e hd) (fun e => absurd e hc), call_present h.uids h.present u t,
    call_noUninit h.noUninit u hd, call_startedSub h.started u hO⟩

/-- the loops call a system only when it is in the state that fits the call -/
theorem RInv.guarded (h : RInv tr0 dom nms O r) (c : Prop) [Decidable c] (u : Nat) (hd : t ≠ .destroy)
    (hc : t ≠ .create) (hO : t = .start → u ∈ O) : RInv tr0 dom nms O (if c then r.call u t else r) := by
  split
  · exact call_rinv h u hd hc hO
  · exact h

theorem configureAll_rinv (h : RInv tr0 dom nms O r) : RInv tr0 dom nms O (configureAll r) :=
  foldl_inv (RInv tr0 dom nms O) _ _ _ h fun _ u _ hb => hb.guarded _ u nofun nofun nofun

theorem startAll_rinv (h : RInv tr0 dom nms O r) : RInv tr0 dom nms O (startAll O r) :=
  foldl_inv (RInv tr0 dom nms O) _ _ _ h fun _ u hu hb => hb.guarded _ u nofun nofun fun _ => hu

theorem updateAll_rinv (h : RInv tr0 dom nms O r) : RInv tr0 dom nms O (updateAll O r) :=
  foldl_inv (RInv tr0 dom nms O) _ _ _ h fun _ u hu hb =>
    (hb.guarded _ u (t := .start) nofun nofun fun _ => hu).guarded _ u (t := .update) nofun nofun nofun

end

theorem startAll_nodes (g : List (Nat × Int)) (O : List Nat) (r : Run) :
    (startAll O r).ss.map (toNode g) = r.ss.map (toNode g) := by
  apply foldl_inv (fun b : Run => b.ss.map (toNode g) = r.ss.map (toNode g)) _ _ _ rfl
  intro b a _ hb
  split
  · exact (call_nodes g b a (t := .start) nofun).trans hb
  · exact hb

/-- one iteration of the update loop -/
def updateBody (r : Run) (u : Nat) : Run :=
  let r1 := if stateOf r.ss u = some .configured then r.call u .start else r
  if stateOf r1.ss u = some .active then r1.call u .update else r1

theorem updateAll_eq (us : List Nat) (r : Run) : updateAll us r = us.foldl updateBody r := rfl

theorem updatesOf_append (a b : List Ev) : updatesOf (a ++ b) = updatesOf a ++ updatesOf b := by
  simp [updatesOf, List.filter_append]

/-- A late-comer is started first; then the system is updated iff it is active. -/
theorem updateBody_spec (r : Run) (hok : r.ok = true) (u : Nat) :
    (updateBody r u).ok = true ∧
    (∀ v, v ≠ u → stateOf (updateBody r u).ss v = stateOf r.ss v) ∧
    updatesOf (updateBody r u).evs =
      updatesOf r.evs ++ (if stateOf (updateBody r u).ss u = some .active then [u] else []) := by
  generalize hb : updateBody r u = r'
  unfold updateBody at hb
  by_cases hc : stateOf r.ss u = some .configured
  · have h1 := call_effect hok hc (t := .start) rfl
    have h2 := call_effect h1.ok h1.same (t := .update) rfl
    simp only [if_pos hc, if_pos h1.same] at hb
    subst hb
    refine ⟨h2.ok, fun v hv => by rw [h2.other v hv, h1.other v hv], ?_⟩
    rw [h2.same, h2.evs, h1.evs, updatesOf_append, updatesOf_append, List.append_assoc]
    rfl
  · simp only [if_neg hc] at hb
    by_cases ha : stateOf r.ss u = some .active
    · have h2 := call_effect hok ha (t := .update) rfl
      rw [if_pos ha] at hb
      subst hb
      refine ⟨h2.ok, h2.other, ?_⟩
      rw [h2.same, h2.evs, updatesOf_append]
      rfl
    · rw [if_neg ha] at hb
      subst hb
      exact ⟨hok, fun _ _ => rfl, by rw [if_neg ha, List.append_nil]⟩
theorem updateAll_spec : ∀ (us : List Nat) (r : Run), us.Nodup → r.ok = true →
    (updateAll us r).ok = true ∧
    (∀ v, v ∉ us → stateOf (updateAll us r).ss v = stateOf r.ss v) ∧
    updatesOf (updateAll us r).evs =
      updatesOf r.evs ++ us.filter (fun u => decide (stateOf (updateAll us r).ss u = some .active)) := by
  intro us
  induction us with
  | nil => intro r _ hok; exact ⟨hok, fun _ _ => rfl, (List.append_nil _).symm⟩
  | cons x xs ih =>
    intro r hnd hok
    have hnd' := List.nodup_cons.mp hnd
    rw [updateAll_eq, List.foldl_cons, ← updateAll_eq]
    obtain ⟨hok1, hoth1, hup1⟩ := updateBody_spec r hok x
    obtain ⟨hok2, hoth2, hup2⟩ := ih (updateBody r x) hnd'.2 hok1
    refine ⟨hok2, fun v hv => ?_, ?_⟩
    · rw [List.mem_cons, not_or] at hv
      rw [hoth2 v hv.2, hoth1 v hv.1]
    · -- `x ∉ xs`: the rest of the loop leaves the state of `x` alone
      rw [hup2, hup1, List.filter_cons, hoth2 x hnd'.1, List.append_assoc]
      by_cases hx : stateOf (updateBody r x).ss x = some .active
      · rw [if_pos hx, if_pos (decide_eq_true hx)]; rfl
      · rw [if_neg hx, if_neg (by rw [decide_eq_false hx]; nofun)]; rfl

/-- `destroy` is legal for an object that is not `uninit`; the identities destroyed are distinct, so none is
destroyed twice. -/
theorem destroyAll_good {tr0 : List Ev} {dom : List Nat} : ∀ (us : List Nat) (r : Run), us.Nodup →
    Good (tr0 ++ r.evs) r.ss → (∀ v ∈ us, stateOf r.ss v ≠ some .uninit) →
    r.ss.map (·.uid) = dom → (∀ e ∈ r.evs, e.uid ∈ dom) →
    Good (tr0 ++ (destroyAll us r).evs) (destroyAll us r).ss ∧
      (destroyAll us r).ss.map (·.uid) = dom ∧ ∀ e ∈ (destroyAll us r).evs, e.uid ∈ dom := by
  intro us
  induction us with
  | nil => intro r _ hg _ hu hp; exact ⟨hg, hu, hp⟩
  | cons x xs ih =>
    intro r hnd hg hnu hu hp
    have hnd' := List.nodup_cons.mp hnd
    rw [destroyAll, List.foldl_cons]
    apply ih (r.call x .destroy) hnd'.2
    · exact call_good hg x .destroy (fun _ => hnu x (List.mem_cons_self ..)) nofun
    · intro v hv
      rw [call_other r x .destroy (fun e => hnd'.1 (e ▸ hv))]
      exact hnu v (List.mem_cons_of_mem _ hv)
    · exact (call_uids ..).trans hu
    · exact call_present hu hp x .destroy

end Mustache.Systems
