import Mustache.Proofs.DispatcherReach

/-! Start order of serial-queue jobs (FIFO). -/
namespace Mustache.Dispatcher

/-- start-order relation: two jobs of the same serial queue are started in submission (= id) order -/
def OrdRel (tq : Nat → Nat) (a b : Nat) : Prop := tq a = tq b → tq a ≠ 0 → a < b

structure InvD (s : State) : Prop where
  pending_after : ∀ q t t' : Nat, q ≠ 0 → t ∈ s.jobs q → t' ∈ s.started → s.tq t' = q → t' < t
  start_order : s.started.Pairwise (OrdRel s.tq)

theorem invD_init (n : Nat) : InvD (init n) :=
  ⟨fun _ _ _ _ h => (nomatch h), List.Pairwise.nil⟩

theorem ordrel_congr {tq tq' : Nat → Nat} {l : List Nat} (h : l.Pairwise (OrdRel tq))
    (heq : ∀ x ∈ l, tq' x = tq x) : l.Pairwise (OrdRel tq') := by
  refine List.Pairwise.imp_of_mem ?_ h
  intro a b ha hb hab
  unfold OrdRel at hab ⊢
  rw [heq a ha, heq b hb]
  exact hab

theorem invD_doPop {s : State} (h : Inv s) (hd : InvD s) {th q t : Nat} {r : List Nat} (hj : s.jobs q = t :: r) :
    InvD (doPop s th q t r) := by
  have hsorted := List.pairwise_cons.mp (hj ▸ h.a.jobs_sorted q)
  have htj : t ∈ s.jobs q := by rw [hj]; exact List.mem_cons_self
  have htq : s.tq t = q := h.a.jobs_tq q t htj
  constructor
  · intro q' x x' hq' hx hx' htq'
    have hxr : x ∈ if q' = q then r else s.jobs q' := hx
    rcases mem_snoc.mp hx' with hx' | e
    · refine hd.pending_after q' x x' hq' ?_ hx' htq'
      split at hxr
      · rename_i e; rw [e, hj]; exact List.mem_cons_of_mem _ hxr
      · exact hxr
    · -- the popped task is the head of its queue
      rw [e] at htq' ⊢
      rw [if_pos (htq'.symm.trans htq)] at hxr
      exact hsorted.1 x hxr
  · refine pairwise_snoc.mpr ⟨hd.start_order, fun a ha hab hne => ?_⟩
    exact hd.pending_after q t a (fun e => hne (hab.trans (htq.trans e))) htj ha (hab.trans htq)

theorem invD_scanBody {s : State} (h : Inv s) (hd : InvD s) {th : Nat} : InvD (scanBody s th) := by
  rcases scanBody_cases s th with ⟨_, he⟩ | ⟨_, _, he⟩ | ⟨_, q, t, r, _, hj, _, _, he⟩ <;> rw [he]
  · exact { hd with }
  · exact { hd with }
  · exact invD_doPop h hd hj

theorem invD_step {s s' : State} {a : Action} (h : Inv s) (hd : InvD s) (hs : step s a = some s') : InvD s' := by
  -- ids in `started` are below `nextId`, so a submission leaves their `tq` alone
  have hold : ∀ {q x}, x ∈ s.started → upd s.tq s.nextId q x = s.tq x := fun hx =>
    upd_ne _ _ (Nat.ne_of_lt (h.a.started_lt _ hx))
  cases step_iff.mp hs
  case scan => exact invD_scanBody h hd
  case rescan hp =>
    rw [← scanBody_set_pc _ _ .idle]
    exact invD_scanBody (inv_reacquire h hp) { hd with }
  case waitPop hj => exact invD_doPop h hd hj
  case submit q _ _ _ =>
    constructor
    · intro q' x x' hq' hx hx' htq'
      have htq' : s.tq x' = q' := (hold hx').symm.trans htq'
      rcases mem_upd_append.mp hx with hx | ⟨_, rfl⟩
      · exact hd.pending_after q' x x' hq' hx hx' htq'
      · exact h.a.started_lt x' hx'
    · exact ordrel_congr hd.start_order fun x hx => hold hx
  case submitInline =>
    constructor
    · intro q' x x' hq' hx hx' htq'
      rcases mem_snoc.mp hx' with hx' | rfl
      · exact hd.pending_after q' x x' hq' hx hx' ((hold hx').symm.trans htq')
      · exact absurd ((upd_same _ _ _).symm.trans htq').symm hq'
    · refine pairwise_snoc.mpr ⟨ordrel_congr hd.start_order fun x hx => hold hx, fun a ha hab hne => ?_⟩
      -- the inline job belongs to the parallel queue
      exact absurd (hab.trans (upd_same _ _ _)) hne
  case sdClear =>
    exact { hd with pending_after := fun q x x' hq hx => hd.pending_after q x x' hq (mem_upd_nil.mp hx).2 }
  -- the remaining actions leave `jobs`, `started` and `tq` alone
  all_goals exact { hd with }

theorem reachable_invD {n : Nat} {s : State} (h : Reachable n s) : InvD s := by
  induction h with
  | init => exact invD_init n
  | step a hr hs ih => exact invD_step (reachable_inv hr) ih hs

end Mustache.Dispatcher
