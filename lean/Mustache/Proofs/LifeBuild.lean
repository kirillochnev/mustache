import Mustache.Proofs.LifeOps
/-!
# Builder (`begin(e)…end()`, `begin()…end()`) and shared assign / remove (C03)

Unlocked, as in `LifeOps`: `CallOk` under the operation's contract.
-/
namespace Mustache.Proofs.Life
open Mustache.Model Mustache.Proofs.Rows

variable (info : CompId → CompInfo)

/-- the `initComponent` loop writes values only -/
theorem builder_fold_quiet (e : Handle) (ti n : Nat) (adds : List (CompId × Option Nat))
    (acc : WM × List Cb) :
    Quiet acc.1 (adds.foldl (fun (acc : WM × List Cb) (p : CompId × Option Nat) =>
        let w := acc.1
        let ta := w.arch ti
        match ta.mask.indexOf? p.1 with
        | none => acc
        | some ci =>
          let row := ta.rows.getD n default
          let v : Val := match (info p.1).fixed with
            | some f => some f
            | none => match p.2 with
              | some tok => some tok
              | none => defaultVal info p.1
          let w := w.setArch ti { ta with rows := ta.rows.set n { row with vals := row.vals.set ci v } }
          (w, acc.2 ++ (if (info p.1).callbacks then [Cb.assign p.1 e] else []))) acc).1 := by
  refine foldl_rel (fun a b : WM × List Cb => Quiet a.1 b.1) (fun a => .refl a.1) (fun _ _ _ => Quiet.trans) _ ?_
    adds acc
  intro a b
  simp only
  split
  · exact .refl a.1
  · exact quiet_setRow _ _ _ _

theorem initEvents_dst (ti : Nat) (tm : Mask) (n : Nat) (adds : List (CompId × Option Nat)) :
    (initEvents ti tm n adds).map Event.dst =
      colSlots ti ((adds.filter (fun p => tm.contains p.1)).map (·.1)) n := by
  simp [initEvents, colSlots, List.map_map, Event.dst]

theorem initEvents_create (ti : Nat) (tm : Mask) (n : Nat) (adds : List (CompId × Option Nat)) :
    ∀ ev ∈ initEvents ti tm n adds, Event.isCreate ev = true ∧ Event.src? ev = none := by
  intro ev hev
  rcases List.mem_map.mp hev with ⟨p, _, rfl⟩
  exact ⟨rfl, rfl⟩

theorem filter_keys_nodup {β : Type} (p : CompId × β → Bool) (l : List (CompId × β))
    (h : (l.map (·.1)).Nodup) : ((l.filter p).map (·.1)).Nodup :=
  List.Nodup.sublist (List.Sublist.map _ List.filter_sublist) h

theorem mem_filter_keys {β : Type} (tm : Mask) (l : List (CompId × β)) (x : CompId) :
    x ∈ (l.filter (fun p => tm.contains p.1)).map (·.1) ↔ x ∈ l.map (·.1) ∧ x ∈ tm := by
  simp only [List.mem_map, List.mem_filter, List.contains_iff_mem]
  constructor
  · rintro ⟨p, ⟨hp, ht⟩, rfl⟩; exact ⟨⟨p, hp, rfl⟩, ht⟩
  · rintro ⟨⟨p, hp, rfl⟩, ht⟩; exact ⟨p, ⟨hp, ht⟩, rfl⟩

/-- the builder's `initComponent` calls construct the raw slots of the new row: its arguments, as far as the target has
them -/
theorem NewRow.init {F : SlotState} {w w2 : WM} {evs : List Event} {ti n : Nat} {tm raw : Mask}
    (h : NewRow F w w2 evs ti n tm raw) (adds : List (CompId × Option Nat)) (hnd : (adds.map (·.1)).Nodup)
    (hraw : ∀ x, x ∈ raw ↔ x ∈ adds.map (·.1) ∧ x ∈ tm) :
    accepts (live w F) (evs ++ initEvents ti tm n adds) = some (live w2 F) :=
  h.fill _ _ (initEvents_dst ..) (initEvents_create _ _ _ _) (filter_keys_nodup _ _ hnd)
    (fun x => by rw [mem_filter_keys, hraw]) (fun x hx => ((hraw x).mp hx).2)

theorem buildUpdateU_unlocked (w : WM) (e : Handle) (adds : List (CompId × Option Nat))
    (rems : Mask) (hloc : LocIn w e) (hnd : (adds.map (·.1)).Nodup)
    (hnew : ∀ pi, (w.locOf e).arch = some pi → ∀ c ∈ adds.map (·.1), c ∉ (w.arch pi).mask) :
    CallOk info w (w.buildUpdateEvents e adds rems) (w.buildUpdateU info e adds rems).1 := by
  unfold WM.buildUpdateEvents WM.buildUpdateU
  simp only
  cases hla : (w.locOf e).arch with
  | none => exact .refl w
  | some pi =>
    simp only
    cases hg : w.getArch (Mask.diff (Mask.union (Mask.ofList (adds.map (·.1))) (w.arch pi).mask) rems)
      (Shared.null.merge (w.arch pi).shared) with
    | mk w1 ti =>
    have ga := gotArch hg
    simp only
    by_cases hti : ti = pi
    · rw [if_pos hti, hti, externalMove_self]
      exact ga.callOk info
    · obtain ⟨⟨w2, cbs⟩, hx⟩ := externalMove_some info w1 ti e pi (w.locOf e).idx (Mask.ofList (adds.map (·.1))) hti
      rw [if_neg hti, hx]
      simp only
      refine CallOk.post (.of_bt (ga.table.bt.trans (externalMove_sameTable info _ _ _ _ _ _ _ hx).bt) (fun hmk => ?_))
        (builder_fold_quiet info e ti _ adds (w2, []))
      have nr := move_newRow info ga e pi _ _ (tempLive w.buffers) (tempOnly_tempLive _) hmk
        (Mask.sorted_diff (Mask.sorted_union (Mask.sorted_ofList _))) (hloc pi hla) _ hx
      refine nr.init adds hnd (fun x => ?_)
      simp only [List.mem_filter, Bool.and_eq_true, Bool.not_eq_true', List.contains_iff_mem, mem_ofList,
        ← Bool.not_eq_true]
      exact ⟨fun ⟨ht, _, hx⟩ => ⟨hx, ht⟩, fun ⟨hx, ht⟩ => ⟨ht, hnew pi hla x hx, hx⟩⟩

theorem buildNewU_unlocked (w : WM) (adds : List (CompId × Option Nat))
    (hnd : (adds.map (·.1)).Nodup) : CallOk info w (w.buildNewEvents adds) (w.buildNewU info adds).1 := by
  unfold WM.buildNewEvents WM.buildNewU
  simp only
  refine CallOk.pre ?_ ⟨shapeEq_allocId w, allocId_bt w⟩
  generalize (w.allocId).1 = w0
  generalize (w.allocId).2 = h
  by_cases hemp : adds.isEmpty = true
  · simp only [hemp, if_true]
    cases hg : w0.getArch [] Shared.null with
    | mk w1 ai =>
    have ga := gotArch hg
    refine .of_bt (ga.table.bt.trans (archInsert_sameTable info _ _ _ _).bt) (fun hmk => ?_)
    exact ((archInsert_newRow info w1 _ (tempOnly_tempLive _) ai h [] ga.lt (ga.masksOk hmk List.Pairwise.nil)).pre
      (ga.live _)).done (filter_contains_nil _)
  · simp only [hemp, Bool.false_eq_true, if_false]
    cases hg : w0.getArch (Mask.ofList (adds.map (·.1))) Shared.null with
    | mk w1 ai =>
    have ga := gotArch hg
    simp only
    refine CallOk.post (.of_bt (ga.table.bt.trans (archInsert_sameTable info _ _ _ _).bt) (fun hmk => ?_))
      (builder_fold_quiet info h ai _ adds (_, []))
    have nr := (archInsert_newRow info w1 _ (tempOnly_tempLive w0.buffers) ai h (Mask.ofList (adds.map (·.1))) ga.lt
      (ga.masksOk hmk (Mask.sorted_ofList _))).pre (ga.live _)
    refine nr.init adds hnd (fun x => ?_)
    rw [List.mem_filter, List.contains_iff_mem, mem_ofList, and_comm]

theorem sharedMove_unlocked {w w1 : WM} {ti : Nat} (e : Handle) (f : Shared → Shared)
    (pi : Nat) (hla : (w.locOf e).arch = some pi) (hidx : (w.locOf e).idx < (w.arch pi).rows.length)
    (hg : w.getArch (w.arch pi).mask (f (w.arch pi).shared) = (w1, ti)) :
    CallOk info w (w.sharedMoveEvents e f)
      (match w1.externalMove info ti e pi (w.locOf e).idx [] with
        | none => w1
        | some r => r.1) := by
  unfold WM.sharedMoveEvents
  simp only [hla, hg]
  exact move_callOk info (gotArch hg) e pi (w.locOf e).idx (fun hmk => hmk pi) hidx

theorem sassign_unlocked (w : WM) (e : Handle) (sid v : Nat) (hloc : LocIn w e) :
    CallOk info w
      (match (w.locOf e).arch with
        | none => []
        | some _ => (w.poolGet sid v).1.sharedMoveEvents e (fun s => s.add sid (w.poolGet sid v).2))
      (w.sassign info e sid v).1 := by
  unfold WM.sassign
  simp only
  cases hla : (w.locOf e).arch with
  | none => exact .refl w
  | some pi =>
    simp only
    refine CallOk.pre ?_ (quiet_poolGet w sid v)
    have hsh := shapeEq_poolGet w sid v
    have hlo : (w.poolGet sid v).1.locOf e = w.locOf e := by unfold WM.locOf; rw [poolGet_locs]
    generalize w.poolGet sid v = g at hsh hlo ⊢
    obtain ⟨w0, inst⟩ := g
    simp only at hsh hlo ⊢
    cases hg : w0.getArch (w0.arch pi).mask ((w0.arch pi).shared.add sid inst) with
    | mk w1 ti =>
    simp only
    have := sharedMove_unlocked info e (fun s => s.add sid inst) pi (hlo ▸ hla)
      (by rw [hlo, hsh.2]; exact hloc pi hla) hg
    rw [hlo] at this
    split <;> (rename_i hx; rw [hx] at this; exact this)

theorem sremove_unlocked (w : WM) (e : Handle) (sid : Nat)
    (hloc : w.isValid e = true → LocIn w e) :
    CallOk info w
      (if !w.isValid e then [] else
        match (w.locOf e).arch with
        | none => []
        | some pi => if !(w.arch pi).shared.has sid then [] else w.sharedMoveEvents e (fun s => s.remove sid))
      (w.sremove info e sid).1 := by
  unfold WM.sremove
  by_cases hv : w.isValid e = true
  · simp only [hv, Bool.not_true, Bool.false_eq_true, if_false]
    cases hla : (w.locOf e).arch with
    | none => exact .refl w
    | some pi =>
      simp only
      by_cases hs : (w.arch pi).shared.has sid = true
      · simp only [hs, Bool.not_true, Bool.false_eq_true, if_false]
        cases hg : w.getArch (w.arch pi).mask ((w.arch pi).shared.remove sid) with
        | mk w1 ti =>
        simp only
        have := sharedMove_unlocked info e (fun s => s.remove sid) pi hla (hloc hv pi hla) hg
        split <;> (rename_i hx; rw [hx] at this; exact this)
      · simp only [hs, Bool.not_false, if_true]; exact .refl w
  · simp only [Bool.not_eq_true] at hv
    simp only [hv, Bool.not_false, if_true]; exact .refl w

end Mustache.Proofs.Life
