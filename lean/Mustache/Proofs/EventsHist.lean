import Mustache.Proofs.EventsRefine
/-!
Histories: the simulation lifted to `runFrom`, and the monotonicity facts
(slot tables only grow; dead managers / receivers stay dead).
-/
namespace Mustache.Proofs.Events
open Mustache.Model.Events


structure MgrGrows (mg mg' : Mgr) : Prop where
  alive : mg'.alive = mg.alive
  length : mg.slots.length ≤ mg'.slots.length
  keeps : ∀ (j : Nat) (l : List Rcv), mg.slots[j]? = some (some l) → ∃ l', mg'.slots[j]? = some (some l')

theorem MgrGrows.refl (mg : Mgr) : MgrGrows mg mg := ⟨rfl, Nat.le_refl _, fun _ l h => ⟨l, h⟩⟩

theorem MgrGrows.trans {a b c : Mgr} (h1 : MgrGrows a b) (h2 : MgrGrows b c) : MgrGrows a c :=
  ⟨h2.alive.trans h1.alive, Nat.le_trans h1.length h2.length, fun j l h => by
    rcases h1.keeps j l h with ⟨l', h'⟩
    exact h2.keeps j l' h'⟩

def GrownIn (mg : Mgr) (m : Nat) (mgrs : List Mgr) : Prop := ∃ mg', mgrs[m]? = some mg' ∧ MgrGrows mg mg'

theorem GrownIn.refl {mgrs : List Mgr} {m : Nat} {mg : Mgr} (hmg : mgrs[m]? = some mg) : GrownIn mg m mgrs :=
  ⟨mg, hmg, MgrGrows.refl mg⟩

section
variable {s : State} {m : Nat} {mg : Mgr} (hmg : s.mgrs[m]? = some mg)
include hmg

theorem afterSlot_grownIn {m0 : Nat} {mg0 : Mgr} {T : Model.Events.TypeName} {f : List Rcv → List Rcv}
    (hmg0 : s.mgrs[m0]? = some mg0) : GrownIn mg m (afterSlot s m0 mg0 T f).mgrs := by
  by_cases hm : m = m0
  · subst hm
    cases hmg0.symm.trans hmg
    exact ⟨_, afterSlot_mgr_self T f hmg, rfl,
      Nat.le_trans ensureSlot_length_ge (Nat.le_of_eq List.length_set.symm),
      fun j l hj => set_ensureSlot_keeps _ hj⟩
  · exact .refl ((afterSlot_mgr_other T f hm).trans hmg)

theorem Unsubscribed.grownIn {s1 : State} {r : Nat} {ri : RcvInfo} (hu : Unsubscribed s r ri s1) :
    GrownIn mg m s1.mgrs := by
  rcases hu with ⟨rfl, _⟩ | ⟨_, _, _, hmg0, _, rfl⟩
  · exact .refl hmg
  · exact afterSlot_grownIn hmg hmg0

theorem Exec.grownIn {s' : State} {op : Op} {o : Out} (h : Exec s op s' o) (hop : op ≠ .dropManager m) :
    GrownIn mg m s'.mgrs := by
  induction h with
  | newManager => exact .refl ((List.getElem?_append_left (List.getElem?_eq_some_iff.mp hmg).1).trans hmg)
  | @dropManager m0 _ _ => exact .refl ((List.getElem?_set_ne fun (e : m0 = m) => hop (e ▸ rfl)).trans hmg)
  | newReceiver T => exact .refl hmg
  | subscribeFn T hmg0 _ => exact afterSlot_grownIn (f := (· ++ [s.rcvs.length])) hmg hmg0
  | @subscribe _ _ r _ hmg0 _ _ _ _ => exact afterSlot_grownIn (f := (· ++ [r])) hmg hmg0
  | unsubscribeAt hmg0 _ _ => exact afterSlot_grownIn hmg hmg0
  | post T hmg0 _ => exact afterSlot_grownIn hmg hmg0
  | unsubscribe _ hu => exact hu.grownIn hmg
  | dropReceiver _ hu => exact hu.grownIn hmg

theorem step_grownIn (op : Op) (hop : op ≠ .dropManager m) : GrownIn mg m (step s op).1.mgrs := by
  rcases step_cases s op with h | h
  · rw [h]; exact .refl hmg
  · exact h.grownIn hmg hop

end

theorem run_grownIn {m : Nat} (h : List Op) : ∀ {s : State} {mg : Mgr},
    s.mgrs[m]? = some mg → Op.dropManager m ∉ h → GrownIn mg m (runFrom s h).1.mgrs := by
  induction h with
  | nil => intro s mg hmg _; exact .refl hmg
  | cons op t ih =>
    intro s mg hmg hno
    rcases step_grownIn hmg op fun e => hno (e ▸ List.mem_cons_self) with ⟨mg1, hmg1, hg1⟩
    rcases ih hmg1 fun e => hno (List.mem_cons_of_mem _ e) with ⟨mg', hmg', hg'⟩
    exact ⟨mg', hmg', hg1.trans hg'⟩


def MgrDead (mgrs : List Mgr) (m : Nat) : Prop := ∃ mg, mgrs[m]? = some mg ∧ mg.alive = false
def RcvDead (rcvs : List RcvInfo) (r : Nat) : Prop := ∃ ri, rcvs[r]? = some ri ∧ ri.alive = false

theorem Exec.dropManager_dead {s s' : State} {m : Nat} {o : Out} (h : Exec s (.dropManager m) s' o) :
    MgrDead s'.mgrs m := by
  cases h with
  | dropManager hmg => exact ⟨_, List.getElem?_set_self (List.getElem?_eq_some_iff.mp hmg).1, rfl⟩

theorem step_keeps_mgrDead {s : State} {m : Nat} (op : Op) (hd : MgrDead s.mgrs m) :
    MgrDead (step s op).1.mgrs m := by
  rcases hd with ⟨mg, hmg, hd⟩
  by_cases hop : op = .dropManager m
  · subst hop
    rcases step_cases s (.dropManager m) with h | h
    · rw [h]; exact ⟨mg, hmg, hd⟩
    · exact h.dropManager_dead
  · rcases step_grownIn hmg op hop with ⟨mg', hmg', hg⟩
    exact ⟨mg', hmg', hg.alive.trans hd⟩

section
variable {rcvs : List RcvInfo} {r : Nat}

theorem RcvDead.set {r0 : Nat} {ri0 ri0' : RcvInfo} (hd : RcvDead rcvs r)
    (h0 : rcvs[r0]? = some ri0) (ha : ri0'.alive = true → ri0.alive = true) :
    RcvDead (rcvs.set r0 ri0') r := by
  rcases hd with ⟨ri, hri, hd⟩
  by_cases hr : r0 = r
  · subst hr
    cases h0.symm.trans hri
    exact ⟨ri0', List.getElem?_set_self (List.getElem?_eq_some_iff.mp hri).1,
      Bool.eq_false_iff.mpr fun h => Bool.false_ne_true (hd.symm.trans (ha h))⟩
  · exact ⟨ri, (List.getElem?_set_ne hr).trans hri, hd⟩

theorem RcvDead.append (hd : RcvDead rcvs r) (x : List RcvInfo) : RcvDead (rcvs ++ x) r := by
  rcases hd with ⟨ri, hri, hd⟩
  exact ⟨ri, (List.getElem?_append_left (List.getElem?_eq_some_iff.mp hri).1).trans hri, hd⟩

variable {s s' : State} {o : Out}

theorem Exec.rcvDead {op : Op} (h : Exec s op s' o) (hd : RcvDead s.rcvs r) : RcvDead s'.rcvs r := by
  induction h with
  | newManager => exact hd
  | dropManager _ => exact hd
  | newReceiver T => exact hd.append _
  | subscribeFn T _ _ => exact (hd.append _).set List.getElem?_concat_length id
  | subscribe _ _ hri _ _ => exact hd.set hri id
  | unsubscribeAt _ _ _ => exact hd
  | post T _ _ => exact hd
  | unsubscribe _ hu => exact hu.rcvs ▸ hd
  | dropReceiver hri hu => exact RcvDead.set (hu.rcvs ▸ hd) (hu.rcvs ▸ hri) nofun

theorem Exec.dropReceiver_dead (h : Exec s (.dropReceiver r) s' o) : RcvDead s'.rcvs r := by
  cases h with
  | dropReceiver hri hu =>
    exact ⟨_, List.getElem?_set_self (hu.rcvs ▸ (List.getElem?_eq_some_iff.mp hri).1), rfl⟩

theorem step_keeps_rcvDead (op : Op) (hd : RcvDead s.rcvs r) : RcvDead (step s op).1.rcvs r := by
  rcases step_cases s op with h | h
  · rw [h]; exact hd
  · exact h.rcvDead hd

end


/-- A property of the state that every step keeps and that the operation `op`, within the contract,
establishes holds at the end of every legal history that contains `op`. (`P s` is offered as an
alternative so that one induction covers the steps before `op` and those after it.) -/
theorem runFrom_of_mem {P : State → Prop} {op : Op} (keep : ∀ s op', P s → P (step s op').1)
    (est : ∀ s, legal s op = true → P (step s op).1) (h : List Op) :
    ∀ {s : State}, (P s ∨ (legalFrom s h = true ∧ op ∈ h)) → P (runFrom s h).1 := by
  induction h with
  | nil =>
    intro s hs
    rcases hs with hp | ⟨_, hm⟩
    · exact hp
    · cases hm
  | cons op' t ih =>
    intro s hs
    refine ih ?_
    rcases hs with hp | ⟨hl, hm⟩
    · exact Or.inl (keep s op' hp)
    · rw [legalFrom, Bool.and_eq_true] at hl
      rcases List.mem_cons.mp hm with e | ht
      · exact Or.inl (e ▸ est s (e ▸ hl.1))
      · exact Or.inr ⟨hl.2, ht⟩

section
variable {h : List Op} {s : State} (hl : legalFrom s h = true) {m r : Nat}
include hl

theorem dropManager_mem_dead (hm : Op.dropManager m ∈ h) : MgrDead (runFrom s h).1.mgrs m :=
  runFrom_of_mem (P := fun s => MgrDead s.mgrs m) (fun _ op => step_keeps_mgrDead op)
    (fun _ hl => (exec_of_legal hl).dropManager_dead) h (Or.inr ⟨hl, hm⟩)

theorem dropReceiver_mem_dead (hm : Op.dropReceiver r ∈ h) : RcvDead (runFrom s h).1.rcvs r :=
  runFrom_of_mem (P := fun s => RcvDead s.rcvs r) (fun _ op => step_keeps_rcvDead op)
    (fun _ hl => (exec_of_legal hl).dropReceiver_dead) h (Or.inr ⟨hl, hm⟩)

end

theorem run_sim (h : List Op) : ∀ {s : State} {sp : SState}, Inv s → Sim s sp → legalFrom s h = true →
    Inv (runFrom s h).1 ∧ Sim (runFrom s h).1 (Mustache.Spec.Events.runFrom sp h).1 ∧
      (runFrom s h).2 = (Mustache.Spec.Events.runFrom sp h).2 := by
  induction h with
  | nil => intro s sp hI hS _; exact ⟨hI, hS, rfl⟩
  | cons op t ih =>
    intro s sp hI hS hl
    rw [legalFrom, Bool.and_eq_true] at hl
    rcases step_sim hI hS op hl.1 with ⟨hI1, hS1, hO1⟩
    rcases ih hI1 hS1 hl.2 with ⟨hI', hS', hO'⟩
    exact ⟨hI', hS', congr (congrArg List.cons hO1) hO'⟩

section
variable (h1 h2 : List Op)

theorem runFrom_append : ∀ (s : State),
    runFrom s (h1 ++ h2) =
      ((runFrom (runFrom s h1).1 h2).1, (runFrom s h1).2 ++ (runFrom (runFrom s h1).1 h2).2) := by
  induction h1 with
  | nil => intro s; rfl
  | cons op t ih =>
    intro s
    simp only [List.cons_append, runFrom, ih]

theorem spec_runFrom_append : ∀ (sp : SState),
    Mustache.Spec.Events.runFrom sp (h1 ++ h2) =
      ((Mustache.Spec.Events.runFrom (Mustache.Spec.Events.runFrom sp h1).1 h2).1,
        (Mustache.Spec.Events.runFrom sp h1).2 ++
          (Mustache.Spec.Events.runFrom (Mustache.Spec.Events.runFrom sp h1).1 h2).2) := by
  induction h1 with
  | nil => intro sp; rfl
  | cons op t ih =>
    intro sp
    simp only [List.cons_append, Mustache.Spec.Events.runFrom, ih]

theorem legalFrom_append : ∀ (s : State),
    legalFrom s (h1 ++ h2) = (legalFrom s h1 && legalFrom (runFrom s h1).1 h2) := by
  induction h1 with
  | nil => intro s; rfl
  | cons op t ih =>
    intro s
    simp only [List.cons_append, legalFrom, runFrom, ih, Bool.and_assoc]

end

theorem reachable (h : List Op) (hl : Legal h) :
    Inv (run h).1 ∧ Sim (run h).1 (Mustache.Spec.Events.run h).1 ∧
      (run h).2 = (Mustache.Spec.Events.run h).2 :=
  run_sim h inv_init sim_init hl

theorem subsAfter_eq_lookup {h : List Op} (hl : Legal h) (m : MgrId) (T : Model.Events.TypeName) :
    Mustache.Spec.Events.subsAfter h m T = lookup (run h).1 m T :=
  (reachable h hl).2.1.subs m T

section
variable (h : List Op) (op : Op)

theorem run_snoc_out (hl : Legal (h ++ [op])) :
    (run (h ++ [op])).2 =
      (run h).2 ++ [(Mustache.Spec.Events.step (Mustache.Spec.Events.run h).1 op).2] := by
  have hl' : (legalFrom State.init h && (legal (run h).1 op && true)) = true :=
    legalFrom_append h [op] _ ▸ hl
  rw [Bool.and_true, Bool.and_eq_true] at hl'
  rcases reachable h hl'.1 with ⟨hI, hS, _⟩
  unfold run
  rw [runFrom_append]
  exact congrArg (fun o => (runFrom State.init h).2 ++ [o]) (step_sim hI hS op hl'.2).2.2

theorem subsAfter_snoc (m : MgrId) (T : Model.Events.TypeName) :
    Mustache.Spec.Events.subsAfter (h ++ [op]) m T =
      (Mustache.Spec.Events.step (Mustache.Spec.Events.run h).1 op).1.subs m T := by
  unfold Mustache.Spec.Events.subsAfter Mustache.Spec.Events.run
  rw [spec_runFrom_append]
  rfl

end

end Mustache.Proofs.Events
