import Mustache.Proofs.LifeRun
/-!
# Counting (C03): an accepted log is balanced; the live slots of a component, enumerated and counted
-/
namespace Mustache.Proofs.Life
open Mustache.Model Mustache.Proofs.Rows

def createCount (evs : List Event) : Nat := (evs.filter Event.isCreate).length
def Event.isDestroy : Event → Bool
  | .destroy _ => true
  | _ => false
def destroyCount (evs : List Event) : Nat := (evs.filter Event.isDestroy).length

theorem createCount_cons (e : Event) (es : List Event) :
    createCount (e :: es) = (if Event.isCreate e then 1 else 0) + createCount es := by
  cases h : Event.isCreate e <;> simp [createCount, h, Nat.add_comm]

theorem destroyCount_cons (e : Event) (es : List Event) :
    destroyCount (e :: es) = (if Event.isDestroy e then 1 else 0) + destroyCount es := by
  cases h : Event.isDestroy e <;> simp [destroyCount, h, Nat.add_comm]

theorem acceptStep_cases {s s1 : SlotState} {e : Event} (h : acceptStep s e = some s1) :
    (Event.isCreate e = true ∧ Event.isDestroy e = false ∧ s e.dst = false ∧ s1 = s.set e.dst true) ∨
    (Event.isCreate e = false ∧ Event.isDestroy e = true ∧ s e.dst = true ∧ s1 = s.set e.dst false) ∨
    (Event.isCreate e = false ∧ Event.isDestroy e = false ∧ s1 = s) := by
  cases e with
  | construct x =>
    simp only [acceptStep] at h
    split at h
    · cases h
    · rename_i hx
      exact Or.inl ⟨rfl, rfl, by simpa [Event.dst] using hx, (Option.some.inj h).symm⟩
  | copyConstruct d x =>
    simp only [acceptStep] at h
    split at h
    · rename_i hx
      simp only [Bool.and_eq_true, Bool.not_eq_true'] at hx
      exact Or.inl ⟨rfl, rfl, hx.2, (Option.some.inj h).symm⟩
    · cases h
  | moveConstruct d x =>
    simp only [acceptStep] at h
    split at h
    · rename_i hx
      simp only [Bool.and_eq_true, Bool.not_eq_true'] at hx
      exact Or.inl ⟨rfl, rfl, hx.2, (Option.some.inj h).symm⟩
    · cases h
  | moveAssign d x =>
    simp only [acceptStep] at h
    split at h
    · exact Or.inr (Or.inr ⟨rfl, rfl, (Option.some.inj h).symm⟩)
    · cases h
  | destroy x =>
    simp only [acceptStep] at h
    split at h
    · rename_i hx
      exact Or.inr (Or.inl ⟨rfl, rfl, hx, (Option.some.inj h).symm⟩)
    · cases h

/-- along an accepted log the number of live slots is: before + constructions − destructions. A slot set is a
function, so its size is spoken of through a duplicate-free list enumerating it. -/
theorem accepted_count (evs : List Event) (s s' : SlotState) (h : accepts s evs = some s') (xs : List LSlot)
    (hs : ∀ y, s y = true ↔ y ∈ xs) (hnd : xs.Nodup) :
    ∃ xs' : List LSlot, (∀ y, s' y = true ↔ y ∈ xs') ∧ xs'.Nodup ∧
      xs'.length + destroyCount evs = xs.length + createCount evs := by
  induction evs generalizing s xs with
  | nil =>
    cases h
    exact ⟨xs, hs, hnd, rfl⟩
  | cons e es ih =>
    rw [accepts_cons] at h
    cases hst : acceptStep s e with
    | none => rw [hst] at h; cases h
    | some s1 =>
      rw [hst, Option.bind_some] at h
      rw [createCount_cons, destroyCount_cons]
      rcases acceptStep_cases hst with ⟨hc, hz, hd, rfl⟩ | ⟨hc, hz, hd, rfl⟩ | ⟨hc, hz, hs1⟩
      · have hdx : e.dst ∉ xs := fun hm => by rw [(hs _).mpr hm] at hd; cases hd
        rcases ih _ h (e.dst :: xs) (fun y => by rw [set_true_apply, List.mem_cons, hs])
          (List.nodup_cons.mpr ⟨hdx, hnd⟩) with ⟨xs', h1, h2, h3⟩
        refine ⟨xs', h1, h2, ?_⟩
        rw [hc, hz]
        simp only [if_true, Bool.false_eq_true, if_false]
        rw [Nat.zero_add, h3, List.length_cons, Nat.add_assoc]
      · have hxm : e.dst ∈ xs := (hs _).mp hd
        rcases ih _ h (xs.erase e.dst) (fun y => by rw [set_false_apply, hnd.mem_erase_iff, hs])
          (hnd.erase _) with ⟨xs', h1, h2, h3⟩
        refine ⟨xs', h1, h2, ?_⟩
        rw [List.length_erase_of_mem hxm] at h3
        rw [hc, hz]
        simp only [if_true, Bool.false_eq_true, if_false]
        rw [Nat.zero_add, Nat.add_left_comm, h3, ← Nat.add_assoc, Nat.add_comm 1,
          Nat.sub_add_cancel (List.length_pos_of_mem hxm)]
      · rcases ih s (hs1 ▸ h) xs hs hnd with ⟨xs', h1, h2, h3⟩
        refine ⟨xs', h1, h2, ?_⟩
        rw [hc, hz]
        simp only [Bool.false_eq_true, if_false]
        rw [Nat.zero_add, Nat.zero_add]
        exact h3

def storedSlotsOf (w : WM) (c : CompId) : List LSlot :=
  w.archs.zipIdx.flatMap (fun ai =>
    if ai.1.mask.contains c then (List.range ai.1.rows.length).map (fun i => LSlot.stored ai.2 c i) else [])

def parkedSlotsOf (bufs : List (List Cmd)) (c : CompId) : List LSlot :=
  bufs.zipIdx.flatMap (fun bt => (tempSlots bt.2 0 bt.1).filter (fun y => y.comp == c))

def liveSlotsOf (w : WM) (c : CompId) : List LSlot := storedSlotsOf w c ++ parkedSlotsOf w.buffers c

theorem mem_storedSlotsOf (w : WM) (c : CompId) (y : LSlot) :
    y ∈ storedSlotsOf w c ↔ (storedLive w y = true ∧ y.comp = c) := by
  unfold storedSlotsOf
  rw [List.mem_flatMap]
  constructor
  · rintro ⟨ai, hai, hy⟩
    have harch := arch_of_getElem? (List.mem_zipIdx_iff_getElem?.mp hai)
    split at hy
    · rename_i hc
      simp only [List.mem_map, List.mem_range] at hy
      rcases hy with ⟨i, hi, rfl⟩
      refine ⟨?_, rfl⟩
      rw [storedLive_stored, harch]
      exact ⟨by simpa using hc, hi⟩
    · cases hy
  · rintro ⟨hl, hc⟩
    cases y with
    | temp t k c' => cases hl
    | stored a c' i =>
      simp only [LSlot.comp] at hc
      subst hc
      rw [storedLive_stored] at hl
      have hlt : a < w.archs.length := lt_archs_of_rows hl.2
      refine ⟨(w.archs[a], a), List.mem_zipIdx_iff_getElem?.mpr (List.getElem?_eq_getElem hlt), ?_⟩
      have harch : w.arch a = w.archs[a] := arch_lt hlt
      simp only
      rw [← harch, if_pos (by simpa using hl.1)]
      exact List.mem_map.mpr ⟨i, List.mem_range.mpr hl.2, rfl⟩

theorem mem_parkedSlotsOf (bufs : List (List Cmd)) (c : CompId) (y : LSlot) :
    y ∈ parkedSlotsOf bufs c ↔ (tempLive bufs y = true ∧ y.comp = c) := by
  unfold parkedSlotsOf
  rw [List.mem_flatMap]
  constructor
  · rintro ⟨bt, hbt, hy⟩
    have hb := List.mem_zipIdx_iff_getElem?.mp hbt
    rw [List.mem_filter] at hy
    rcases (mem_tempSlots _ _ _ _).mp hy.1 with ⟨j, e, c', v, h1, rfl⟩
    refine ⟨?_, by simpa using hy.2⟩
    rw [tempLive_temp, List.getD_eq_getElem?_getD, hb, Nat.zero_add]
    exact ⟨e, v, h1⟩
  · rintro ⟨hl, hc⟩
    cases y with
    | stored a c' i => cases hl
    | temp t k c' =>
      simp only [LSlot.comp] at hc
      subst hc
      rcases (tempLive_temp _ _ _ _).mp hl with ⟨e, v, h1⟩
      cases hb : bufs[t]? with
      | none =>
        rw [List.getD_eq_getElem?_getD, hb] at h1
        cases h1
      | some buf =>
        rw [List.getD_eq_getElem?_getD, hb] at h1
        refine ⟨(buf, t), List.mem_zipIdx_iff_getElem?.mpr hb, ?_⟩
        rw [List.mem_filter]
        refine ⟨(mem_tempSlots _ _ _ _).mpr ⟨k, e, c', v, h1, by rw [Nat.zero_add]⟩, by simp [LSlot.comp]⟩

theorem mem_liveSlotsOf (w : WM) (c : CompId) (y : LSlot) :
    y ∈ liveSlotsOf w c ↔ (slotsOf w y = true ∧ y.comp = c) := by
  unfold liveSlotsOf slotsOf
  rw [List.mem_append, mem_storedSlotsOf, mem_parkedSlotsOf, Bool.or_eq_true]
  constructor
  · rintro (⟨h1, h2⟩ | ⟨h1, h2⟩)
    · exact ⟨Or.inl h1, h2⟩
    · exact ⟨Or.inr h1, h2⟩
  · rintro ⟨h1 | h1, h2⟩
    · exact Or.inl ⟨h1, h2⟩
    · exact Or.inr ⟨h1, h2⟩

/-- a `flatMap` over a duplicate-free index list whose pieces are duplicate-free and tagged by their index -/
theorem nodup_flatMap_tagged {α β γ : Type} (tag : β → γ) (key : α → γ) (l : List α) (f : α → List β)
    (hl : (l.map key).Nodup) (hf : ∀ a ∈ l, (f a).Nodup) (ht : ∀ a ∈ l, ∀ y ∈ f a, tag y = key a) :
    (l.flatMap f).Nodup := by
  rw [List.Nodup, List.pairwise_map] at hl
  rw [List.Nodup, List.pairwise_flatMap]
  exact ⟨hf, hl.imp_of_mem (fun ha hb hab x hx y hy hxy => hab (by rw [← ht _ ha x hx, ← ht _ hb y hy, hxy]))⟩

theorem zipIdx_snd_nodup {α : Type} (l : List α) (o : Nat) : ((l.zipIdx o).map (·.2)).Nodup := by
  rw [List.zipIdx_map_snd]; exact List.nodup_range'

def slotTag : LSlot → Nat
  | .stored a _ _ => a
  | .temp t _ _ => t

theorem liveSlotsOf_nodup (w : WM) (c : CompId) (_hm : MasksOk w) : (liveSlotsOf w c).Nodup := by
  unfold liveSlotsOf
  rw [List.nodup_append]
  refine ⟨?_, ?_, ?_⟩
  · apply nodup_flatMap_tagged slotTag (·.2) _ _ (zipIdx_snd_nodup _ 0)
    · intro ai _
      split
      · exact List.Pairwise.map _ (fun a b (hab : a ≠ b) => by simpa using hab) List.nodup_range
      · exact List.nodup_nil
    · intro ai _ y hy
      split at hy
      · simp only [List.mem_map] at hy
        rcases hy with ⟨i, _, rfl⟩; rfl
      · cases hy
  · apply nodup_flatMap_tagged slotTag (·.2) _ _ (zipIdx_snd_nodup _ 0)
    · intro bt _
      exact (tempSlots_nodup _ _ _).filter _
    · intro bt _ y hy
      rcases (mem_tempSlots _ _ _ _).mp (List.mem_filter.mp hy).1 with ⟨_, _, _, _, _, rfl⟩; rfl
  · intro x hx y hy hxy
    subst hxy
    have h1 := ((mem_storedSlotsOf w c x).mp hx).1
    have h2 := ((mem_parkedSlotsOf w.buffers c x).mp hy).1
    cases x with
    | stored a c' i => cases h2
    | temp t k c' => cases h1

theorem storedSlotsOf_length_aux (c : CompId) (l : List Arch) (o n : Nat) :
    ((l.zipIdx o).flatMap (fun ai =>
      if ai.1.mask.contains c then (List.range ai.1.rows.length).map (fun i => LSlot.stored ai.2 c i) else [])).length + n =
    l.foldl (fun n a => if a.mask.contains c then n + a.rows.length else n) n := by
  induction l generalizing o n with
  | nil => simp
  | cons a as ih =>
    rw [List.zipIdx_cons, List.flatMap_cons, List.length_append, List.foldl_cons]
    rw [← ih (o + 1)]
    by_cases hc : a.mask.contains c = true
    · simp only [hc, if_true, List.length_map, List.length_range]
      rw [Nat.add_comm a.rows.length, Nat.add_assoc, Nat.add_comm a.rows.length n]
    · simp only [hc, Bool.false_eq_true, if_false, List.length_nil]; omega

def TempsAgree (w : WM) (c : CompId) : Prop := tempCount w.temps c = (parkedSlotsOf w.buffers c).length

theorem tempSlots_filter_length (t : Nat) (c : CompId) (buf : List Cmd) (off : Nat) :
    ((tempSlots t off buf).filter (fun y => y.comp == c)).length = (buf.filter (isAssignOf c)).length := by
  induction buf generalizing off with
  | nil => rfl
  | cons cmd cs ih =>
    cases cmd with
    | assign e c' v =>
      have hc : (LSlot.temp t off c').comp = c' := rfl
      simp only [tempSlots, List.filter_cons, hc, isAssignOf]
      by_cases hcc : (c' == c) = true
      · simp only [hcc, if_true, List.length_cons, ih (off + 1)]
      · simp only [hcc, Bool.false_eq_true, if_false, ih (off + 1)]
    | _ => simp only [tempSlots, List.filter_cons, isAssignOf]; exact ih (off + 1)

theorem parked_length_aux (c : CompId) (bufs : List (List Cmd)) (o : Nat) :
    ((bufs.zipIdx o).flatMap (fun bt => (tempSlots bt.2 0 bt.1).filter (fun y => y.comp == c))).length =
      (bufs.map (fun b => (b.filter (isAssignOf c)).length)).sum := by
  induction bufs generalizing o with
  | nil => rfl
  | cons b bs ih =>
    rw [List.zipIdx_cons, List.flatMap_cons, List.length_append, List.map_cons, List.sum_cons, ih (o + 1),
      tempSlots_filter_length]

theorem parked_length (bufs : List (List Cmd)) (c : CompId) : (parkedSlotsOf bufs c).length = nAssign bufs c :=
  parked_length_aux c bufs 0

theorem tempsInv_agree {info : CompId → CompInfo} {w : WM} (h : TempsInv info w) (c : CompId)
    (hc : (info c).counted = true) : TempsAgree w c := by
  unfold TempsAgree; rw [parked_length]; exact h c hc

theorem tempsInv_run (info : CompId → CompInfo) (w : WM) (ops : List (Op Handle)) (hr : RunOk info w ops)
    (h : TempsInv info w) : TempsInv info (run info w ops) := by
  induction ops generalizing w with
  | nil => exact h
  | cons op ops ih => exact ih _ hr.2 ((step_callOk info w op hr.1.2).temps h)

end Mustache.Proofs.Life
