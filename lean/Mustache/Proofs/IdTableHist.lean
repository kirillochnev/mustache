import Mustache.Proofs.IdTableRelease
import Mustache.Proofs.IdTableCreate
/-!
# Id table: histories

A history is a list of table-level operations `TOp`: what the world model does to the id table, in the
order it does it. `run` executes it on `Tab` and keeps, next to the table, the history-only bookkeeping
`Ghost` and the event log `evs` (which handle was returned, when a creation / destruction took effect).
`WF` is the contract of a history. Every operation is a sequence of micro-steps (`alloc`, `reserve`, the
`install` / `kill` actions of a flush, `kill`s) plus bookkeeping that touches neither ghost state nor log;
`run_micro` is the induction principle: the invariant, and with it any property kept by the micro-steps,
holds along every well-formed history whose versions do not wrap and whose ids stay below the null id.
-/
namespace Mustache.Proofs.IdTable
open Mustache.Model

/-- the table effects of the flush at the outermost unlock, in flush order: a command pack contributes an `install`
(create pack), a `kill` (pack with a `destroyNow`), both, or nothing -/
inductive FAct where
  | install (h : Handle)     -- create command: the slot of the reserved handle is installed
  | kill (h : Handle)        -- destroyNow command: checked destruction (a create pack releases its own handle)
deriving DecidableEq, Repr

inductive TOp where
  | alloc                          -- unlocked creation (`create`, `clone`, builder): `allocId`
  | destroyNow (h : Handle)        -- checked `destroyNow` taking effect now
  | lock
  | reserve                        -- creation while locked: `createLocked`
  | unlock (acts : List FAct)      -- `unlock`; `acts` = table effects of the flush, in flush order
  | clear (hs : List Handle)       -- `clearArchetype` of an archetype whose rows carry `hs`
  | mark (h : Handle)              -- `destroy(h)` taking effect on `marked_for_delete_`
  | update (hs : List Handle)      -- `update()`; `hs` = the marked set in iteration order
deriving Repr

inductive Ev where
  | issued (h : Handle)      -- a creation call returned `h`
  | effect (h : Handle)      -- the creation of `h` took effect
  | killed (h : Handle)      -- a destruction of `h` took effect (no-op when `h` is not alive)
deriving DecidableEq, Repr

structure St where
  tab : Tab
  g : Ghost
  marked : List Handle
  evs : List Ev

def St.init (wid : Nat) : St := ⟨{ worldId := wid }, Ghost.init, [], []⟩

def St.kill (s : St) (h : Handle) : St :=
  { s with tab := s.tab.destroyNow h, g := s.g.destroy h, evs := s.evs ++ [.killed h] }

def St.install (s : St) (h : Handle) : St :=
  { s with tab := s.tab.install h, g := s.g.install h, evs := s.evs ++ [.effect h] }

def St.act (s : St) : FAct → St
  | .install h => s.install h
  | .kill h => s.kill h

def step (s : St) : TOp → St
  | .alloc =>
    let r := s.tab.alloc
    { s with tab := r.1, g := s.g.create r.2, evs := s.evs ++ [.issued r.2, .effect r.2] }
  | .destroyNow h => s.kill h
  | .lock => { s with tab := s.tab.lock }
  | .reserve =>
    let r := s.tab.reserve
    { s with tab := r.1, g := s.g.reserve r.2, evs := s.evs ++ [.issued r.2] }
  | .unlock acts =>
    let s' := { s with tab := s.tab.unlockDepth }
    if s'.tab.lockDepth = 0 then acts.foldl St.act s' else s'
  | .clear hs =>
    { s with tab := s.tab.clearList hs, g := s.g.destroyAll hs, evs := s.evs ++ hs.map .killed }
  | .mark h => { s with marked := h :: s.marked }
  | .update hs =>
    if s.tab.lockDepth > 0 then s else
    let s' := hs.foldl St.kill s
    { s' with marked := [] }

def runFrom (s : St) (ops : List TOp) : St := ops.foldl step s
def run (wid : Nat) (ops : List TOp) : St := runFrom (St.init wid) ops

/-- the installs of a flush are an ordering of the pending reservations (each exactly once) -/
def actsOk (pend : List Handle) : List FAct → Bool
  | [] => pend.isEmpty
  | .install h :: r => pend.contains h && actsOk (pend.filter (· ≠ h)) r
  | .kill _ :: r => actsOk pend r

def opOk (s : St) : TOp → Bool
  | .alloc => s.tab.lockDepth == 0
  | .destroyNow _ => true
  | .lock => true
  | .reserve => decide (0 < s.tab.lockDepth)
  | .unlock acts => if s.tab.lockDepth ≤ 1 then actsOk s.g.pending acts else acts.isEmpty
  | .clear hs => hs.all (fun h => s.g.live.contains h) && decide hs.Nodup
  | .mark _ => true
  | .update hs => hs.all (fun h => s.marked.contains h) && s.marked.all (fun h => hs.contains h)

def wfFrom (s : St) : List TOp → Bool
  | [] => true
  | op :: r => opOk s op && wfFrom (step s op) r

def WF (wid : Nat) (ops : List TOp) : Prop := wfFrom (St.init wid) ops = true
/-- no issued handle carries the last version before the 24-bit wrap -/
def NoWrap (s : St) : Prop := ∀ h ∈ s.g.issued, h.ver + 1 < 2^24
/-- the table has not reached the null id -/
def InRange (s : St) : Prop := s.tab.slots.length ≤ 2^30 - 1

instance (s : St) : Decidable (NoWrap s) := by unfold NoWrap; infer_instance
instance (s : St) : Decidable (InRange s) := by unfold InRange; infer_instance
instance (wid : Nat) (ops : List TOp) : Decidable (WF wid ops) := by unfold WF; infer_instance

/-- state invariant between operations -/
structure SInv (s : St) : Prop where
  tinv : TInv s.tab s.g
  idle : s.tab.lockDepth = 0 → s.g.pending = []

theorem init_sinv (wid : Nat) : SInv (St.init wid) := ⟨init_inv wid, fun _ => rfl⟩

theorem kills_tab (s : St) (hs : List Handle) : (hs.foldl St.kill s).tab = s.tab.destroyAll hs :=
  (List.foldl_hom St.tab fun _ _ => rfl).symm

theorem kills_g (s : St) (hs : List Handle) : (hs.foldl St.kill s).g = s.g.destroyAll hs :=
  (List.foldl_hom St.g fun _ _ => rfl).symm

theorem kills_marked (s : St) (hs : List Handle) : (hs.foldl St.kill s).marked = s.marked :=
  foldl_keeps St.kill St.marked (fun _ _ => rfl) hs s

theorem kills_evs (s : St) (hs : List Handle) : (hs.foldl St.kill s).evs = s.evs ++ hs.map .killed := by
  induction hs generalizing s with
  | nil => exact (List.append_nil _).symm
  | cons a r ih => exact (ih _).trans (List.append_assoc ..)

theorem act_issued (s : St) (a : FAct) : (s.act a).g.issued = s.g.issued := by cases a <;> rfl

theorem act_length_ge (s : St) (a : FAct) : s.tab.slots.length ≤ (s.act a).tab.slots.length := by
  cases a with
  | install h => exact install_length_ge _ _
  | kill h => exact Nat.le_of_eq (destroyNow_length _ _).symm

theorem acts_length_ge (s : St) (acts : List FAct) :
    s.tab.slots.length ≤ (acts.foldl St.act s).tab.slots.length := by
  induction acts generalizing s with
  | nil => exact Nat.le_refl _
  | cons a r ih => exact Nat.le_trans (act_length_ge s a) (ih _)

theorem act_lockDepth (s : St) (a : FAct) : (s.act a).tab.lockDepth = s.tab.lockDepth := by
  cases a with
  | install h => rfl
  | kill h => exact destroyNow_lockDepth _ _

theorem step_unlock_flush {s : St} (acts : List FAct) (h : s.tab.unlockDepth.lockDepth = 0) :
    step s (.unlock acts) = acts.foldl St.act { s with tab := s.tab.unlockDepth } := if_pos h

theorem step_unlock_nested {s : St} (acts : List FAct) (h : s.tab.unlockDepth.lockDepth ≠ 0) :
    step s (.unlock acts) = { s with tab := s.tab.unlockDepth } := if_neg h

theorem step_update_locked {s : St} (hs : List Handle) (h : s.tab.lockDepth > 0) : step s (.update hs) = s := if_pos h

theorem step_update {s : St} (hs : List Handle) (h : ¬ s.tab.lockDepth > 0) :
    step s (.update hs) = { hs.foldl St.kill s with marked := [] } := if_neg h

theorem step_mono (s : St) (op : TOp) :
    (∀ h ∈ s.g.issued, h ∈ (step s op).g.issued) ∧ s.tab.slots.length ≤ (step s op).tab.slots.length := by
  cases op with
  | alloc => exact ⟨fun _ => List.mem_cons_of_mem _, alloc_length_ge _⟩
  | destroyNow x => exact ⟨fun _ hi => hi, Nat.le_of_eq (destroyNow_length _ _).symm⟩
  | lock => exact ⟨fun _ hi => hi, Nat.le_of_eq (congrArg List.length (lock_slots _)).symm⟩
  | reserve => exact ⟨fun _ => List.mem_cons_of_mem _, Nat.le_refl _⟩
  | unlock acts =>
    have h1 : s.tab.slots.length = s.tab.unlockDepth.slots.length := (congrArg List.length (unlockDepth_slots _)).symm
    by_cases hd : s.tab.unlockDepth.lockDepth = 0
    · rw [step_unlock_flush acts hd, foldl_keeps St.act (·.g.issued) act_issued]
      exact ⟨fun _ hi => hi, Nat.le_trans (Nat.le_of_eq h1) (acts_length_ge { s with tab := s.tab.unlockDepth } acts)⟩
    · rw [step_unlock_nested acts hd]; exact ⟨fun _ hi => hi, Nat.le_of_eq h1⟩
  | clear hs => exact ⟨fun _ hi => (destroyAll_issued s.g hs).symm ▸ hi, Nat.le_of_eq (clearList_length _ _).symm⟩
  | mark x => exact ⟨fun _ hi => hi, Nat.le_refl _⟩
  | update hs =>
    by_cases hd : s.tab.lockDepth > 0
    · rw [step_update_locked hs hd]; exact ⟨fun _ hi => hi, Nat.le_refl _⟩
    · rw [step_update hs hd]
      exact ⟨fun _ hi => (kills_g s hs ▸ destroyAll_issued s.g hs).symm ▸ hi,
        Nat.le_of_eq ((kills_tab s hs ▸ destroyAll_length s.tab hs).symm)⟩

theorem NoWrap.of_step {s : St} {op : TOp} (h : NoWrap (step s op)) : NoWrap s :=
  fun x hx => h x ((step_mono s op).1 x hx)
theorem InRange.of_step {s : St} {op : TOp} (h : InRange (step s op)) : InRange s :=
  Nat.le_trans (step_mono s op).2 h

theorem NoWrap.of_run {s : St} {ops : List TOp} (h : NoWrap (runFrom s ops)) : NoWrap s := by
  induction ops generalizing s with
  | nil => exact h
  | cons op r ih => exact (ih h).of_step

theorem InRange.of_run {s : St} {ops : List TOp} (h : InRange (runFrom s ops)) : InRange s := by
  induction ops generalizing s with
  | nil => exact h
  | cons op r ih => exact (ih h).of_step

/-- a property of ghost state and event log, kept by the four micro-steps -/
structure Micro (P : St → Prop) : Prop where
  alloc : ∀ s, SInv s → s.tab.lockDepth = 0 → P s → P (step s .alloc)
  reserve : ∀ s, SInv s → 0 < s.tab.lockDepth → P s → P (step s .reserve)
  install : ∀ s h, TInv s.tab s.g → h ∈ s.g.pending → P s → P (s.install h)
  kill : ∀ s h, TInv s.tab s.g → InRange s → NoWrap s → P s → P (s.kill h)
  frame : ∀ s s', s'.g = s.g → s'.evs = s.evs → P s → P s'

theorem Micro.trivial : Micro fun _ => True :=
  ⟨fun _ _ _ _ => ⟨⟩, fun _ _ _ _ => ⟨⟩, fun _ _ _ _ _ => ⟨⟩, fun _ _ _ _ _ _ => ⟨⟩, fun _ _ _ _ _ => ⟨⟩⟩

theorem kills_micro {P : St → Prop} (m : Micro P) (hs : List Handle) (s : St) (inv : TInv s.tab s.g)
    (hr : InRange s) (hw : NoWrap s) (hP : P s) :
    TInv (hs.foldl St.kill s).tab (hs.foldl St.kill s).g ∧ P (hs.foldl St.kill s) := by
  induction hs generalizing s with
  | nil => exact ⟨inv, hP⟩
  | cons a r ih =>
    exact ih (s.kill a) (destroyNow_inv inv hr a (hw a)) (Nat.le_trans (Nat.le_of_eq (destroyNow_length s.tab a)) hr) hw
      (m.kill s a inv hr hw hP)

theorem acts_micro {P : St → Prop} (m : Micro P) (acts : List FAct) (s : St) (inv : TInv s.tab s.g)
    (hok : actsOk s.g.pending acts = true) (hr : InRange (acts.foldl St.act s)) (hw : NoWrap s) (hP : P s) :
    SInv (acts.foldl St.act s) ∧ P (acts.foldl St.act s) := by
  induction acts generalizing s with
  | nil => exact ⟨⟨inv, fun _ => List.isEmpty_iff.mp hok⟩, hP⟩
  | cons a r ih =>
    have hr1 : InRange s := Nat.le_trans (act_length_ge s a) (Nat.le_trans (acts_length_ge _ r) hr)
    cases a with
    | install h =>
      have ⟨h1, h2⟩ := Bool.and_eq_true_iff.mp hok
      have hp := List.contains_iff_mem.mp h1
      exact ih (s.install h) (install_inv inv hp) h2 hr hw (m.install s h inv hp hP)
    | kill h => exact ih (s.kill h) (destroyNow_inv inv hr1 h (hw h)) hok hr hw (m.kill s h inv hr1 hw hP)

theorem step_micro {P : St → Prop} (m : Micro P) {s : St} {op : TOp} (si : SInv s) (hok : opOk s op = true)
    (hr : InRange (step s op)) (hw : NoWrap (step s op)) (hP : P s) : SInv (step s op) ∧ P (step s op) := by
  have hr0 : InRange s := hr.of_step
  have hw0 : NoWrap s := hw.of_step
  cases op with
  | alloc =>
    have hd : s.tab.lockDepth = 0 := beq_iff_eq.mp hok
    exact ⟨⟨(alloc_inv si.tinv (si.idle hd) hd).1, fun _ => si.idle hd⟩, m.alloc s si hd hP⟩
  | destroyNow h =>
    exact ⟨⟨destroyNow_inv si.tinv hr0 h (hw0 h), fun hd => si.idle ((destroyNow_lockDepth s.tab h).symm.trans hd)⟩,
      m.kill s h si.tinv hr0 hw0 hP⟩
  | lock =>
    exact ⟨⟨lock_inv si.tinv si.idle, fun hd => absurd ((lock_lockDepth _).symm.trans hd) (Nat.succ_ne_zero _)⟩,
      m.frame s _ rfl rfl hP⟩
  | reserve =>
    have hd : 0 < s.tab.lockDepth := of_decide_eq_true hok
    exact ⟨⟨(reserve_inv si.tinv hd).1, fun h0 => absurd h0 (Nat.ne_of_gt hd)⟩, m.reserve s si hd hP⟩
  | unlock acts =>
    by_cases hd : s.tab.unlockDepth.lockDepth = 0
    · rw [step_unlock_flush acts hd] at hr ⊢
      -- the outermost unlock: the contract asks for an ordering of the pending reservations
      have hle : s.tab.lockDepth ≤ 1 := Nat.le_of_sub_eq_zero ((unlockDepth_lockDepth _).symm.trans hd)
      have hok' : actsOk s.g.pending acts = true := (if_pos hle).symm.trans hok
      exact acts_micro m acts _ (unlockDepth_inv si.tinv) hok' hr hw0 (m.frame s _ rfl rfl hP)
    · rw [step_unlock_nested acts hd]
      exact ⟨⟨unlockDepth_inv si.tinv, fun hd' => absurd hd' hd⟩, m.frame s _ rfl rfl hP⟩
  | clear hs =>
    -- on ghost state and log `clearArchetype` is a run of destructions of its (live, distinct) rows
    have ⟨h1, h2⟩ := Bool.and_eq_true_iff.mp hok
    have hlive : ∀ h ∈ hs, h ∈ s.g.live := fun h hh => List.contains_iff_mem.mp (List.all_eq_true.mp h1 h hh)
    refine ⟨⟨clearList_inv si.tinv hs hlive (of_decide_eq_true h2)
        fun h hh => hw0 h (si.tinv.live_issued h (hlive h hh)), fun hd => ?_⟩,
      m.frame _ _ (kills_g s hs).symm (kills_evs s hs).symm (kills_micro m hs s si.tinv hr0 hw0 hP).2⟩
    exact (destroyAll_pending s.g hs).trans (si.idle ((foldl_keeps Tab.clear1 (·.lockDepth) (fun _ _ => rfl) hs _).symm.trans hd))
  | mark h => exact ⟨⟨si.tinv, si.idle⟩, m.frame s _ rfl rfl hP⟩
  | update hs =>
    by_cases hd : s.tab.lockDepth > 0
    · rw [step_update_locked hs hd]; exact ⟨si, hP⟩
    · rw [step_update hs hd]
      have ⟨inv, hP'⟩ := kills_micro m hs s si.tinv hr0 hw0 hP
      refine ⟨⟨inv, fun _ => ?_⟩, m.frame (hs.foldl St.kill s) _ rfl rfl hP'⟩
      exact (kills_g s hs ▸ destroyAll_pending s.g hs).trans (si.idle (Nat.eq_zero_of_not_pos hd))

theorem run_micro {P : St → Prop} (m : Micro P) (ops : List TOp) (s : St) (si : SInv s) (hP : P s)
    (hwf : wfFrom s ops = true) (hr : InRange (runFrom s ops)) (hw : NoWrap (runFrom s ops)) :
    SInv (runFrom s ops) ∧ P (runFrom s ops) := by
  induction ops generalizing s with
  | nil => exact ⟨si, hP⟩
  | cons op r ih =>
    have ⟨h1, h2⟩ := Bool.and_eq_true_iff.mp hwf
    have ⟨si', hP'⟩ := step_micro m si h1 (InRange.of_run (ops := r) hr) (NoWrap.of_run (ops := r) hw) hP
    exact ih (step s op) si' hP' h2 hr hw

theorem run_sinv (ops : List TOp) (s : St) (si : SInv s) (hwf : wfFrom s ops = true)
    (hr : InRange (runFrom s ops)) (hw : NoWrap (runFrom s ops)) : SInv (runFrom s ops) :=
  (run_micro Micro.trivial ops s si ⟨⟩ hwf hr hw).1

theorem runFrom_append (s : St) (a b : List TOp) : runFrom s (a ++ b) = runFrom (runFrom s a) b :=
  List.foldl_append

theorem wfFrom_append (s : St) (a b : List TOp) :
    wfFrom s (a ++ b) = (wfFrom s a && wfFrom (runFrom s a) b) := by
  induction a generalizing s with
  | nil => exact (Bool.true_and _).symm
  | cons op r ih => exact (congrArg (opOk s op && ·) (ih _)).trans (Bool.and_assoc ..).symm

end Mustache.Proofs.IdTable
