import Mustache.Proofs.CApiCongr
/-! # C18 helper: the `callbacks` flag never influences state or returned values

`AgreeV I I'`: the two descriptions agree on `defaultVal`, `fixed` and `counted` (they may differ in `callbacks`).
For every operation `f` of the C++ interface layer, `f I` and `f I'` yield the same state (`…_fst`), and the same
returned value where there is one (`…_vals`); only the callback log differs. Lifted through the folds of `update`,
`applyPack`, `flush` and to whole call sequences (`xrun_vals`).

The proofs follow the definitions: `ite_proj` for an `if`, `cases` for a `match`, `foldl_proj_rel` for a fold, and the
callee's lemma under `congrArg` where the caller only post-processes the callee's state. No step lets `rfl` compare
a term in `I` with the same term in `I'`: it fails only after unfolding both to the end. -/
namespace Mustache.Proofs.CApi
open Mustache.Model Mustache.Model.CApi

structure AgreeV (I I' : CompId → CompInfo) : Prop where
  dv : ∀ c, defaultVal I c = defaultVal I' c
  fx : ∀ c, (I c).fixed = (I' c).fixed
  ct : ∀ c, (I c).counted = (I' c).counted

def vals {β : Type} (r : WM × β × List Cb) : WM × β := (r.1, r.2.1)

theorem vals_cases {β : Type} {a b : WM × β × List Cb} (h : vals a = vals b) :
    ∃ s x l l', a = (s, x, l) ∧ b = (s, x, l') := by
  obtain ⟨s, x, l⟩ := a
  obtain ⟨_, _, l'⟩ := b
  cases h
  exact ⟨s, x, l, l', rfl, rfl⟩

theorem ite_proj {α γ : Type} {π : α → γ} {c : Prop} [Decidable c] {a a' b b' : α} (ha : π a = π a') (hb : π b = π b') :
    π (if c then a else b) = π (if c then a' else b') := by
  split
  · exact ha
  · exact hb

theorem foldl_proj_rel {S T α : Type} (π : S → T) (f g : S → α → S)
    (hfg : ∀ a b x, π a = π b → π (f a x) = π (g b x)) (l : List α) (a b : S) (h : π a = π b) :
    π (l.foldl f a) = π (l.foldl g b) := by
  induction l generalizing a b with
  | nil => exact h
  | cons x xs ih => exact ih _ _ (hfg a b x h)

theorem foldl_log_fst {α : Type} (g g' : WM → α → WM × List Cb) (hg : ∀ w x, (g w x).1 = (g' w x).1) (l : List α)
    (a b : WM × List Cb) (hab : a.1 = b.1) :
    (l.foldl (fun acc x => let (w', c) := g acc.1 x; (w', acc.2 ++ c)) a).1 =
    (l.foldl (fun acc x => let (w', c) := g' acc.1 x; (w', acc.2 ++ c)) b).1 :=
  foldl_proj_rel (·.1) _ _ (fun a b x (hab : a.1 = b.1) => hab ▸ hg a.1 x) l a b hab

/-- `ha`, `ha'` let the caller name the two results by `generalize` and leave their arguments to unification. -/
theorem optPair_cases {a a' o o' : Option (WM × List Cb)} (h : a.map (·.1) = a'.map (·.1)) (ha : a = o) (ha' : a' = o') :
    (o = none ∧ o' = none) ∨ ∃ s l l', o = some (s, l) ∧ o' = some (s, l') := by
  subst ha ha'
  obtain _ | ⟨s, l⟩ := a <;> obtain _ | ⟨s', l'⟩ := a' <;> cases h
  · exact .inl ⟨rfl, rfl⟩
  · exact .inr ⟨s, l, l', rfl, rfl⟩

variable {I I' : CompId → CompInfo}

theorem archRemove_fst (w : WM) (ai idx : Nat) (skip : Mask) :
    (w.archRemove I ai idx skip).1 = (w.archRemove I' ai idx skip).1 := by
  unfold WM.archRemove
  dsimp only
  cases (w.arch ai).rows[idx]? with
  | none => rfl
  | some row => exact ite_proj rfl rfl

theorem archInsert_fst (h : AgreeV I I') (w : WM) (ai : Nat) (e : Handle) (skip : Mask) :
    (w.archInsert I ai e skip).1 = (w.archInsert I' ai e skip).1 := by
  unfold WM.archInsert
  simp only [h.dv, h.fx]

theorem externalMove_fst (h : AgreeV I I') (w : WM) (target : Nat) (e : Handle) (prev prevIdx : Nat) (skip : Mask) :
    (w.externalMove I target e prev prevIdx skip).map (·.1) = (w.externalMove I' target e prev prevIdx skip).map (·.1) := by
  refine ite_proj rfl ?_
  simp only [h.dv, h.fx]
  exact congrArg (fun s : WM => some (s.setLoc e (some target) _)) (archRemove_fst ..)

theorem destroyNowU_fst (w : WM) (e : Handle) :
    (w.destroyNowU I e).1 = (w.destroyNowU I' e).1 := by
  refine ite_proj rfl (congrArg (WM.release · e) ?_)
  cases (w.locOf e).arch with
  | none => rfl
  | some ai => exact archRemove_fst w ai (w.locOf e).idx []

theorem destroyNow_fst (w : WM) (t : Nat) (e : Handle) :
    (w.destroyNow I t e).1 = (w.destroyNow I' t e).1 :=
  ite_proj rfl (destroyNowU_fst w e)

theorem update_vals (w : WM) : vals (w.update I) = vals (w.update I') :=
  ite_proj rfl (congrArg (fun s : WM => ({ s with marked := [] }, Res.ok))
    (foldl_log_fst (fun w h => w.destroyNowU I h) (fun w h => w.destroyNowU I' h) destroyNowU_fst w.marked _ _ rfl))

theorem createAt_vals (h : AgreeV I I') (w : WM) (t ai : Nat) : vals (createAt I w t ai) = vals (createAt I' w t ai) :=
  ite_proj rfl (congrArg (fun s : WM => (s, w.allocId.2)) (archInsert_fst h w.allocId.1 ai w.allocId.2 []))

theorem assignId_vals (h : AgreeV I I') (w : WM) (t : Nat) (e : Handle) (c : CompId) (skip : Bool) :
    let π := fun r : WM × Res × Ptr × List Cb => (r.1, r.2.1, r.2.2.1)
    π (assignId I w t e c skip) = π (assignId I' w t e c skip) := by
  intro π
  unfold assignId
  dsimp only
  refine ite_proj ?_ ?_
  · rw [h.dv, h.ct, rawVal_congr h.fx]
  · cases (w.locOf e).arch with
    | none => rfl
    | some pi =>
      dsimp only
      generalize hx : WM.externalMove I _ _ _ _ _ _ = x
      generalize hx' : WM.externalMove I' _ _ _ _ _ _ = x'
      obtain ⟨rfl, rfl⟩ | ⟨s, l, l', rfl, rfl⟩ := optPair_cases (externalMove_fst h ..) hx hx' <;> rfl

theorem removeUntyped_fst (h : AgreeV I I') (w : WM) (t : Nat) (e : Handle) (c : CompId) :
    (removeUntyped I w t e c).1 = (removeUntyped I' w t e c).1 := by
  unfold removeUntyped
  dsimp only
  refine ite_proj rfl ?_
  cases (w.locOf e).arch with
  | none => rfl
  | some pi =>
    refine ite_proj rfl ?_
    generalize hx : WM.externalMove I _ _ _ _ _ _ = x
    generalize hx' : WM.externalMove I' _ _ _ _ _ _ = x'
    obtain ⟨rfl, rfl⟩ | ⟨s, l, l', rfl, rfl⟩ := optPair_cases (externalMove_fst h ..) hx hx' <;> rfl

theorem clear_fst (w : WM) : (clear I w).1 = (clear I' w).1 := by
  unfold clear; rfl

section pack
variable {e : Handle} {isCreate : Bool} {initial : Mask} {sh : Shared} {ti idx : Nat} {supplied tmask : Mask}

theorem packStep_vals (a b : WM × PackSt × List Cb) (c : Cmd) (hab : vals a = vals b) :
    vals (Rows.packStep I e isCreate a c) = vals (Rows.packStep I' e isCreate b c) := by
  obtain ⟨w, p, l⟩ := a
  obtain ⟨_, _, l'⟩ := b
  cases hab
  unfold Rows.packStep
  refine ite_proj rfl ?_
  cases c with
  | destroyNow _ => exact ite_proj rfl (congrArg (fun s : WM => (s, { p with dead := true })) (destroyNowU_fst w e))
  | remove _ c => exact ite_proj (ite_proj rfl rfl) rfl
  | assign _ c v => exact ite_proj rfl rfl
  | _ => rfl

theorem packMoved_fst (h : AgreeV I I') (w : WM) (p : PackSt) :
    (Rows.packMoved I e isCreate initial sh w p).1 = (Rows.packMoved I' e isCreate initial sh w p).1 := by
  unfold Rows.packMoved
  dsimp only
  refine ite_proj (archInsert_fst h ..) ?_
  cases ((Rows.packTarget e isCreate initial sh w p).1.locOf e).arch with
  | none => rfl
  | some pi =>
    refine ite_proj rfl ?_
    generalize hx : WM.externalMove I _ _ _ _ _ _ = x
    generalize hx' : WM.externalMove I' _ _ _ _ _ _ = x'
    obtain ⟨rfl, rfl⟩ | ⟨s, l, l', rfl, rfl⟩ := optPair_cases (externalMove_fst h ..) hx hx' <;> rfl

theorem packStaleStep_fold_fst (h : AgreeV I I') (l : List CompId) (w : WM) :
    (l.foldl (Rows.packStaleStep I e supplied ti idx) (w, [])).1 = (l.foldl (Rows.packStaleStep I' e supplied ti idx) (w, [])).1 := by
  refine foldl_proj_rel (S := WM × List Cb) (·.1) _ _ (fun a b c (hab : a.1 = b.1) => ?_) _ _ _ rfl
  exact ite_proj hab (by rw [h.dv, hab])

theorem packSupplyStep_fold_fst (l : List (CompId × Val)) (w : WM) :
    (l.foldl (Rows.packSupplyStep I e tmask ti idx) (w, [])).1 = (l.foldl (Rows.packSupplyStep I' e tmask ti idx) (w, [])).1 := by
  refine foldl_proj_rel (S := WM × List Cb) (·.1) _ _ (fun a b cv (hab : a.1 = b.1) => ?_) _ _ _ rfl
  exact ite_proj (by rw [hab]) hab

theorem packFinish_fst (h : AgreeV I I') (w : WM) (p : PackSt) (cbs cbs' : List Cb) :
    (Rows.packFinish I e isCreate initial sh (w, p, cbs)).1 = (Rows.packFinish I' e isCreate initial sh (w, p, cbs')).1 := by
  refine ite_proj rfl ?_
  unfold Rows.packLoops
  dsimp only
  rw [packMoved_fst h, packStaleStep_fold_fst h, packSupplyStep_fold_fst (I := I) (I' := I')]

end pack

theorem applyPack_fst (h : AgreeV I I') (w : WM) (pack : List Cmd) :
    (w.applyPack I pack).1 = (w.applyPack I' pack).1 := by
  cases pack with
  | nil => rfl
  | cons first rest =>
    rw [Rows.applyPack_eq, Rows.applyPack_eq]
    cases Rows.packStart w first with
    | none => rfl
    | some s =>
      dsimp only
      obtain ⟨s', p, l, l', h1, h2⟩ := vals_cases (foldl_proj_rel vals _ _ (packStep_vals (I := I) (I' := I'))
        (if Rows.isCreateCmd first then rest else first :: rest)
        (s.1, { final := Rows.packInit (Rows.isCreateCmd first) s.1.deps s.2.1 }, []) _ rfl)
      rw [h1, h2]
      exact packFinish_fst h ..

theorem flush_fst (h : AgreeV I I') (w : WM) : (w.flush I).1 = (w.flush I').1 :=
  congrArg (fun s : WM => { s with temps := [] })
    (foldl_proj_rel (·.1) _ _ (fun a b buf hab => foldl_log_fst (fun w p => w.applyPack I p) (fun w p => w.applyPack I' p)
      (applyPack_fst h) (packs buf) a b hab) w.buffers _ _ rfl)

theorem unlock_vals (h : AgreeV I I') (w : WM) : vals (w.unlock I) = vals (w.unlock I') :=
  ite_proj (congrArg (fun s : WM => (s, true)) (flush_fst h _)) rfl

theorem runNt_vals (h : AgreeV I I') (w : WM) (cap : Nat) (job : NtJob) :
    vals (runNt I w cap job) = vals (runNt I' w cap job) := by
  unfold runNt
  rw [applyWrites_congr h.fx]
  dsimp only
  refine ite_proj rfl ?_
  generalize List.foldl _ _ _ = r
  obtain ⟨s, x, l, l', h1, h2⟩ := vals_cases (unlock_vals h r.1)
  rw [h1, h2]
  dsimp only [vals]

theorem xstep_vals (h : AgreeV I I') (cap t : Nat) (w : WM) (op : XOp) :
    vals (xstep I cap t w op) = vals (xstep I' cap t w op) := by
  unfold xstep
  cases op with
  | createAt ai => exact congrArg (fun r : WM × Handle => (r.1, Out.handle r.2)) (createAt_vals h w t ai)
  | assign e c skip => exact congrArg (fun r : WM × Res × Ptr => (r.1, Out.ptr r.2.2 r.2.1)) (assignId_vals h w t e c skip)
  | store p tok => exact congrArg (fun f => (f w p tok, Out.unit)) (store_congr h.fx)
  | removeUntyped e c => exact congrArg (·, Out.unit) (removeUntyped_fst h w t e c)
  | destroyNow e => exact congrArg (·, Out.unit) (destroyNow_fst w t e)
  | update => exact congrArg (fun r : WM × Res => (r.1, Out.res r.2)) (update_vals w)
  | clear => exact congrArg (·, Out.unit) (clear_fst (I := I) (I' := I') w)
  | runJob job => exact congrArg (fun r : WM × Option JobOut => (r.1, Out.job r.2)) (runNt_vals h w cap job)
  | _ => rfl

theorem xrun_vals (h : AgreeV I I') (cap t : Nat) (w : WM) (ops : List XOp) :
    vals (xrun I cap t w ops) = vals (xrun I' cap t w ops) := by
  induction ops generalizing w with
  | nil => rfl
  | cons op rest ih =>
    obtain ⟨s, x, l, l', h1, h2⟩ := vals_cases (xstep_vals h cap t w op)
    obtain ⟨s', x', m, m', h3, h4⟩ := vals_cases (ih s)
    rw [xrun_cons, xrun_cons, h1, h2]
    dsimp only
    rw [h3, h4]
    rfl

end Mustache.Proofs.CApi
