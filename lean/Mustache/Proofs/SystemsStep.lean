import Mustache.Proofs.SystemsLoops
import Mustache.Proofs.SystemsOrder
/-!
The manager operations: the invariant `Inv` of all histories and the ordering invariant `OInv` of well-formed
histories, what every operation preserves (`step_inv`) and what follows for histories (`run_spec`: removed
objects receive no callback); the ordering problem solved by a re-ordering operation is the current one.
-/
namespace Mustache.Systems

structure Inv (m : Mgr) (tr : List Ev) : Prop where
  good : Good tr m.systems
  uidsNodup : (m.systems.map (·.uid)).Nodup
  uidsLt : ∀ u ∈ m.systems.map (·.uid), u < m.nextUid
  trLt : ∀ e ∈ tr, e.uid < m.nextUid
  byNameLt : ∀ p ∈ m.byName, p.2 < m.nextUid
  removedLt : ∀ u ∈ m.removed, u < m.nextUid
  removedAbsent : ∀ u ∈ m.removed, u ∉ m.systems.map (·.uid)
  orderedNodup : m.ordered.Nodup
  noUninit : m.dead = false → NoUninit m.systems
  started : m.dead = false → StartedSub m.ordered m.systems

theorem inv_empty : Inv Mgr.empty [] :=
  ⟨⟨fun _ => rfl, fun _ _ h => (nomatch h)⟩, List.nodup_nil, List.forall_mem_nil _, List.forall_mem_nil _,
    List.forall_mem_nil _, List.forall_mem_nil _, List.forall_mem_nil _, List.nodup_nil,
    fun _ _ h => (nomatch h), fun _ _ _ h => (nomatch h)⟩

theorem Inv.toRInv {m : Mgr} {tr : List Ev} (h : Inv m tr) (hd : m.dead = false) :
    RInv tr (m.systems.map (·.uid)) (m.systems.map (·.name)) m.ordered { ss := m.systems } :=
  ⟨rfl, rfl, (List.append_nil tr).symm ▸ h.good, List.forall_mem_nil _, h.noUninit hd, h.started hd⟩

/-- The ordering invariant (needs unique names): the stored order is an admissible order of the problem
solved last. -/
structure OInv (m : Mgr) : Prop where
  namesNodup : (m.systems.map (·.name)).Nodup
  snapValid : ValidOrder m.snapSrc m.snap
  orderedSnap : m.dead = false → m.ordered = m.snap.map (·.id)

theorem oinv_empty : OInv Mgr.empty :=
  ⟨List.nodup_nil, (validOrderB_iff [] []).mp rfl, fun _ => rfl⟩

/-- The part of `Inv` about counters: the identities registered (`dom`), seen in the trace, indexed by name
or removed are below `nextUid` (`n`), and a removed identity is not registered. -/
structure Reg (n : Nat) (byName : List (Name × Nat)) (removed : List Nat) (tr : List Ev) (dom : List Nat) :
    Prop where
  nodup : dom.Nodup
  lt : ∀ u ∈ dom, u < n
  trLt : ∀ e ∈ tr, e.uid < n
  byNameLt : ∀ p ∈ byName, p.2 < n
  removedLt : ∀ u ∈ removed, u < n
  removedAbsent : ∀ u ∈ removed, u ∉ dom

theorem Inv.reg {m : Mgr} {tr : List Ev} (h : Inv m tr) :
    Reg m.nextUid m.byName m.removed tr (m.systems.map (·.uid)) :=
  ⟨h.uidsNodup, h.uidsLt, h.trLt, h.byNameLt, h.removedLt, h.removedAbsent⟩

theorem mem_setAssoc {β : Type} {k : Nat} {v : β} {l : List (Nat × β)} {p : Nat × β}
    (h : p ∈ setAssoc k v l) : p = (k, v) ∨ p ∈ l := by
  induction l with
  | nil => exact Or.inl (List.mem_singleton.mp h)
  | cons x xs ih =>
    rw [setAssoc] at h
    split at h
    · exact (List.mem_cons.mp h).imp_right (List.mem_cons_of_mem _)
    · rcases List.mem_cons.mp h with h | h
      · exact Or.inr (h ▸ List.mem_cons_self ..)
      · exact (ih h).imp_right (List.mem_cons_of_mem _)

theorem mem_eraseAssoc {β : Type} {k : Nat} {l : List (Nat × β)} {p : Nat × β}
    (h : p ∈ eraseAssoc k l) : p ∈ l := by
  induction l with
  | nil => exact h
  | cons x xs ih =>
    rw [eraseAssoc] at h
    split at h
    · exact List.mem_cons_of_mem _ h
    · exact (List.mem_cons.mp h).elim (· ▸ List.mem_cons_self ..) (List.mem_cons_of_mem _ ∘ ih)

theorem mem_of_lookup {β : Type} {k : Nat} {v : β} {l : List (Nat × β)} (h : l.lookup k = some v) :
    (k, v) ∈ l := by
  obtain ⟨l₁, l₂, rfl, _⟩ := List.lookup_eq_some_iff.mp h
  exact List.mem_append_right _ (List.mem_cons_self ..)

theorem Reg.add {n byName removed tr dom} (h : Reg n byName removed tr dom) (name : Name) :
    Reg (n + 1) (setAssoc name n byName) removed tr (dom ++ [n]) := by
  have hn : n ∉ dom := fun hm => Nat.lt_irrefl _ (h.lt n hm)
  refine ⟨(List.perm_append_singleton n dom).nodup_iff.mpr (List.nodup_cons.mpr ⟨hn, h.nodup⟩), ?_,
    fun e he => Nat.lt_succ_of_lt (h.trLt e he), ?_, fun u hu => Nat.lt_succ_of_lt (h.removedLt u hu), ?_⟩
  · intro u hu
    rcases List.mem_append.mp hu with hu | hu
    · exact Nat.lt_succ_of_lt (h.lt u hu)
    · exact List.mem_singleton.mp hu ▸ Nat.lt_succ_self n
  · intro p hp
    rcases mem_setAssoc hp with rfl | hp
    · exact Nat.lt_succ_self n
    · exact Nat.lt_succ_of_lt (h.byNameLt p hp)
  · intro u hu hm
    rcases List.mem_append.mp hm with hm | hm
    · exact h.removedAbsent u hu hm
    · exact Nat.lt_irrefl _ (List.mem_singleton.mp hm ▸ h.removedLt u hu)

theorem Reg.remove {n byName removed tr dom} (h : Reg n byName removed tr dom) (name : Name) {u : Nat}
    (hu : u < n) :
    Reg n (eraseAssoc name byName) (u :: removed) tr (dom.filter (fun v => decide (v ≠ u))) := by
  have hsub : ∀ v ∈ dom.filter (fun v => decide (v ≠ u)), v ∈ dom ∧ v ≠ u := fun v hv =>
    ⟨(List.mem_filter.mp hv).1, of_decide_eq_true (List.mem_filter.mp hv).2⟩
  refine ⟨h.nodup.sublist (List.filter_sublist ..), fun v hv => h.lt v (hsub v hv).1, h.trLt,
    fun p hp => h.byNameLt p (mem_eraseAssoc hp), ?_, ?_⟩
  · intro v hv
    rcases List.mem_cons.mp hv with rfl | hv
    · exact hu
    · exact h.removedLt v hv
  · intro v hv hm
    rcases List.mem_cons.mp hv with rfl | hv
    · exact (hsub v hm).2 rfl
    · exact h.removedAbsent v hv (hsub v hm).1

theorem nodes_id (m : Mgr) : m.nodes.map (·.id) = m.systems.map (·.uid) := by
  simp [Mgr.nodes, toNode, List.map_map, Function.comp_def]

theorem nodes_name (m : Mgr) : m.nodes.map (·.name) = m.systems.map (·.name) := by
  simp [Mgr.nodes, toNode, List.map_map, Function.comp_def]

theorem mgr_reorder_some {m m' : Mgr} (h : m.reorder = some m') :
    ∃ o, reorder m.nodes = some o ∧
      m' = { m with ordered := o.map (·.id), snapSrc := m.nodes, snap := o } := by
  unfold Mgr.reorder at h
  split at h
  · cases h
  · rename_i o ho
    cases h
    exact ⟨o, ho, rfl⟩

theorem RInv.reorder {tr dom nms O} {r : Run} (hr : RInv tr dom nms O r) (hdom : dom.Nodup) {m m' : Mgr}
    (hs : m.systems = r.ss) (h : m.reorder = some m') :
    ∃ o, m' = { m with ordered := o.map (·.id), snapSrc := m.nodes, snap := o } ∧
      RInv tr dom nms (o.map (·.id)) r ∧ (o.map (·.id)).Nodup ∧ (nms.Nodup → ValidOrder m.nodes o) := by
  obtain ⟨o, ho, rfl⟩ := mgr_reorder_some h
  have hperm : (o.map (·.id)).Perm dom := by
    rw [← hr.uids, ← hs, ← nodes_id]
    exact (reorder_perm' ho).map _
  refine ⟨o, rfl, ⟨hr.uids, hr.names, hr.good, hr.present, hr.noUninit, ?_⟩, hperm.nodup_iff.mpr hdom, ?_⟩
  · exact fun v _ hs _ => hperm.mem_iff.mpr (hr.uids ▸ mem_uids_of_stateOf hs)
  · intro hn
    exact reorder_valid (by rw [nodes_name, hs, hr.names]; exact hn) ho

/-- What one operation with result `res` preserves and guarantees: the invariant; callbacks only for
registered objects; `removed` only grows; the ordering invariant if the operation is well-formed. -/
structure StepInv (m : Mgr) (tr : List Ev) (op : Op) (res : Mgr × Outcome × List Ev) : Prop where
  inv : Inv res.1 (tr ++ res.2.2)
  present : ∀ e ∈ res.2.2, e.uid ∈ res.1.systems.map (·.uid)
  removed : ∀ u ∈ m.removed, u ∈ res.1.removed
  oinv : OInv m → opWf m op = true → OInv res.1

/-- Assembling the invariants of the state after an operation from what its run `r` preserved. -/
theorem StepInv.build {m : Mgr} {tr : List Ev} {op : Op} {r : Run} {dom : List Nat} {nms : List Name}
    {O : List Nat} (hr : RInv tr dom nms O r) (hO : O.Nodup) {w g b n d rem src sn} {out : Outcome}
    (hreg : Reg n b rem tr dom) (hrm : ∀ u ∈ m.removed, u ∈ rem)
    (hoi : OInv m → opWf m op = true → nms.Nodup ∧ ValidOrder src sn ∧ (d = false → O = sn.map (·.id))) :
    StepInv m tr op
      ({ wasInit := w, systems := r.ss, ordered := O, groups := g, byName := b, nextUid := n, dead := d,
         removed := rem, snapSrc := src, snap := sn }, out, r.evs) := by
  refine ⟨⟨hr.good, hr.uids ▸ hreg.nodup, hr.uids ▸ hreg.lt, ?_, hreg.byNameLt, hreg.removedLt,
    hr.uids ▸ hreg.removedAbsent, hO, fun _ => hr.noUninit, fun _ => hr.started⟩,
    hr.uids ▸ hr.present, hrm, fun hoi' hwf => ?_⟩
  · intro e he
    rcases List.mem_append.mp he with he | he
    · exact hreg.trLt e he
    · exact hreg.lt _ (hr.present e he)
  · obtain ⟨h1, h2, h3⟩ := hoi hoi' hwf
    exact ⟨hr.names ▸ h1, h2, h3⟩

/-- An operation that leaves the order, its snapshot and the removed identities as they are; its run `r` was
allowed to start the systems in `m.ordered`. -/
theorem StepInv.keep {m : Mgr} {tr : List Ev} {op : Op} {r : Run} {dom : List Nat} {nms : List Name}
    (hi : Inv m tr) (hd : m.dead = false) (hr : RInv tr dom nms m.ordered r) {n : Nat} {b : List (Name × Nat)}
    (hreg : Reg n b m.removed tr dom) (hnn : OInv m → opWf m op = true → nms.Nodup) (w : Bool)
    (g : List (Nat × Int)) (out : Outcome) :
    StepInv m tr op
      ({ m with wasInit := w, systems := r.ss, groups := g, byName := b, nextUid := n }, out, r.evs) :=
  .build hr hi.orderedNodup hreg (fun _ h => h)
    (fun ho hwf => ⟨hnn ho hwf, ho.snapValid, fun _ => ho.orderedSnap hd⟩)

theorem step_dead {m : Mgr} (hd : m.dead = true) (op : Op) : step m op = (m, .aborted, []) := by
  cases op <;> simp [step, hd]

/-- the registered object right after its `onCreate` (called by the user or by `addSystem`) -/
theorem add_created {m : Mgr} {tr : List Ev} (hi : Inv m tr) (hd : m.dead = false)
    (name : Name) (pre : Bool) (decl : Config) :
    RInv tr (m.systems.map (·.uid) ++ [m.nextUid]) (m.systems.map (·.name) ++ [name]) m.ordered
      (addRun m name pre decl) := by
  let u := m.nextUid
  let s : SysInfo := { uid := u, name := name, decl := decl, config := Config.default, st := .uninit }
  let r0 : Run := { ss := m.systems ++ [s] }
  have hst0 : ∀ v, stateOf r0.ss v = if v = u then some .uninit else stateOf m.systems v :=
    stateOf_append_fresh (s := s) (stateOf_eq_none_iff.mpr fun h => Nat.lt_irrefl _ (hi.uidsLt u h))
  have hu0 : stateOf r0.ss u = some .uninit := by rw [hst0 u, if_pos rfl]
  have heff : CallEffect r0 (r0.call u .create) u .uninit .inited [.create] := call_effect rfl hu0 rfl
  -- whoever calls `create`, it is called once
  have hrun : addRun m name pre decl = r0.call u .create := by
    show (if stateOf (if pre then r0.call u .create else r0).ss u = some .uninit
      then (if pre then r0.call u .create else r0).call u .create else _) = _
    cases pre
    · rw [if_neg Bool.false_ne_true, if_pos hu0]
    · rw [if_pos rfl, heff.same, if_neg nofun]
  have htr : traceOf u tr = [] := by
    simp only [traceOf, List.map_eq_nil_iff, List.filter_eq_nil_iff, beq_iff_eq]
    exact fun e he h => Nat.lt_irrefl _ (h ▸ hi.trLt e he)
  -- before the call the new object is `uninit` and has seen nothing; the others are as they were
  have hold : ∀ {v sv}, stateOf r0.ss v = some sv → v = u ∧ sv = .uninit ∨ stateOf m.systems v = some sv := by
    intro v sv h
    rw [hst0 v] at h
    split at h
    · exact .inl ⟨‹_›, (Option.some.inj h).symm⟩
    · exact .inr h
  have hg0 : Good (tr ++ r0.evs) r0.ss := by
    refine (List.append_nil tr).symm ▸ ⟨hi.good.legal, fun v sv h => ?_⟩
    rcases hold h with ⟨rfl, rfl⟩ | h
    · rw [htr]; rfl
    · exact hi.good.corr v sv h
  have hs0 : StartedSub m.ordered r0.ss := by
    intro v sv h hst
    rcases hold h with ⟨_, rfl⟩ | h
    · cases hst
    · exact hi.started hd v sv h hst
  rw [hrun]
  refine ⟨(call_uids ..).trans List.map_append, (call_names ..).trans List.map_append,
    call_good hg0 u .create nofun (fun _ => (List.append_nil tr).symm ▸ htr),
    call_present List.map_append (List.forall_mem_nil _) u .create, fun v => ?_, call_startedSub hs0 u nofun⟩
  by_cases hv : v = u
  · rw [hv, heff.same]; nofun
  · rw [heff.other v hv, hst0 v, if_neg hv]
    exact hi.noUninit hd v

theorem remove_rinv {m : Mgr} {tr : List Ev} (hi : Inv m tr) (hd : m.dead = false) (u : Nat) :
    RInv tr ((m.systems.map (·.uid)).filter (fun v => decide (v ≠ u)))
      ((m.systems.filter (fun s => decide (s.uid ≠ u))).map (·.name))
      (m.ordered.filter (fun v => decide (v ≠ u)))
      { ss := m.systems.filter (fun s => decide (s.uid ≠ u)) } := by
  have hold : ∀ {v sv}, stateOf (m.systems.filter (fun s => decide (s.uid ≠ u))) v = some sv →
      v ≠ u ∧ stateOf m.systems v = some sv := by
    intro v sv h
    rw [stateOf_filter_ne] at h
    split at h
    · cases h
    · exact ⟨‹_›, h⟩
  exact ⟨(List.filter_map (f := SysInfo.uid) (p := fun v => decide (v ≠ u))).symm, rfl,
    (List.append_nil tr).symm ▸ ⟨hi.good.legal, fun v sv h => hi.good.corr v sv (hold h).2⟩,
    List.forall_mem_nil _, fun v h => hi.noUninit hd v (hold h).2,
    fun v sv h hst => List.mem_filter.mpr ⟨hi.started hd v sv (hold h).2 hst, decide_eq_true (hold h).1⟩⟩

theorem step_inv {m : Mgr} {tr : List Ev} (hi : Inv m tr) (op : Op) : StepInv m tr op (step m op) := by
  cases hd : m.dead with
  | true =>
    rw [step_dead hd]
    exact ⟨(List.append_nil tr).symm ▸ hi, List.forall_mem_nil _, fun _ h => h, fun ho _ => ho⟩
  | false =>
    have hlive : ¬ m.dead = true := by rw [hd]; nofun
    -- an operation that runs nothing and changes at most the group priorities
    have same : ∀ g out, StepInv m tr op ({ m with groups := g }, out, []) :=
      .keep hi hd (hi.toRInv hd) hi.reg (fun ho _ => ho.namesNodup) _
    cases op with
    | add name pre decl =>
      have hc := add_created hi hd name pre decl
      have hreg := hi.reg.add name
      have hnn : OInv m → opWf m (.add name pre decl) = true → (m.systems.map (·.name) ++ [name]).Nodup := by
        intro ho hwf
        simp only [opWf, Bool.not_eq_true', List.contains_eq_mem, decide_eq_false_iff_not] at hwf
        exact (List.perm_append_singleton ..).nodup_iff.mpr (List.nodup_cons.mpr ⟨hwf, ho.namesNodup⟩)
      rw [step, if_neg hlive]
      generalize addRun m name pre decl = r at hc ⊢
      dsimp only
      by_cases hw : (!m.wasInit) = true
      · rw [if_pos hw]
        exact .keep hi hd hc hreg hnn _ _ _
      · rw [if_neg hw]
        have hc := call_rinv hc m.nextUid (t := .configure) nofun nofun nofun
        generalize r.call m.nextUid .configure = r at hc ⊢
        by_cases hok : (!r.ok) = true
        · rw [if_pos hok]
          exact .keep hi hd hc hreg hnn _ _ _
        · rw [if_neg hok]
          split
          · exact .keep hi hd hc hreg hnn _ _ _
          · rename_i m3 h3
            obtain ⟨o, rfl, hc, hO, hv⟩ := hc.reorder hreg.nodup rfl h3
            exact .build hc hO hreg (fun _ h => h)
              (fun ho hwf => ⟨hnn ho hwf, hv (hnn ho hwf), fun _ => rfl⟩)
    | remove name =>
      rw [step, if_neg hlive]
      split
      · exact same _ _
      · rename_i u hl
        dsimp only
        have hr := remove_rinv hi hd u
        have hreg := hi.reg.remove name (hi.byNameLt _ (mem_of_lookup hl))
        have hond : (m.ordered.filter (fun v => decide (v ≠ u))).Nodup :=
          hi.orderedNodup.sublist (List.filter_sublist ..)
        have hnn : OInv m → ((m.systems.filter (fun s => decide (s.uid ≠ u))).map (·.name)).Nodup :=
          fun ho => ho.namesNodup.sublist ((List.filter_sublist ..).map _)
        split
        · exact .build hr hond hreg (fun _ h => List.mem_cons_of_mem _ h)
            (fun ho _ => ⟨hnn ho, ho.snapValid, nofun⟩)
        · rename_i m2 h2
          obtain ⟨o, rfl, hr, hO, hv⟩ := hr.reorder hreg.nodup rfl h2
          exact .build hr hO hreg (fun _ h => List.mem_cons_of_mem _ h)
            (fun ho _ => ⟨hnn ho, hv (hnn ho), fun _ => rfl⟩)
    | init =>
      rw [step, if_neg hlive]
      by_cases hw : m.wasInit = true
      · rw [if_pos hw]
        exact same _ _
      · rw [if_neg hw]
        have hr := configureAll_rinv (hi.toRInv hd)
        generalize configureAll { ss := m.systems } = r at hr ⊢
        dsimp only
        by_cases hok : (!r.ok) = true
        · rw [if_pos hok]
          exact .keep hi hd hr hi.reg (fun ho _ => ho.namesNodup) _ _ _
        · rw [if_neg hok]
          split
          · exact .keep hi hd hr hi.reg (fun ho _ => ho.namesNodup) _ _ _
          · rename_i m2 h2
            obtain ⟨o, rfl, hr, hO, hv⟩ := hr.reorder hi.uidsNodup rfl h2
            exact .build (startAll_rinv hr) hO hi.reg (fun _ h => h)
              (fun ho _ => ⟨ho.namesNodup, hv ho.namesNodup, fun _ => rfl⟩)
    | update =>
      rw [step, if_neg hlive]
      by_cases hw : (!m.wasInit) = true
      · rw [if_pos hw]
        exact same _ _
      · rw [if_neg hw]
        exact .keep hi hd (updateAll_rinv (hi.toRInv hd)) hi.reg (fun ho _ => ho.namesNodup) _ _ _
    | setGroup g p =>
      rw [step, if_neg hlive]
      exact same _ _
    | ext name t =>
      rw [step, if_neg hlive]
      split
      · exact same _ _
      · rename_i u _
        have ht : t.toTr ≠ .destroy ∧ t.toTr ≠ .create ∧ t.toTr ≠ .start := by
          cases t <;> decide
        exact .keep hi hd (call_rinv (hi.toRInv hd) u ht.1 ht.2.1 (absurd · ht.2.2)) hi.reg
          (fun ho _ => ho.namesNodup) _ _ _
    | teardown =>
      -- `destroy` leaves objects `uninit`, which `RInv` excludes; nothing is required of a dead manager
      rw [step, if_neg hlive]
      obtain ⟨hg, hu, hp⟩ := destroyAll_good (tr0 := tr) m.ordered { ss := m.systems } hi.orderedNodup
        (hi.toRInv hd).good (fun v _ => hi.noUninit hd v) rfl (List.forall_mem_nil _)
      have hn : (destroyAll m.ordered { ss := m.systems }).ss.map (·.name) = m.systems.map (·.name) :=
        foldl_inv (fun r : Run => r.ss.map (·.name) = m.systems.map (·.name)) _ _ _ rfl
          (fun _ _ _ hb => (call_names ..).trans hb)
      generalize destroyAll m.ordered { ss := m.systems } = r at hg hu hp hn ⊢
      refine ⟨⟨hg, hu ▸ hi.uidsNodup, hu ▸ hi.uidsLt, ?_, hi.byNameLt, hi.removedLt,
        hu ▸ hi.removedAbsent, hi.orderedNodup, nofun, nofun⟩, hu ▸ hp, fun _ h => h,
        fun ho _ => ⟨hn ▸ ho.namesNodup, ho.snapValid, nofun⟩⟩
      intro e he
      rcases List.mem_append.mp he with he | he
      · exact hi.trLt e he
      · exact hi.uidsLt _ (hp e he)

theorem step_update_live {m : Mgr} (hd : m.dead = false) (hw : m.wasInit = true) :
    step m .update = ({ m with systems := (updateAll m.ordered { ss := m.systems }).ss },
      outcomeOf (updateAll m.ordered { ss := m.systems }), (updateAll m.ordered { ss := m.systems }).evs) := by
  rw [step, if_neg (by rw [hd]; nofun), if_neg (by rw [hw]; nofun)]

/-- `removeSystem` of a registered name: no callback runs; the object is erased and recorded as removed (state
`m1`), then the remaining systems are re-ordered; a failure there terminates the process. -/
theorem step_remove {m : Mgr} (hd : m.dead = false) {name : Name} {u : Nat}
    (hl : m.byName.lookup name = some u) :
    (step m (.remove name)).2.2 = [] ∧ u ∈ (step m (.remove name)).1.removed ∧
      ((step m (.remove name)).2.1 = .ok →
        ∃ (m1 : Mgr) (o : List Node), m1.systems = m.systems.filter (fun s => decide (s.uid ≠ u)) ∧
          reorder m1.nodes = some o ∧ step m (.remove name) =
            ({ m1 with ordered := o.map (·.id), snapSrc := m1.nodes, snap := o }, .ok, [])) := by
  rw [step, if_neg (by rw [hd]; nofun), hl]
  dsimp only
  split
  · exact ⟨rfl, List.mem_cons_self .., nofun⟩
  · rename_i m2 h2
    obtain ⟨o, ho, rfl⟩ := mgr_reorder_some h2
    exact ⟨rfl, List.mem_cons_self .., fun _ => ⟨_, o, rfl, ho, rfl⟩⟩

/-- ops that (re)compute the order -/
def Op.reorders (m : Mgr) : Op → Bool
  | .add _ _ _ => m.wasInit
  | .remove name => (m.byName.lookup name).isSome
  | .init => !m.wasInit
  | _ => false

/-- After every op that re-orders and returns normally, the problem that was solved is the ordering
problem of the systems registered now, with their current configs and group priorities. -/
theorem step_order_current {m : Mgr} (hd : m.dead = false) (op : Op) (hop : op.reorders m = true)
    (hok : (step m op).2.1 = .ok) : (step m op).1.snapSrc = (step m op).1.nodes := by
  have hlive : ¬ m.dead = true := by rw [hd]; nofun
  cases op with
  | add name pre decl =>
    have hw : ¬ (!m.wasInit) = true := by rw [show m.wasInit = true from hop]; nofun
    revert hok
    rw [step, if_neg hlive]
    dsimp only
    rw [if_neg hw]
    generalize (addRun m name pre decl).call m.nextUid .configure = r
    split
    · nofun
    · split
      · nofun
      · rename_i m3 h3
        obtain ⟨o, _, rfl⟩ := mgr_reorder_some h3
        exact fun _ => rfl
  | remove name =>
    obtain ⟨u, hl⟩ := Option.isSome_iff_exists.mp hop
    obtain ⟨m1, o, _, _, h⟩ := (step_remove hd hl).2.2 hok
    rw [h]
    rfl
  | init =>
    have hw : ¬ m.wasInit = true := by
      simp only [Op.reorders, Bool.not_eq_true'] at hop
      rw [hop]; nofun
    revert hok
    rw [step, if_neg hlive, if_neg hw]
    dsimp only
    generalize configureAll { ss := m.systems } = r
    split
    · nofun
    · split
      · nofun
      · rename_i m2 h2
        obtain ⟨o, _, rfl⟩ := mgr_reorder_some h2
        exact fun _ => (startAll_nodes _ _ _).symm
  | _ => cases hop

theorem run_cons (m : Mgr) (op : Op) (ops : List Op) :
    run m (op :: ops) = ((run (step m op).1 ops).1, ((step m op).2.1, (step m op).2.2) :: (run (step m op).1 ops).2) :=
  rfl

theorem run_spec : ∀ (ops : List Op) {m : Mgr} {tr : List Ev}, Inv m tr →
    Inv (run m ops).1 (tr ++ allEvents (run m ops).2) ∧
    (OInv m → wfFrom m ops = true → OInv (run m ops).1) ∧
    ∀ u ∈ m.removed, ∀ e ∈ allEvents (run m ops).2, e.uid ≠ u := by
  intro ops
  induction ops with
  | nil => exact fun hi => ⟨(List.append_nil _).symm ▸ hi, fun ho _ => ho, fun _ _ _ he => nomatch he⟩
  | cons op ops ih =>
    intro m tr hi
    have hs := step_inv hi op
    obtain ⟨h1, h2, h3⟩ := ih hs.inv
    rw [run_cons]
    refine ⟨List.append_assoc .. ▸ h1, fun ho hwf => ?_, fun u hu e he => ?_⟩
    · have hwf := Bool.and_eq_true_iff.mp (show (opWf m op && wfFrom (step m op).1 ops) = true from hwf)
      exact h2 (hs.oinv ho hwf.1) hwf.2
    · rcases List.mem_append.mp he with he | he
      · exact fun heq => hs.inv.removedAbsent u (hs.removed u hu) (heq ▸ hs.present e he)
      · exact h3 u (hs.removed u hu) e he

end Mustache.Systems
