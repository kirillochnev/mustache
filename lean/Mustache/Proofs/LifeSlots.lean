import Mustache.Proofs.LifeBasic
import Mustache.Proofs.RowsPack
import Mustache.Proofs.SharedPool
/-!
# Rows of slots, and the slot set of a world state (C03)

* `colSlots`, `allSlots`: the slots of one row / of all rows of an archetype, and the batches of events over them
  (`accepts_intoRow`, `accepts_fillRow`, `accepts_dropRow`, `accepts_renewRow`, `accepts_clear`);
* `live w F`: the stored slots of `w` plus a frame `F`; it reads only the masks and sizes of the archetypes
  (`ShapeEq`), and `live_addRow`, `live_dropRow`, `live_move` say what one row more / fewer does to it;
* `BT`: command buffers and temporaries counter untouched; `Quiet`: `ShapeEq` and `BT`.
-/
namespace Mustache.Proofs.Life
open Mustache.Model Mustache.Proofs.Rows

def colSlots (ai : Nat) (cs : List CompId) (i : Nat) : List LSlot := cs.map (fun c => LSlot.stored ai c i)

theorem mem_colSlots {ai : Nat} {cs : List CompId} {n : Nat} {y : LSlot} :
    y ∈ colSlots ai cs n ↔ ∃ c ∈ cs, y = .stored ai c n := by
  simp only [colSlots, List.mem_map, eq_comm]

theorem mem_colSlots_stored {ai : Nat} {cs : List CompId} {n a c i : Nat} :
    LSlot.stored a c i ∈ colSlots ai cs n ↔ a = ai ∧ c ∈ cs ∧ i = n := by
  simp only [mem_colSlots, LSlot.stored.injEq]
  constructor
  · rintro ⟨c', hc', rfl, rfl, rfl⟩; exact ⟨rfl, hc', rfl⟩
  · rintro ⟨rfl, hc, rfl⟩; exact ⟨c, hc, rfl, rfl, rfl⟩

theorem not_mem_colSlots_temp {ai : Nat} {cs : List CompId} {n t k c : Nat} :
    LSlot.temp t k c ∉ colSlots ai cs n := by
  simp [colSlots]

theorem colSlots_nodup {ai : Nat} {cs : List CompId} {n : Nat} (h : cs.Nodup) : (colSlots ai cs n).Nodup :=
  List.Pairwise.map _ (fun a b (hab : a ≠ b) => by simpa using hab) h

theorem colSlots_append (ai : Nat) (a b : List CompId) (n : Nat) :
    colSlots ai (a ++ b) n = colSlots ai a n ++ colSlots ai b n :=
  List.map_append

theorem mem_colSlots_congr {ai n : Nat} {cs cs' : List CompId} (h : ∀ c, c ∈ cs ↔ c ∈ cs') (y : LSlot) :
    y ∈ colSlots ai cs n ↔ y ∈ colSlots ai cs' n := by
  simp only [mem_colSlots, h]

theorem accepts_intoRow (evs : List Event) (s : SlotState) (ai n : Nat) (cs : List CompId)
    (hdst : evs.map Event.dst = colSlots ai cs n)
    (hc : ∀ e ∈ evs, Event.isCreate e = true) (hcs : cs.Nodup)
    (hdead : ∀ c, s (.stored ai c n) = false)
    (hsrc : ∀ e ∈ evs, ∀ x, Event.src? e = some x → s x = true) :
    accepts s evs = some (addAll s (colSlots ai cs n)) := by
  rw [accepts_creates evs s hc (by rw [hdst]; exact colSlots_nodup hcs) ?_ hsrc, hdst]
  intro e he
  rcases mem_colSlots.mp (hdst ▸ List.mem_map_of_mem he) with ⟨c, _, hc'⟩
  rw [hc']; exact hdead c

theorem accepts_fillRow (L : SlotState) (t n : Nat) (raw cs : List CompId) (evs : List Event)
    (hdst : evs.map Event.dst = colSlots t cs n)
    (hc : ∀ e ∈ evs, Event.isCreate e = true)
    (hcs : cs.Nodup) (hmem : ∀ c, c ∈ cs ↔ c ∈ raw)
    (hL : ∀ c ∈ raw, L (.stored t c n) = true)
    (hsrc : ∀ e ∈ evs, ∀ x, Event.src? e = some x → L x = true ∧ x ∉ colSlots t raw n) :
    accepts (removeAll L (colSlots t raw n)) evs = some L := by
  refine accepts_fill L _ evs hc (by rw [hdst]; exact colSlots_nodup hcs)
    (fun y => by rw [hdst]; exact mem_colSlots_congr hmem y) ?_ hsrc
  intro y hy
  rcases mem_colSlots.mp hy with ⟨c, hc', rfl⟩
  exact hL c hc'

theorem accepts_dropRow (s : SlotState) (ai : Nat) (mask : List CompId) (idx len : Nat)
    (hnd : mask.Nodup) (hidx : idx < len)
    (hlive : ∀ c ∈ mask, ∀ i, i < len → s (.stored ai c i) = true) :
    accepts s (removeEvents ai mask idx len) = some (removeAll s (colSlots ai mask (len - 1))) := by
  have hlen : len - 1 < len := Nat.sub_lt (Nat.lt_of_le_of_lt (Nat.zero_le _) hidx) Nat.one_pos
  have hlast : accepts s (mask.map (fun c => Event.destroy (.stored ai c (len - 1)))) =
      some (removeAll s (colSlots ai mask (len - 1))) := by
    rw [← accepts_destroys _ s (colSlots_nodup hnd), colSlots, List.map_map]
    · rfl
    · intro x hx
      rcases mem_colSlots.mp hx with ⟨c, hc, rfl⟩
      exact hlive c hc _ hlen
  unfold removeEvents
  by_cases h : idx = len - 1
  · rw [if_pos h, h]; exact hlast
  · rw [if_neg h]
    refine accepts_append_of (s' := s) ?_ hlast
    have := accepts_moveAssigns (mask.map (fun c => (LSlot.stored ai c idx, LSlot.stored ai c (len - 1)))) s (by
      intro p hp
      rcases List.mem_map.mp hp with ⟨c, hc, rfl⟩
      exact ⟨hlive c hc _ hidx, hlive c hc _ hlen⟩)
    rw [List.map_map] at this
    exact this

/-- stale instances in row `n`: each is destroyed and, unless `gone`, constructed again in place -/
theorem accepts_renewRow (s : SlotState) (ai n : Nat) (cs : List CompId) (gone : CompId → Bool) (hnd : cs.Nodup)
    (hlive : ∀ c ∈ cs, s (.stored ai c n) = true) :
    accepts s (cs.flatMap (fun c =>
        Event.destroy (.stored ai c n) :: (if gone c then [] else [Event.construct (.stored ai c n)]))) =
      some (removeAll s (colSlots ai (cs.filter gone) n)) := by
  induction cs generalizing s with
  | nil => rw [List.filter_nil, colSlots, List.map_nil, removeAll_nil]; rfl
  | cons c cs ih =>
    have hc : s (.stored ai c n) = true := hlive c (List.mem_cons_self ..)
    rw [List.nodup_cons] at hnd
    have hrest : ∀ q ∈ cs, s (.stored ai q n) = true := fun q hq => hlive q (List.mem_cons_of_mem _ hq)
    rw [List.flatMap_cons, List.filter_cons]
    cases hb : gone c with
    | true =>
      simp only [if_true, List.cons_append, List.nil_append, accepts_cons, acceptStep, hc, Option.bind_some, colSlots,
        List.map_cons]
      rw [← removeAll_set]
      refine ih _ hnd.2 (fun q hq => ?_)
      rw [set_ne s false (fun (h : LSlot.stored ai q n = .stored ai c n) => hnd.1 ((LSlot.stored.inj h).2.1 ▸ hq))]
      exact hrest q hq
    | false =>
      have hback : (s.set (.stored ai c n) false).set (.stored ai c n) true = s := by
        funext y
        by_cases hy : y = .stored ai c n
        · rw [hy, set_same, hc]
        · rw [set_ne _ true hy, set_ne s false hy]
      simp only [Bool.false_eq_true, if_false, List.cons_append, List.nil_append, accepts_cons, acceptStep, hc,
        if_true, Option.bind_some, set_same, hback]
      exact ih s hnd.2 hrest

def allSlots (ai : Nat) (mask : List CompId) (n : Nat) : List LSlot :=
  mask.flatMap (fun c => (List.range n).map (fun i => LSlot.stored ai c i))

theorem mem_allSlots_stored {ai : Nat} {mask : List CompId} {n a c i : Nat} :
    LSlot.stored a c i ∈ allSlots ai mask n ↔ a = ai ∧ c ∈ mask ∧ i < n := by
  simp only [allSlots, List.mem_flatMap, List.mem_map, List.mem_range, LSlot.stored.injEq]
  constructor
  · rintro ⟨c', hc', j, hj, rfl, rfl, rfl⟩; exact ⟨rfl, hc', hj⟩
  · rintro ⟨rfl, hc, hi⟩; exact ⟨c, hc, i, hi, rfl, rfl, rfl⟩

theorem not_mem_allSlots_temp {ai : Nat} {mask : List CompId} {n t k c : Nat} :
    LSlot.temp t k c ∉ allSlots ai mask n := by
  simp [allSlots]

theorem accepts_clear (s : SlotState) (ai : Nat) (mask : List CompId) (n : Nat) (hnd : mask.Nodup)
    (hlive : ∀ c ∈ mask, ∀ i, i < n → s (.stored ai c i) = true) :
    accepts s (clearEvents ai mask n) = some (removeAll s (allSlots ai mask n)) := by
  induction mask generalizing s with
  | nil => simp [clearEvents, allSlots, removeAll_nil, accepts_nil]
  | cons c cs ih =>
    simp only [List.nodup_cons] at hnd
    have hcol : accepts s ((List.range n).map (fun i => Event.destroy (.stored ai c i))) =
        some (removeAll s ((List.range n).map (fun i => LSlot.stored ai c i))) := by
      rw [← accepts_destroys _ s, List.map_map]
      · rfl
      · exact List.Pairwise.map _ (fun a b (hab : a ≠ b) => by simpa using hab) List.nodup_range
      · intro x hx
        simp only [List.mem_map, List.mem_range] at hx
        rcases hx with ⟨i, hi, rfl⟩
        exact hlive c (List.mem_cons_self ..) i hi
    have hrest := ih (removeAll s ((List.range n).map (fun i => LSlot.stored ai c i))) hnd.2 (by
      intro c' hc' i hi
      rw [removeAll_apply]
      refine ⟨hlive c' (List.mem_cons_of_mem _ hc') i hi, ?_⟩
      simp only [List.mem_map, List.mem_range, LSlot.stored.injEq, not_exists, not_and]
      intro j _ _ hcc
      exact absurd hcc (fun h => hnd.1 (h ▸ hc')))
    have := accepts_append_of hcol hrest
    rw [removeAll_removeAll] at this
    simpa [clearEvents, allSlots] using this

/-- the stored slots of a world whose archetype `a` has mask `m a` and `l a` rows, plus a frame `F` -/
def liveOf (m : Nat → Mask) (l : Nat → Nat) (F : SlotState) : SlotState
  | .stored a c i => (m a).contains c && decide (i < l a) || F (.stored a c i)
  | y => F y

/-- stored instances of `w` plus a frame `F` (the parked temporaries) -/
def live (w : WM) (F : SlotState) : SlotState :=
  liveOf (fun a => (w.arch a).mask) (fun a => (w.arch a).rows.length) F

theorem slotsOf_eq_live (w : WM) : slotsOf w = live w (tempLive w.buffers) := by
  funext y; cases y <;> rfl

theorem storedLive_stored (w : WM) (a c i : Nat) :
    storedLive w (.stored a c i) = true ↔ c ∈ (w.arch a).mask ∧ i < (w.arch a).rows.length := by
  simp [storedLive]

theorem liveOf_stored (m : Nat → Mask) (l : Nat → Nat) (F : SlotState) (a c i : Nat) :
    liveOf m l F (.stored a c i) = true ↔ (c ∈ m a ∧ i < l a) ∨ F (.stored a c i) = true := by
  simp [liveOf]

theorem live_stored (w : WM) (F : SlotState) (a c i : Nat) :
    live w F (.stored a c i) = true ↔
      (c ∈ (w.arch a).mask ∧ i < (w.arch a).rows.length) ∨ F (.stored a c i) = true :=
  liveOf_stored _ _ F a c i

theorem liveOf_temp (m : Nat → Mask) (l : Nat → Nat) (F : SlotState) (t k c : Nat) :
    liveOf m l F (.temp t k c) = F (.temp t k c) := rfl

theorem live_temp (w : WM) (F : SlotState) (t k c : Nat) : live w F (.temp t k c) = F (.temp t k c) := rfl

theorem live_set_true (w : WM) (F : SlotState) (x : LSlot) : live w (F.set x true) = (live w F).set x true := by
  apply slotState_ext
  intro y
  rw [set_true_apply]
  cases y with
  | stored a c i => rw [live_stored, live_stored, set_true_apply]; exact or_left_comm
  | temp t k c => rw [live_temp, live_temp, set_true_apply]

def TempOnly (F : SlotState) : Prop := ∀ a c i, F (.stored a c i) = false

theorem tempOnly_tempLive (bufs : List (List Cmd)) : TempOnly (tempLive bufs) := fun _ _ _ => rfl

theorem live_of_row (w : WM) (F : SlotState) {a c i : Nat} (hc : c ∈ (w.arch a).mask)
    (hi : i < (w.arch a).rows.length) : live w F (.stored a c i) = true :=
  (live_stored w F a c i).mpr (Or.inl ⟨hc, hi⟩)

theorem live_nextRow (w : WM) {F : SlotState} (hF : TempOnly F) (a c : Nat) :
    live w F (.stored a c (w.arch a).rows.length) = false := by
  simp [live, liveOf, hF a c _]

/-- an archetype without rows has no slots: only the sizes of non-empty archetypes and their masks matter -/
theorem live_congr' {w w' : WM} (F : SlotState)
    (h : ∀ a, (w'.arch a).rows.length = (w.arch a).rows.length ∧
      ((w.arch a).rows.length ≠ 0 → (w'.arch a).mask = (w.arch a).mask)) : live w' F = live w F := by
  apply slotState_ext
  intro y
  cases y with
  | stored a c i =>
    rw [live_stored, live_stored, (h a).1]
    by_cases h0 : (w.arch a).rows.length = 0
    · simp [h0]
    · rw [(h a).2 h0]
  | temp t k c => rw [live_temp, live_temp]

def ShapeEq (a b : WM) : Prop :=
  (∀ x, (b.arch x).mask = (a.arch x).mask) ∧ (∀ x, (b.arch x).rows.length = (a.arch x).rows.length)

theorem ShapeEq.refl (a : WM) : ShapeEq a a := ⟨fun _ => rfl, fun _ => rfl⟩

theorem ShapeEq.trans {a b c : WM} (h1 : ShapeEq a b) (h2 : ShapeEq b c) : ShapeEq a c :=
  ⟨fun x => (h2.1 x).trans (h1.1 x), fun x => (h2.2 x).trans (h1.2 x)⟩

theorem ShapeEq.of_arch {a b : WM} (h : ∀ x, b.arch x = a.arch x) : ShapeEq a b :=
  ⟨fun x => by rw [h], fun x => by rw [h]⟩

theorem ShapeEq.of_archs {a b : WM} (h : b.archs = a.archs) : ShapeEq a b :=
  .of_arch (fun x => by rw [arch_def, arch_def, h])

theorem ShapeEq.live {a b : WM} (h : ShapeEq a b) (F : SlotState) : live b F = live a F :=
  live_congr' F (fun x => ⟨h.2 x, fun _ => h.1 x⟩)

theorem shapeEq_setRows (w : WM) (ti : Nat) (rows : List Row) (h : rows.length = (w.arch ti).rows.length) :
    ShapeEq w (w.setArch ti { w.arch ti with rows := rows }) := by
  refine ⟨fun a => (setArch_rows_key w ti rows a).1, fun a => ?_⟩
  by_cases ha : a = ti
  · subst ha
    by_cases hlt : a < w.archs.length
    · rw [arch_setArch_same _ _ _ hlt]; exact h
    · rw [arch_of_ge _ a (by rw [archs_length_setArch]; exact Nat.le_of_not_lt hlt),
        arch_of_ge w a (Nat.le_of_not_lt hlt)]
  · rw [arch_setArch_ne _ _ _ _ ha]

theorem shapeEq_setRow (w : WM) (ti idx : Nat) (row : Row) :
    ShapeEq w (w.setArch ti { w.arch ti with rows := (w.arch ti).rows.set idx row }) :=
  shapeEq_setRows w ti _ List.length_set

theorem shapeEq_allocId (w : WM) : ShapeEq w (w.allocId).1 := .of_arch (allocId_arch w)

theorem shapeEq_poolGet (w : WM) (sid v : Nat) : ShapeEq w (w.poolGet sid v).1 := .of_archs (poolGet_archs w sid v)

theorem shapeEq_release (w : WM) (h : Handle) : ShapeEq w (w.release h) := by
  refine .of_arch (fun a => ?_)
  unfold WM.release
  simp only
  split <;> rfl

def MasksOk (w : WM) : Prop := ∀ a, MaskOk (w.arch a).mask

theorem masksOk_of_keys {w : WM} (hk : KeysOK w) : MasksOk w := hk.maskOk_arch

theorem masksOk_congr {w w' : WM} (hm : ∀ a, (w'.arch a).mask = (w.arch a).mask) (h : MasksOk w) :
    MasksOk w' := fun a => by rw [hm]; exact h a

theorem ShapeEq.masksOk {a b : WM} (h : ShapeEq a b) (hm : MasksOk a) : MasksOk b := masksOk_congr h.1 hm

def BT (w w' : WM) : Prop := w'.buffers = w.buffers ∧ w'.temps = w.temps

theorem BT.refl (w : WM) : BT w w := ⟨rfl, rfl⟩
theorem BT.trans {a b c : WM} (h1 : BT a b) (h2 : BT b c) : BT a c := ⟨h2.1.trans h1.1, h2.2.trans h1.2⟩
theorem _root_.Mustache.Proofs.Rows.SameTable.bt {w w' : WM} (h : SameTable w w') : BT w w' := ⟨h.buffers, h.temps⟩
theorem _root_.Mustache.Proofs.Rows.SameCtl.bt {w w' : WM} (h : SameCtl w w') : BT w w' := ⟨h.buffers, h.temps⟩

theorem allocId_bt (w : WM) : BT w (w.allocId).1 := by
  unfold WM.allocId
  split
  · exact ⟨rfl, rfl⟩
  · split <;> exact ⟨rfl, rfl⟩

theorem poolGet_bt (w : WM) (sid v : Nat) : BT w (w.poolGet sid v).1 := ⟨poolGet_buffers w sid v, poolGet_temps w sid v⟩

/-- from the frame form to `slotsOf` -/
theorem slots_of_live {w w' : WM} {evs : List Event} (hb : BT w w')
    (h : accepts (live w (tempLive w.buffers)) evs = some (live w' (tempLive w.buffers))) :
    accepts (slotsOf w) evs = some (slotsOf w') := by
  rw [slotsOf_eq_live, slotsOf_eq_live, hb.1]; exact h

/-- the same masks, sizes, buffers and counter: nothing the slot set or the counter invariant reads has changed -/
def Quiet (w w' : WM) : Prop := ShapeEq w w' ∧ BT w w'

theorem Quiet.refl (w : WM) : Quiet w w := ⟨.refl w, .refl w⟩
theorem Quiet.trans {a b c : WM} (h1 : Quiet a b) (h2 : Quiet b c) : Quiet a c := ⟨h1.1.trans h2.1, h1.2.trans h2.2⟩

theorem Quiet.slotsOf {w w' : WM} (h : Quiet w w') : slotsOf w' = slotsOf w := by
  rw [slotsOf_eq_live, slotsOf_eq_live, h.2.1]
  exact h.1.live _

theorem quiet_setRow (w : WM) (ti idx : Nat) (row : Row) :
    Quiet w (w.setArch ti { w.arch ti with rows := (w.arch ti).rows.set idx row }) :=
  ⟨shapeEq_setRow w ti idx row, (sameTable_setArch _ _ _).bt⟩

theorem quiet_poolGet (w : WM) (sid v : Nat) : Quiet w (w.poolGet sid v).1 := ⟨shapeEq_poolGet w sid v, poolGet_bt w sid v⟩

theorem liveOf_addRow (m : Nat → Mask) (l : Nat → Nat) (F : SlotState) (ai : Nat) :
    addAll (liveOf m l F) (colSlots ai (m ai) (l ai)) = liveOf m (fun a => l a + (if a = ai then 1 else 0)) F := by
  apply slotState_ext
  intro y
  rw [addAll_apply]
  cases y with
  | stored a c i =>
    rw [liveOf_stored, liveOf_stored, mem_colSlots_stored]
    by_cases ha : a = ai
    · subst ha
      simp only [if_true, true_and]
      constructor
      · rintro ((⟨h1, h2⟩ | h) | ⟨h1, h2⟩)
        · exact Or.inl ⟨h1, Nat.lt_succ_of_lt h2⟩
        · exact Or.inr h
        · exact Or.inl ⟨h1, h2 ▸ Nat.lt_succ_self _⟩
      · rintro (⟨h1, h2⟩ | h)
        · by_cases hi : i = l a
          · exact Or.inr ⟨h1, hi⟩
          · exact Or.inl (Or.inl ⟨h1, Nat.lt_of_le_of_ne (Nat.le_of_lt_succ h2) hi⟩)
        · exact Or.inl (Or.inr h)
    · simp [ha]
  | temp t k c => simp [liveOf, not_mem_colSlots_temp]

theorem liveOf_dropRow (m : Nat → Mask) (l : Nat → Nat) {F : SlotState} (hF : TempOnly F) (ai : Nat) :
    removeAll (liveOf m l F) (colSlots ai (m ai) (l ai - 1)) =
      liveOf m (fun a => l a - (if a = ai then 1 else 0)) F := by
  apply slotState_ext
  intro y
  rw [removeAll_apply]
  cases y with
  | stored a c i =>
    rw [liveOf_stored, liveOf_stored, mem_colSlots_stored, hF a c i]
    by_cases ha : a = ai
    · subst ha
      simp only [if_true, true_and, Bool.false_eq_true, or_false]
      constructor
      · rintro ⟨⟨h1, h2⟩, h3⟩
        exact ⟨h1, Nat.lt_of_le_of_ne (Nat.le_sub_one_of_lt h2) (fun h => h3 ⟨h1, h⟩)⟩
      · rintro ⟨h1, h2⟩
        exact ⟨⟨h1, Nat.lt_of_lt_of_le h2 (Nat.sub_le _ _)⟩, fun h => Nat.lt_irrefl _ (h.2 ▸ h2)⟩
    · simp [ha]
  | temp t k c => simp [liveOf, not_mem_colSlots_temp]

theorem liveOf_clearRows (m : Nat → Mask) (l : Nat → Nat) {F : SlotState} (hF : TempOnly F) (ai : Nat) :
    removeAll (liveOf m l F) (allSlots ai (m ai) (l ai)) = liveOf m (fun a => if a = ai then 0 else l a) F := by
  apply slotState_ext
  intro y
  rw [removeAll_apply]
  cases y with
  | stored a c i =>
    rw [liveOf_stored, liveOf_stored, mem_allSlots_stored, hF a c i]
    by_cases ha : a = ai
    · subst ha
      simp only [if_true, true_and, Bool.false_eq_true, or_false, Nat.not_lt_zero, and_false, iff_false]
      exact fun h => h.2 h.1
    · simp [ha]
  | temp t k c => simp [liveOf, not_mem_allSlots_temp]

theorem live_addRow {w w' : WM} (F : SlotState) (ai : Nat)
    (hm : ∀ a, (w'.arch a).mask = (w.arch a).mask)
    (hl : ∀ a, (w'.arch a).rows.length = (w.arch a).rows.length + (if a = ai then 1 else 0)) :
    addAll (live w F) (colSlots ai (w.arch ai).mask (w.arch ai).rows.length) = live w' F := by
  unfold live
  rw [liveOf_addRow, funext hm, funext hl]

theorem live_dropRow {w w' : WM} (F : SlotState) (hF : TempOnly F) (ai : Nat)
    (hm : ∀ a, (w'.arch a).mask = (w.arch a).mask)
    (hl : ∀ a, (w'.arch a).rows.length = (w.arch a).rows.length - (if a = ai then 1 else 0)) :
    removeAll (live w F) (colSlots ai (w.arch ai).mask ((w.arch ai).rows.length - 1)) = live w' F := by
  unfold live
  rw [liveOf_dropRow _ _ hF, funext hm, funext hl]

/-- one row more in `t`, then one row fewer in `p` -/
theorem live_move {w w' : WM} (F : SlotState) (hF : TempOnly F) (t p : Nat) (htp : t ≠ p)
    (hm : ∀ a, (w'.arch a).mask = (w.arch a).mask)
    (hl : ∀ a, (w'.arch a).rows.length + (if a = p then 1 else 0) =
      (w.arch a).rows.length + (if a = t then 1 else 0)) :
    removeAll (addAll (live w F) (colSlots t (w.arch t).mask (w.arch t).rows.length))
      (colSlots p (w.arch p).mask ((w.arch p).rows.length - 1)) = live w' F := by
  have hdrop := liveOf_dropRow (fun a => (w.arch a).mask)
    (fun a => (w.arch a).rows.length + (if a = t then 1 else 0)) hF p
  simp only [if_neg (Ne.symm htp), Nat.add_zero] at hdrop
  unfold live
  rw [liveOf_addRow, hdrop, funext hm]
  congr 1
  funext a
  have := hl a
  by_cases hap : a = p
  · subst hap; simp only [if_true] at this ⊢; exact Nat.sub_eq_of_eq_add this.symm
  · simp only [if_neg hap] at this ⊢; exact this.symm

end Mustache.Proofs.Life
