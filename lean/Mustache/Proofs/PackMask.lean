import Mustache.Proofs.RowsPackInv
import Mustache.Proofs.ClosureLoop
/-!
# Deferred command packs vs. immediate operations: the component set of the target entity

`seqMask deps m cmds` is the mask-level sequential semantics of a command list: what issuing the same
assigns / removes IMMEDIATELY (unlocked `WM.assign` / `WM.removeComp`), one by one, does to the component
set `m` of an entity, save that an immediate `assign` of a component already in an unclosed `m` also closes
`m` (`immMaskStep`). The `final` field that `applyCommandPack` folds over a pack is `seqMask w.deps m pack`
(`pack_final_eq_seqMask`), and that is the mask of the entity's archetype after `applyPack`
(`deferred_pack_mask`).

Nothing here assumes that archetype masks are closed under `w.deps`: a dependency may have been declared
after the entity's archetype was created.  No `RowsOK` either: the hypotheses are a handful of decidable
facts about the entity's location.
-/
namespace Mustache.Proofs.PackMask
open Mustache.Model Mustache.Proofs.Rows

/-- what one command does to the component set of its entity when the matching IMMEDIATE operation is issued
(`assign` of an absent component, `removeComponent`); `destroy` only marks, `create` / `destroyNow` are not
component edits -/
def seqMaskStep (deps : List (CompId × Mask)) (m : Mask) : Cmd → Mask
  | .assign _ c _ => if m.contains c then m else closedMask deps (Mask.insert m c)
  | .remove _ c => if m.contains c then closedMask deps (Mask.erase m c) else m
  | _ => m

def seqMask (deps : List (CompId × Mask)) (m : Mask) (cmds : List Cmd) : Mask :=
  cmds.foldl (seqMaskStep deps) m

theorem seqMask_nil (deps : List (CompId × Mask)) (m : Mask) : seqMask deps m [] = m := rfl

theorem seqMask_cons (deps : List (CompId × Mask)) (m : Mask) (c : Cmd) (l : List Cmd) :
    seqMask deps m (c :: l) = seqMask deps (seqMaskStep deps m c) l := rfl

/-- a command that edits components or marks: neither a creation nor an immediate destruction -/
def plainCmd : Cmd → Bool
  | .create .. => false
  | .destroyNow _ => false
  | _ => true

theorem seqMaskStep_shape (deps : List (CompId × Mask)) {m : Mask} (hs : Sorted m) (c : Cmd) :
    seqMaskStep deps m c = m ∨ ∃ x, Sorted x ∧ seqMaskStep deps m c = closedMask deps x := by
  cases c with
  | remove _ c =>
    by_cases h : m.contains c = true
    · exact Or.inr ⟨_, Mask.sorted_erase hs, if_pos h⟩
    · exact Or.inl (if_neg h)
  | assign _ c _ =>
    by_cases h : m.contains c = true
    · exact Or.inl (if_pos h)
    · exact Or.inr ⟨_, Mask.sorted_insert hs, if_neg h⟩
  | _ => exact Or.inl rfl

theorem seqMaskStep_sorted (deps : List (CompId × Mask)) {m : Mask} (hs : Sorted m) (c : Cmd) :
    Sorted (seqMaskStep deps m c) := by
  rcases seqMaskStep_shape deps hs c with h | ⟨x, hx, h⟩
  · rw [h]; exact hs
  · rw [h]; exact sorted_closedMask hx

theorem seqMask_sorted (deps : List (CompId × Mask)) (l : List Cmd) {m : Mask} (hs : Sorted m) :
    Sorted (seqMask deps m l) := by
  induction l generalizing m with
  | nil => exact hs
  | cons c l ih => exact ih (seqMaskStep_sorted deps hs c)

theorem seqMask_shape (deps : List (CompId × Mask)) (l : List Cmd) {m : Mask} (hs : Sorted m) :
    seqMask deps m l = m ∨ ∃ x, Sorted x ∧ seqMask deps m l = closedMask deps x := by
  induction l generalizing m with
  | nil => exact Or.inl rfl
  | cons c l ih =>
    rw [seqMask_cons]
    rcases ih (seqMaskStep_sorted deps hs c) with h | h
    · rw [h]; exact seqMaskStep_shape deps hs c
    · exact Or.inr h

/-- whenever the pack changes the component set, the new set is a fixpoint of the closure
(as the very same list): looking its archetype up does not widen it again -/
theorem seqMask_closed_of_ne {deps : List (CompId × Mask)} (hb : DepsBounded deps) (l : List Cmd) {m : Mask}
    (hs : Sorted m) (hne : seqMask deps m l ≠ m) :
    closedMask deps (seqMask deps m l) = seqMask deps m l := by
  rcases seqMask_shape deps l hs with h | ⟨x, hx, h⟩
  · exact absurd h hne
  · rw [h]; exact closedMask_idem hb hx

/-- a pack that changes the component set at all leaves a set that is closed under the CURRENT table, whatever
the start mask was: a late declaration is caught up with at the first effective command -/
theorem seqMask_closedUnder_of_ne {deps : List (CompId × Mask)} (hb : DepsBounded deps) (l : List Cmd) {m : Mask}
    (hs : Sorted m) (hne : seqMask deps m l ≠ m) : ClosedUnder deps (seqMask deps m l) := by
  rcases seqMask_shape deps l hs with h | ⟨x, _, h⟩
  · exact absurd h hne
  · rw [h]; exact closedMask_closed hb x

structure SameWorld (w w' : WM) : Prop where
  archs : w'.archs = w.archs
  locs : w'.locs = w.locs
  slots : w'.slots = w.slots
  worldId : w'.worldId = w.worldId
  deps : w'.deps = w.deps

theorem SameWorld.refl (w : WM) : SameWorld w w := ⟨rfl, rfl, rfl, rfl, rfl⟩

theorem SameWorld.trans {a b c : WM} (h₁ : SameWorld a b) (h₂ : SameWorld b c) : SameWorld a c :=
  ⟨h₂.archs.trans h₁.archs, h₂.locs.trans h₁.locs, h₂.slots.trans h₁.slots,
   h₂.worldId.trans h₁.worldId, h₂.deps.trans h₁.deps⟩

theorem SameWorld.isValid {w w' : WM} (h : SameWorld w w') (e : Handle) : w'.isValid e = w.isValid e := by
  unfold WM.isValid; rw [h.worldId, h.slots]

theorem SameWorld.locOf {w w' : WM} (h : SameWorld w w') (e : Handle) : w'.locOf e = w.locOf e := by
  unfold WM.locOf; rw [h.locs]

theorem SameWorld.arch {w w' : WM} (h : SameWorld w w') (i : Nat) : w'.arch i = w.arch i := by
  rw [arch_def, arch_def, h.archs]

variable (info : CompId → CompInfo)

theorem pst_final (deps : List (CompId × Mask)) (p : PackSt) (c : Cmd) (hd : p.dead = false) :
    (pst deps p c).final = seqMaskStep deps p.final c := by
  unfold pst
  rw [if_neg (hd ▸ Bool.false_ne_true)]
  cases c with
  | remove x c =>
    unfold seqMaskStep
    dsimp only
    split
    · split <;> rfl
    · rfl
  | assign x c v =>
    unfold seqMaskStep
    dsimp only
    split <;> rfl
  | _ => rfl

theorem cmdWorld_plain (e : Handle) (ic dead : Bool) (w : WM) {c : Cmd} (hc : plainCmd c = true) :
    SameWorld w (cmdWorld info e ic dead w c).1 := by
  cases c with
  | create _ _ _ => cases hc
  | destroyNow _ => cases hc
  | destroy h => cases dead <;> exact ⟨rfl, rfl, rfl, rfl, rfl⟩
  | _ => exact SameWorld.refl w

theorem packFold_plain (e : Handle) (ic : Bool) :
    ∀ (l : List Cmd) (acc : WM × PackSt × List Cb), acc.2.1.dead = false →
      (∀ c ∈ l, plainCmd c = true) →
      SameWorld acc.1 (l.foldl (packStep info e ic) acc).1 ∧
      (l.foldl (packStep info e ic) acc).2.1.dead = false ∧
      (l.foldl (packStep info e ic) acc).2.1.final = seqMask acc.1.deps acc.2.1.final l := by
  intro l
  induction l with
  | nil => intro acc hd _; exact ⟨SameWorld.refl _, hd, rfl⟩
  | cons c l ih =>
    intro ⟨w, p, cbs⟩ hd hp
    have hc := hp c List.mem_cons_self
    have hk : IdTable.isKill c = false := by cases c <;> first | rfl | cases hc
    have hw := cmdWorld_plain info e ic p.dead w hc
    rw [List.foldl_cons, packStep_eq]
    obtain ⟨k1, k2, k3⟩ := ih (_, pst w.deps p c, _) (by rw [pst_dead_eq, hd, hk]; rfl)
      (fun d hd' => hp d (List.mem_cons_of_mem _ hd'))
    exact ⟨hw.trans k1, k2, k3.trans (by rw [hw.deps, pst_final w.deps p c hd]; rfl)⟩

theorem pack_final_eq_seqMask (info : CompId → CompInfo) (e : Handle) (w : WM) (m : Mask) (pack : List Cmd)
    (hp : ∀ c ∈ pack, plainCmd c = true) :
    (pack.foldl (packStep info e false) (w, { final := m }, [])).2.1.final = seqMask w.deps m pack ∧
    (pack.foldl (packStep info e false) (w, { final := m }, [])).2.1.dead = false ∧
    (pack.foldl (packStep info e false) (w, { final := m }, [])).1.deps = w.deps := by
  obtain ⟨h1, h2, h3⟩ := packFold_plain info e false pack (w, { final := m }, []) rfl hp
  exact ⟨h3, h2, h1.deps⟩

def HasMask (w : WM) (e : Handle) (m : Mask) : Prop :=
  ∃ a i, w.locOf e = ⟨some a, i⟩ ∧ a < w.archs.length ∧ (w.arch a).mask = m

theorem HasMask.keep {w w' : WM} {e : Handle} {m : Mask} (hm : HasMask w e m) (hk : KeysSame w w')
    (hl : w'.locs = w.locs) : HasMask w' e m := by
  obtain ⟨a, i, h1, h2, h3⟩ := hm
  refine ⟨a, i, ?_, by rw [hk.alen]; exact h2, (hk.key a).1.trans h3⟩
  unfold WM.locOf at h1 ⊢; rw [hl]; exact h1

theorem keysSame_setRows (w : WM) (i : Nat) (rows : List Row) :
    KeysSame w (w.setArch i { w.arch i with rows := rows }) :=
  ⟨archs_length_setArch _ _ _, setArch_rows_key w i rows⟩

theorem externalMove_hasMask (w : WM) (t : Nat) (e : Handle) (p i : Nat)
    (skip : Mask) (hne : t ≠ p) (hn : e.id ≠ nullId) (hlt : e.id < w.locs.length) (ht : t < w.archs.length) :
    ∃ r, w.externalMove info t e p i skip = some r ∧ HasMask r.1 e (w.arch t).mask ∧ SameTable w r.1 := by
  have heq := externalMove_eq2 info w t e p i skip hne
  obtain ⟨hsame, halen, hllen, _, hkey⟩ := archRemove_frame info w p i (w.arch t).mask
  refine ⟨_, heq, ⟨t, _, insertRow_locOf_self _ t e _ hn (by rw [hllen]; exact hlt), ?_, ?_⟩,
    hsame.trans (insertRow_sameTable _ _ _ _)⟩
  · rw [insertRow_archs_length, halen]; exact ht
  · rw [(insertRow_mask _ t t e _).1, (hkey t).1]

/-- the move both immediate operations (and the pack) perform: look the archetype of `req` up, move there
unless it is the entity's own archetype. Either way the entity ends in an archetype with mask
`closedMask w.deps req`. -/
theorem getArch_move_mask (w : WM) (e : Handle) (pi idx : Nat) (req : Mask)
    (sh : Shared) (skip : Mask) (hn : e.id ≠ nullId) (hloc : w.locOf e = ⟨some pi, idx⟩) :
    let g := w.getArch req sh
    (g.1.externalMove info g.2 e pi idx skip = none ∧ HasMask g.1 e (closedMask w.deps req) ∧
      SameTable w g.1) ∨
    (∃ r, g.1.externalMove info g.2 e pi idx skip = some r ∧ HasMask r.1 e (closedMask w.deps req) ∧
      SameTable w r.1) := by
  intro g
  have hsame := getArch_sameTable w req sh
  have hidx := getArch_idx_lt w req sh
  have hkey := (getArch_key w req sh).1
  have hloc' : g.1.locOf e = ⟨some pi, idx⟩ := by
    unfold WM.locOf at hloc ⊢; rw [getArch_locs]; exact hloc
  by_cases hne : g.2 = pi
  · exact Or.inl ⟨by rw [hne]; exact externalMove_self info _ _ _ _ _,
      ⟨pi, idx, hloc', hne ▸ hidx, by rw [← hne]; exact hkey⟩, hsame⟩
  · have hlt : e.id < g.1.locs.length := lt_of_getD_ne (d := ⟨none, 0⟩) fun hd => nomatch hd.symm.trans hloc'
    obtain ⟨r, hr, hm, hs⟩ := externalMove_hasMask info g.1 g.2 e pi idx skip hne hn hlt hidx
    exact Or.inr ⟨r, hr, hkey ▸ hm, hsame.trans hs⟩

/-- unlocked `assign<C>(e, …)`: the entity ends in an archetype whose mask is the closure of its old mask
plus `c` — whether it moved or `getArchetype` returned its own archetype ("to itself" exception) -/
theorem immediate_assign_closed (w : WM) (t : Nat) (e : Handle) (c : CompId)
    (v : Option Nat) (pi idx : Nat) (hul : w.isLocked = false) (hn : e.id ≠ nullId)
    (hloc : w.locOf e = ⟨some pi, idx⟩) :
    HasMask (w.assign info t e c v).1 e (closedMask w.deps (Mask.insert (w.arch pi).mask c)) ∧
    SameTable w (w.assign info t e c v).1 := by
  unfold WM.assign
  simp only [hul, Bool.false_eq_true, if_false, hloc]
  rcases getArch_move_mask info w e pi idx (Mask.insert (w.arch pi).mask c) (w.arch pi).shared
    (if v.isSome then Mask.insert (w.arch pi).mask c else []) hn hloc with ⟨h1, h3, h4⟩ | ⟨r, h1, h3, h4⟩
  · simp only [h1]; exact ⟨h3, h4⟩
  · simp only [h1]
    split
    · exact ⟨h3.keep (keysSame_setRows _ _ _) rfl, h4.trans (sameTable_setArch _ _ _)⟩
    · exact ⟨h3, h4⟩

theorem immediate_assign_mask (w : WM) (t : Nat) (e : Handle) (c : CompId)
    (v : Option Nat) (pi idx : Nat) (hul : w.isLocked = false) (hn : e.id ≠ nullId)
    (hloc : w.locOf e = ⟨some pi, idx⟩) (hc : c ∉ (w.arch pi).mask) :
    HasMask (w.assign info t e c v).1 e (seqMaskStep w.deps (w.arch pi).mask (.assign e c v)) ∧
    SameTable w (w.assign info t e c v).1 := by
  have hs : seqMaskStep w.deps (w.arch pi).mask (.assign e c v) =
      closedMask w.deps (Mask.insert (w.arch pi).mask c) := if_neg (mt List.contains_iff_mem.mp hc)
  rw [hs]
  exact immediate_assign_closed info w t e c v pi idx hul hn hloc

/-- **immediate removeComponent** = `seqMaskStep`: the closure of the old mask minus `c` when `c` was
there (also when that closure is the old mask and nothing moves), the old mask otherwise -/
theorem immediate_remove_mask (w : WM) (t : Nat) (e : Handle) (c : CompId)
    (pi idx : Nat) (hul : w.isLocked = false) (hv : w.isValid e = true) (hn : e.id ≠ nullId)
    (hloc : w.locOf e = ⟨some pi, idx⟩) (hpi : pi < w.archs.length) :
    HasMask (w.removeComp info t e c).1 e (seqMaskStep w.deps (w.arch pi).mask (.remove e c)) ∧
    SameTable w (w.removeComp info t e c).1 := by
  unfold WM.removeComp
  simp only [hul, hv, Bool.false_eq_true, if_false, hloc, Bool.not_true, seqMaskStep]
  by_cases hc : (w.arch pi).mask.contains c = true
  · simp only [hc, Bool.not_true, Bool.false_eq_true, if_false, if_true]
    rcases getArch_move_mask info w e pi idx (Mask.erase (w.arch pi).mask c) (w.arch pi).shared [] hn hloc with
      ⟨h1, h3, h4⟩ | ⟨r, h1, h3, h4⟩
    · simp only [h1]; exact ⟨h3, h4⟩
    · simp only [h1]; exact ⟨h3, h4⟩
  · have hc' : (w.arch pi).mask.contains c = false := by simpa using hc
    simp only [hc', Bool.not_false, if_true, Bool.false_eq_true, if_false]
    exact ⟨⟨pi, idx, hloc, hpi, rfl⟩, SameTable.refl w⟩

theorem packSetVal_hasMask (ti idx : Nat) {w : WM} (c : CompId) (v : Val) {e : Handle} {m : Mask}
    (h : HasMask w e m) : HasMask (packSetVal ti idx w c v) e m := by
  unfold packSetVal
  simp only
  split
  · exact h
  · exact h.keep (keysSame_setRows _ _ _) rfl

/-- the one move of a pack on an existing entity: the entity ends in an archetype with mask `p.final`,
provided `p.final` is the mask it started from or a fixpoint of the closure -/
theorem packMoved_mask (e : Handle) (initial : Mask) (sh : Shared) (w : WM)
    (p : PackSt) (pi idx : Nat) (hn : e.id ≠ nullId) (hloc : w.locOf e = ⟨some pi, idx⟩)
    (hpi : pi < w.archs.length) (hinit : (w.arch pi).mask = initial)
    (hfix : initial ≠ p.final → closedMask w.deps p.final = p.final) :
    HasMask (packMoved info e false initial sh w p).1 e p.final := by
  have hla : (w.locOf e).arch = some pi := by rw [hloc]
  by_cases hpf : initial = p.final
  · rw [packMoved_stay info e initial sh w p pi hla (packTarget_stay e initial sh w p pi hpf hla)]
    exact ⟨pi, idx, hloc, hpi, hinit.trans hpf⟩
  · rw [packMoved_changed info e initial sh w p pi hpf hla]
    simp only [hloc]
    rcases getArch_move_mask info w e pi idx p.final sh (Mask.ofList (p.src.map (·.1))) hn hloc with
      ⟨h1, h3, _⟩ | ⟨r, h1, h3, _⟩
    · rw [h1]; rw [hfix hpf] at h3; exact h3
    · rw [h1]; rw [hfix hpf] at h3; exact h3

theorem packFinish_mask (e : Handle) (initial : Mask) (sh : Shared) (w : WM)
    (p : PackSt) (cbs : List Cb) (pi idx : Nat) (hd : p.dead = false) (hn : e.id ≠ nullId)
    (hloc : w.locOf e = ⟨some pi, idx⟩) (hpi : pi < w.archs.length) (hinit : (w.arch pi).mask = initial)
    (hfix : initial ≠ p.final → closedMask w.deps p.final = p.final) :
    HasMask (packFinish info e false initial sh (w, p, cbs)).1 e p.final := by
  rw [packFinish_alive _ _ _ _ _ _ _ _ hd]
  exact packLoops_rel (fun a b => ∀ m, HasMask a e m → HasMask b e m) (fun _ _ h => h)
    (fun _ _ _ h₁ h₂ m h => h₂ m (h₁ m h)) (fun ti idx _ c v _ h => packSetVal_hasMask ti idx c v h)
    info e false initial p _ _ _ _ _ (packMoved_mask info e initial sh w p pi idx hn hloc hpi hinit hfix)

theorem isCreateCmd_of_plain {c : Cmd} (h : plainCmd c = true) : isCreateCmd c = false := by
  cases c with
  | create _ _ _ => cases h
  | _ => rfl

/-- **the deferred path**: a pack of assigns / removes / destroy marks on an existing valid entity leaves it
valid, in an archetype whose mask is `seqMask w.deps m pack`, `m` being the mask its archetype had — ANY
sorted `m`, closed under `w.deps` or not. (`applyPack` ignores the lock depth: this is the state `flush`
applies it to.) -/
theorem deferred_pack_mask (info : CompId → CompInfo) (w : WM) (e : Handle) (pack : List Cmd) (pi idx : Nat)
    (hb : DepsBounded w.deps) (hv : w.isValid e = true) (hn : e.id ≠ nullId)
    (hloc : w.locOf e = ⟨some pi, idx⟩) (hpi : pi < w.archs.length) (hs : Sorted (w.arch pi).mask)
    (hent : ∀ c ∈ pack, c.entity = e) (hp : ∀ c ∈ pack, plainCmd c = true) :
    HasMask (w.applyPack info pack).1 e (seqMask w.deps (w.arch pi).mask pack) ∧
    (w.applyPack info pack).1.isValid e = true ∧ (w.applyPack info pack).1.deps = w.deps := by
  cases pack with
  | nil => exact ⟨⟨pi, idx, hloc, hpi, rfl⟩, hv, rfl⟩
  | cons first rest =>
    have hic : isCreateCmd first = false := isCreateCmd_of_plain (hp first (List.mem_cons_self ..))
    have hfe : first.entity = e := hent first (List.mem_cons_self ..)
    rw [applyPack_eq, packStart_other w first hic, hfe]
    simp only [hv, Bool.not_true, Bool.false_eq_true, if_false, hloc, hic, packInit]
    obtain ⟨h1, h2, h3⟩ := packFold_plain info e false (first :: rest)
      (w, { final := (w.arch pi).mask }, []) rfl hp
    generalize (first :: rest).foldl (packStep info e false) (w, { final := (w.arch pi).mask }, []) = st
      at h1 h2 h3
    rcases st with ⟨w2, p, cbs⟩
    simp only at h1 h2 h3
    have hfix : (w.arch pi).mask ≠ p.final → closedMask w2.deps p.final = p.final := by
      intro hne
      rw [h1.deps, h3]
      exact seqMask_closed_of_ne hb _ hs (by rw [← h3]; exact hne.symm)
    have k1 := packFinish_mask info e (w.arch pi).mask (w.arch pi).shared w2 p cbs pi idx h2 hn
      (by rw [h1.locOf]; exact hloc) (by rw [h1.archs]; exact hpi) (by rw [h1.arch]) hfix
    have k2 := packFinish_sameTable info e false (w.arch pi).mask (w.arch pi).shared (w2, p, cbs)
    refine ⟨by rw [← h3]; exact k1, ?_, ?_⟩
    · rw [k2.isValid, h1.isValid]; exact hv
    · rw [k2.deps, h1.deps]

def maskOf (w : WM) (e : Handle) : Option Mask := (w.locOf e).arch.map (fun a => (w.arch a).mask)

theorem HasMask.maskOf {w : WM} {e : Handle} {m : Mask} (h : HasMask w e m) : maskOf w e = some m := by
  rcases h with ⟨a, i, h1, _, h3⟩
  simp [PackMask.maskOf, h1, h3]

theorem HasMask.unique {w : WM} {e : Handle} {m m' : Mask} (h : HasMask w e m) (h' : HasMask w e m') :
    m = m' := by
  have a := h.maskOf
  rw [h'.maskOf] at a
  cases a; rfl

/-- what the IMMEDIATE operation really does to the component set: an unlocked `assign` looks the archetype of
`m ∪ {c}` up even when `c` is already there, so it closes `m` if `m` was not closed -/
def immMaskStep (deps : List (CompId × Mask)) (m : Mask) : Cmd → Mask
  | .assign _ c _ => closedMask deps (Mask.insert m c)
  | .remove _ c => if m.contains c then closedMask deps (Mask.erase m c) else m
  | _ => m

def immMask (deps : List (CompId × Mask)) (m : Mask) (cmds : List Cmd) : Mask :=
  cmds.foldl (immMaskStep deps) m

/-- the API call matching a buffered command, issued on the unlocked world from thread `t` -/
def immStep (info : CompId → CompInfo) (t : Nat) (w : WM) : Cmd → WM
  | .assign e c v => (w.assign info t e c v).1
  | .remove e c => (w.removeComp info t e c).1
  | .destroy e => w.destroy t e
  | _ => w

def immRun (info : CompId → CompInfo) (t : Nat) (w : WM) (cmds : List Cmd) : WM :=
  cmds.foldl (immStep info t) w

theorem destroy_unlocked (w : WM) (t : Nat) (h : Handle) (hul : w.isLocked = false) :
    w.destroy t h = if w.isValid h then { w with marked := insertSorted w.marked h } else w := by
  unfold WM.destroy
  rw [hul, if_neg Bool.false_ne_true]

theorem immStep_mask (t : Nat) (w : WM) (e : Handle) (m : Mask) (c : Cmd)
    (hul : w.isLocked = false) (hv : w.isValid e = true) (hn : e.id ≠ nullId) (hm : HasMask w e m)
    (hce : c.entity = e) :
    HasMask (immStep info t w c) e (immMaskStep w.deps m c) ∧ (immStep info t w c).isLocked = false ∧
    (immStep info t w c).isValid e = true ∧ (immStep info t w c).deps = w.deps := by
  cases c with
  | create _ _ _ => exact ⟨hm, hul, hv, rfl⟩
  | destroyNow _ => exact ⟨hm, hul, hv, rfl⟩
  | destroy h =>
    rw [show immStep info t w (.destroy h) = _ from destroy_unlocked w t h hul]
    cases w.isValid h <;> exact ⟨hm, hul, hv, rfl⟩
  | remove e' c =>
    obtain ⟨pi, idx, hloc, hpi, rfl⟩ := hm
    subst hce
    obtain ⟨h1, h2⟩ := immediate_remove_mask info w t _ c pi idx hul hv hn hloc hpi
    exact ⟨h1, h2.isLocked.trans hul, (h2.isValid _).trans hv, h2.deps⟩
  | assign e' c v =>
    obtain ⟨pi, idx, hloc, _, rfl⟩ := hm
    subst hce
    obtain ⟨h1, h2⟩ := immediate_assign_closed info w t _ c v pi idx hul hn hloc
    exact ⟨h1, h2.isLocked.trans hul, (h2.isValid _).trans hv, h2.deps⟩

theorem immRun_mask (t : Nat) (e : Handle) (hn : e.id ≠ nullId) :
    ∀ (l : List Cmd) (w : WM) (m : Mask), w.isLocked = false → w.isValid e = true → HasMask w e m →
      (∀ c ∈ l, c.entity = e) →
      HasMask (immRun info t w l) e (immMask w.deps m l) ∧ (immRun info t w l).isLocked = false ∧
      (immRun info t w l).isValid e = true ∧ (immRun info t w l).deps = w.deps := by
  intro l
  induction l with
  | nil => intro w m hul hv hm _; exact ⟨hm, hul, hv, rfl⟩
  | cons c l ih =>
    intro w m hul hv hm hent
    obtain ⟨h1, h2, h3, h4⟩ := immStep_mask info t w e m c hul hv hn hm (hent c (List.mem_cons_self ..))
    obtain ⟨k1, k2, k3, k4⟩ := ih (immStep info t w c) (immMaskStep w.deps m c) h2 h3 h1
      (fun d hd => hent d (List.mem_cons_of_mem _ hd))
    rw [h4] at k1
    exact ⟨k1, k2, k3, k4.trans h4⟩

/-- the one place where the immediate and the deferred semantics part: an `assign` of a component the entity
already has, issued while its mask is still unclosed -/
theorem immMaskStep_eq {deps : List (CompId × Mask)} {m : Mask} (hs : Sorted m) (c : Cmd)
    (h : closedMask deps m = m ∨ ∀ e x v, c = Cmd.assign e x v → x ∉ m) :
    immMaskStep deps m c = seqMaskStep deps m c := by
  cases c with
  | assign e' x v =>
    by_cases hx : m.contains x = true
    · have hx' : x ∈ m := List.contains_iff_mem.mp hx
      rcases h with h | h
      · refine Eq.trans ?_ (if_pos hx).symm
        show closedMask deps (Mask.insert m x) = m
        rw [Mask.insert_of_mem hs hx', h]
      · exact absurd hx' (h e' x v rfl)
    · exact (if_neg hx).symm
  | _ => rfl

/-- Excluded when the start mask is closed or no assign in the list names a component of the start mask. -/
theorem immMask_eq_seqMask {deps : List (CompId × Mask)} (hb : DepsBounded deps) :
    ∀ (l : List Cmd) (m : Mask), Sorted m →
      (closedMask deps m = m ∨ ∀ e c v, Cmd.assign e c v ∈ l → c ∉ m) →
      immMask deps m l = seqMask deps m l := by
  intro l
  induction l with
  | nil => intro m _ _; rfl
  | cons c l ih =>
    intro m hs hre
    show immMask deps (immMaskStep deps m c) l = seqMask deps (seqMaskStep deps m c) l
    rw [immMaskStep_eq hs c (hre.imp_right fun h e x v hc => h e x v (hc ▸ List.mem_cons_self))]
    refine ih _ (seqMaskStep_sorted deps hs c) ?_
    -- after the step the mask is still `m`, or it is closed
    rcases seqMaskStep_shape deps hs c with h | ⟨x, hx, h⟩
    · rw [h]; exact hre.imp_right fun h' e' x v hmem => h' e' x v (List.mem_cons_of_mem _ hmem)
    · rw [h]; exact Or.inl (closedMask_idem hb hx)

/-- **deferred = immediate**: applying the pack at unlock gives the entity the same component set as issuing
the same commands immediately, one by one, on the same (unlocked) world — for every dependency table and every
sorted start mask `m`, closed or not, as long as no assign re-assigns a component of an unclosed `m`. -/
theorem deferred_eq_immediate (t : Nat) (w : WM) (e : Handle) (pack : List Cmd)
    (pi idx : Nat) (hb : DepsBounded w.deps) (hul : w.isLocked = false) (hv : w.isValid e = true)
    (hn : e.id ≠ nullId) (hloc : w.locOf e = ⟨some pi, idx⟩) (hpi : pi < w.archs.length)
    (hs : Sorted (w.arch pi).mask) (hent : ∀ c ∈ pack, c.entity = e) (hp : ∀ c ∈ pack, plainCmd c = true)
    (hre : closedMask w.deps (w.arch pi).mask = (w.arch pi).mask ∨
      ∀ e' c v, Cmd.assign e' c v ∈ pack → c ∉ (w.arch pi).mask) :
    HasMask (w.applyPack info pack).1 e (seqMask w.deps (w.arch pi).mask pack) ∧
    HasMask (immRun info t w pack) e (seqMask w.deps (w.arch pi).mask pack) := by
  refine ⟨(deferred_pack_mask info w e pack pi idx hb hv hn hloc hpi hs hent hp).1, ?_⟩
  have h := (immRun_mask info t e hn pack w (w.arch pi).mask hul hv ⟨pi, idx, hloc, hpi, rfl⟩ hent).1
  rw [immMask_eq_seqMask hb pack _ hs hre] at h
  exact h

end Mustache.Proofs.PackMask
