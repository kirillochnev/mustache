import Mustache.Proofs.RefineDefs
/-!
# Refinement: basic lemmas (ordinal map, pointwise list relation, abstraction of an entity)
-/
namespace Mustache.Proofs.Refine
open Mustache.Model Mustache.Spec
open Mustache.Proofs.IdTable (tabOf Ghost TInv)
open Mustache.Proofs.Rows

theorem snoc_induction {α : Type} {P : List α → Prop} (h0 : P [])
    (hs : ∀ (l : List α) (x : α), P l → P (l ++ [x])) : ∀ l, P l := by
  intro l
  have h : ∀ r : List α, P r.reverse := by
    intro r
    induction r with
    | nil => exact h0
    | cons a r ih => rw [List.reverse_cons]; exact hs _ _ ih
  simpa using h l.reverse

theorem ordGo_append (h : Handle) (l : List Handle) (x : Handle) (i : Nat) (acc : Option Nat) :
    ordGo h (l ++ [x]) i acc = if x = h then some (i + l.length) else ordGo h l i acc := by
  induction l generalizing i acc with
  | nil => simp [ordGo]
  | cons y ys ih =>
    simp only [List.cons_append, ordGo, ih, List.length_cons]
    rw [Nat.add_assoc, Nat.add_comm 1]

theorem ordOf_nil (h : Handle) : ordOf [] h = none := rfl

theorem ordOf_snoc (l : List Handle) (x h : Handle) :
    ordOf (l ++ [x]) h = if x = h then some l.length else ordOf l h := by
  unfold ordOf
  rw [ordGo_append]
  simp

theorem ordOf_some {l : List Handle} {h : Handle} {k : Nat} (hk : ordOf l h = some k) : l[k]? = some h := by
  induction l using snoc_induction generalizing k with
  | h0 => simp [ordOf_nil] at hk
  | hs l x ih =>
    rw [ordOf_snoc] at hk
    by_cases hx : x = h
    · rw [if_pos hx] at hk
      cases hk
      simp [hx]
    · rw [if_neg hx] at hk
      have := ih hk
      have hlt : k < l.length := (List.getElem?_eq_some_iff.mp this).1
      rw [List.getElem?_append_left hlt]
      exact this

theorem ordOf_lt {l : List Handle} {h : Handle} {k : Nat} (hk : ordOf l h = some k) : k < l.length :=
  (List.getElem?_eq_some_iff.mp (ordOf_some hk)).1

theorem ordOf_none_iff (l : List Handle) (h : Handle) : ordOf l h = none ↔ h ∉ l := by
  induction l using snoc_induction with
  | h0 => simp [ordOf_nil]
  | hs l x ih =>
    rw [ordOf_snoc]
    by_cases hx : x = h
    · simp [hx]
    · rw [if_neg hx, ih]
      simp [Ne.symm hx]

theorem ordOf_isSome_iff (l : List Handle) (h : Handle) : (ordOf l h).isSome = true ↔ h ∈ l := by
  cases ho : ordOf l h with
  | none => simp [(ordOf_none_iff l h).mp ho]
  | some k =>
    simp only [Option.isSome_some, true_iff]
    exact List.mem_of_getElem? (ordOf_some ho)

/-- under the C01 fact that issued handles are pairwise distinct, `ordOf` is THE ordinal of the handle -/
theorem ordOf_unique {l : List Handle} (hn : l.Nodup) {h : Handle} {k : Nat} (hk : l[k]? = some h) :
    ordOf l h = some k := by
  cases ho : ordOf l h with
  | none =>
    exact absurd (List.mem_of_getElem? hk) ((ordOf_none_iff l h).mp ho)
  | some j =>
    have hj := ordOf_some ho
    have hj1 := (List.getElem?_eq_some_iff.mp hj).1
    have := (List.getElem?_inj hj1 hn).mp (hj.trans hk.symm)
    rw [this]

theorem ordOf_eq_iff {l : List Handle} (hn : l.Nodup) (h : Handle) (k : Nat) :
    ordOf l h = some k ↔ l[k]? = some h :=
  ⟨ordOf_some, ordOf_unique hn⟩

theorem ordOf_snoc_ne (l : List Handle) {x h : Handle} (hne : x ≠ h) : ordOf (l ++ [x]) h = ordOf l h := by
  rw [ordOf_snoc, if_neg hne]

theorem ordOf_snoc_self (l : List Handle) (x : Handle) : ordOf (l ++ [x]) x = some l.length := by
  rw [ordOf_snoc, if_pos rfl]

theorem All2.length {α β : Type} {R : α → β → Prop} {l : List α} {m : List β} (h : All2 R l m) :
    l.length = m.length := by
  induction h with
  | nil => rfl
  | cons _ _ ih => exact congrArg (· + 1) ih

theorem All2.mono {α β : Type} {R S : α → β → Prop} {l : List α} {m : List β} (h : All2 R l m)
    (hrs : ∀ a ∈ l, ∀ b, R a b → S a b) : All2 S l m := by
  induction h with
  | nil => exact .nil
  | cons hr _ ih =>
    exact .cons (hrs _ (by simp) _ hr) (ih (fun a ha b hab => hrs a (by simp [ha]) b hab))

theorem All2.append {α β : Type} {R : α → β → Prop} {l l' : List α} {m m' : List β} (h : All2 R l m)
    (h' : All2 R l' m') : All2 R (l ++ l') (m ++ m') := by
  induction h with
  | nil => exact h'
  | cons hr _ ih => exact .cons hr ih

theorem All2.get {α β : Type} {R : α → β → Prop} {l : List α} {m : List β} (h : All2 R l m) (i : Nat)
    {a : α} (ha : l[i]? = some a) : ∃ b, m[i]? = some b ∧ R a b := by
  induction h generalizing i with
  | nil => cases ha
  | cons hr _ ih =>
    cases i with
    | zero => cases ha; exact ⟨_, rfl, hr⟩
    | succ i => exact ih i ha

theorem All2.getD {α β : Type} {R : α → β → Prop} {l : List α} {m : List β} (h : All2 R l m) (i : Nat)
    (da : α) (db : β) (hd : R da db) : R (l.getD i da) (m.getD i db) := by
  induction h generalizing i with
  | nil => exact hd
  | cons hr _ ih =>
    cases i with
    | zero => exact hr
    | succ i => exact ih i

theorem All2.set {α β : Type} {R : α → β → Prop} {l : List α} {m : List β} (h : All2 R l m) (i : Nat)
    {a : α} {b : β} (hab : R a b) : All2 R (l.set i a) (m.set i b) := by
  induction h generalizing i with
  | nil => exact .nil
  | cons hr ht ih =>
    cases i with
    | zero => exact .cons hab ht
    | succ i => exact .cons hr (ih i)

theorem All2.replicate {α β : Type} {R : α → β → Prop} {a : α} {b : β} (hab : R a b) (n : Nat) :
    All2 R (List.replicate n a) (List.replicate n b) := by
  induction n with
  | zero => exact .nil
  | succ n ih => exact .cons hab ih

theorem All2.map {α β γ δ : Type} {R : α → β → Prop} {S : γ → δ → Prop} {l : List α} {m : List β}
    (h : All2 R l m) (f : α → γ) (g : β → δ) (hfg : ∀ a b, R a b → S (f a) (g b)) :
    All2 S (l.map f) (m.map g) := by
  induction h with
  | nil => exact .nil
  | cons hr _ ih => exact .cons (hfg _ _ hr) ih

theorem All2.of_map {α β γ : Type} {R : α → β → Prop} (l : List γ) (f : γ → α) (g : γ → β) (h : ∀ x, R (f x) (g x)) :
    All2 R (l.map f) (l.map g) := by
  induction l with
  | nil => exact .nil
  | cons x xs ih => exact .cons (h x) ih

theorem All2.of_forall {α β : Type} {R : α → β → Prop} {l : List α} {m : List β}
    (hl : l.length = m.length) (h : ∀ (i : Nat) a b, l[i]? = some a → m[i]? = some b → R a b) : All2 R l m := by
  induction l generalizing m with
  | nil => cases m with
    | nil => exact .nil
    | cons b m => cases hl
  | cons a l ih => cases m with
    | nil => cases hl
    | cons b m => exact .cons (h 0 a b rfl rfl) (ih (Nat.succ.inj hl) fun i x y hx hy => h (i + 1) x y hx hy)

theorem lookupS_nil (sid : Nat) : lookupS [] sid = none := rfl

theorem optRel_none_left {b : Option SEnt} : optRel none b ↔ b = none := by
  cases b with
  | none => exact ⟨fun _ => rfl, fun _ => trivial⟩
  | some x => exact ⟨False.elim, fun h => nomatch h⟩

theorem optRel_none_right {a : Option SEnt} : optRel a none ↔ a = none := by
  cases a with
  | none => exact ⟨fun _ => rfl, fun _ => trivial⟩
  | some x => exact ⟨False.elim, fun h => nomatch h⟩

theorem optRel_some_right {a : Option SEnt} {b : SEnt} : optRel a (some b) ↔ ∃ x, a = some x ∧ entRel x b := by
  cases a <;> simp [optRel]

theorem optRel_isSome {a b : Option SEnt} (h : optRel a b) : a.isSome = b.isSome :=
  match a, b, h with
  | none, none, _ => rfl
  | some _, some _, _ => rfl
  | none, some _, h => h.elim
  | some _, none, h => h.elim

theorem entRel_refl (a : SEnt) : entRel a a := ⟨rfl, fun _ => rfl⟩

theorem entRel.trans {a b c : SEnt} (h₁ : entRel a b) (h₂ : entRel b c) : entRel a c :=
  ⟨h₁.1.trans h₂.1, fun sid => (h₁.2 sid).trans (h₂.2 sid)⟩

theorem entRel.symm {a b : SEnt} (h : entRel a b) : entRel b a := ⟨h.1.symm, fun sid => (h.2 sid).symm⟩

theorem optRel.trans {a b c : Option SEnt} (h₁ : optRel a b) (h₂ : optRel b c) : optRel a c :=
  match a, b, c, h₁, h₂ with
  | none, none, none, _, _ => trivial
  | some _, some _, some _, h₁, h₂ => entRel.trans h₁ h₂
  | none, some _, _, h₁, _ => h₁.elim
  | some _, none, _, h₁, _ => h₁.elim
  | none, none, some _, _, h₂ => h₂.elim
  | some _, some _, none, _, h₂ => h₂.elim

theorem optRel_refl (a : Option SEnt) : optRel a a := by
  cases a <;> simp [optRel, entRel_refl]

theorem absEnt_invalid {w : WM} {h : Handle} (hv : w.isValid h = false) : absEnt w h = none := by
  simp [absEnt, hv]

theorem absEnt_of_row {w : WM} {h : Handle} {ai i : Nat} {r : Row} (hv : w.isValid h = true)
    (hl : w.locOf h = ⟨some ai, i⟩) (hr : (w.arch ai).rows[i]? = some r) :
    absEnt w h = some ⟨(w.arch ai).mask.zip r.vals, absShared w.pool (w.arch ai).shared⟩ := by
  simp [absEnt, hv, hl, List.getD_eq_getElem?_getD, hr]

theorem absEnt_isSome_of_valid {w : WM} (hl : LiveInv w) (hok : RowsOK w) {h : Handle} (hv : w.isValid h = true) :
    ∃ ai i r, (w.arch ai).rows[i]? = some r ∧ r.ent = h ∧ w.locOf h = ⟨some ai, i⟩ ∧
      absEnt w h = some ⟨(w.arch ai).mask.zip r.vals, absShared w.pool (w.arch ai).shared⟩ := by
  rcases hl.live_in h hv with ⟨ai, i, r, hr, rfl⟩
  exact ⟨ai, i, r, hr, rfl, hok.locOf hr, absEnt_of_row hv (hok.locOf hr) hr⟩

theorem absEnt_isSome_iff {w : WM} (hl : LiveInv w) (hok : RowsOK w) (h : Handle) :
    (absEnt w h).isSome = w.isValid h := by
  cases hv : w.isValid h with
  | false => simp [absEnt_invalid hv]
  | true =>
    rcases absEnt_isSome_of_valid hl hok hv with ⟨_, _, _, _, _, _, he⟩
    simp [he]

end Mustache.Proofs.Refine
