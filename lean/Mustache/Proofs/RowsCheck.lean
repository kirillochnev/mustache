import Mustache.Proofs.RowsNew
/-!
# Executable checkers for the row invariants (used for the non-vacuity examples on concrete states)
-/
namespace Mustache.Proofs.Rows
open Mustache.Model

def allRows (w : WM) (p : Nat → Nat → Row → Bool) : Bool :=
  (List.range w.archs.length).all fun ai =>
    (List.range (w.arch ai).rows.length).all fun i => p ai i ((w.arch ai).rows.getD i default)

theorem allRows_sound {w : WM} {p : Nat → Nat → Row → Bool} (h : allRows w p = true)
    {ai i : Nat} {r : Row} (hr : (w.arch ai).rows[i]? = some r) : p ai i r = true := by
  unfold allRows at h
  rw [List.all_eq_true] at h
  have h1 := h ai (List.mem_range.mpr (lt_of_row hr))
  rw [List.all_eq_true] at h1
  have h2 := h1 i (List.mem_range.mpr (idx_lt_of_row hr))
  rw [List.getD_eq_getElem?_getD, hr] at h2
  exact h2

def rowsOKb (w : WM) : Bool :=
  allRows w fun ai i r =>
    r.vals.length == (w.arch ai).mask.length && r.ent.id != nullId &&
      w.locs[r.ent.id]? == some ⟨some ai, i⟩

theorem rowsOK_of_check {w : WM} (h : rowsOKb w = true) : RowsOK w := by
  constructor
  · intro ai i r hr
    have := allRows_sound h hr
    simp only [Bool.and_eq_true, beq_iff_eq] at this
    exact this.1.1
  · intro ai i r hr
    have := allRows_sound h hr
    simp only [Bool.and_eq_true, beq_iff_eq, bne_iff_ne] at this
    exact ⟨this.1.2, this.2⟩

def notInRowb (w : WM) (id : Nat) : Bool := allRows w fun _ _ r => r.ent.id != id

theorem notInRow_of_check {w : WM} {id : Nat} (h : notInRowb w id = true) : NotInRow w id := by
  intro ai i r hr
  have := allRows_sound h hr
  simpa using this

def allocOKb (w : WM) : Bool :=
  notInRowb w (w.allocId).2.id && (w.allocId).2.id != nullId &&
    decide ((w.allocId).2.id < (w.allocId).1.locs.length)

theorem allocOK_of_check {w : WM} (h : allocOKb w = true) : AllocOK w := by
  unfold allocOKb at h
  simp only [Bool.and_eq_true, bne_iff_ne, decide_eq_true_eq] at h
  exact ⟨notInRow_of_check h.1.1, h.1.2, h.2⟩

def sortedb : Mask → Bool
  | [] => true
  | [_] => true
  | x :: y :: rest => decide (x < y) && sortedb (y :: rest)

theorem maskOk_of_sortedb : ∀ (m : Mask), sortedb m = true → MaskOk m
  | [], _ => List.Pairwise.nil
  | [x], _ => List.pairwise_singleton _ x
  | x :: y :: rest, h => by
    simp only [sortedb, Bool.and_eq_true, decide_eq_true_eq] at h
    have ih := maskOk_of_sortedb (y :: rest) h.2
    refine List.pairwise_cons.mpr ⟨?_, ih⟩
    intro z hz
    rcases List.mem_cons.mp hz with rfl | hz
    · exact h.1
    · exact Nat.lt_trans h.1 ((List.pairwise_cons.mp ih).1 z hz)

def keysOKb (w : WM) : Bool :=
  (List.range w.archs.length).all fun ai =>
    sortedb (w.arch ai).mask &&
    (List.range w.archs.length).all fun aj =>
      !((w.arch ai).mask == (w.arch aj).mask && (w.arch ai).shared.data == (w.arch aj).shared.data) || ai == aj

theorem keysOK_of_check {w : WM} (h : keysOKb w = true) : KeysOK w := by
  unfold keysOKb at h
  rw [List.all_eq_true] at h
  constructor
  · intro ai hai
    have := h ai (List.mem_range.mpr hai)
    simp only [Bool.and_eq_true] at this
    exact maskOk_of_sortedb _ this.1
  · intro ai aj hai haj hm hd
    have := h ai (List.mem_range.mpr hai)
    simp only [Bool.and_eq_true] at this
    have h2 := this.2
    rw [List.all_eq_true] at h2
    have h3 := h2 aj (List.mem_range.mpr haj)
    simp only [hm, hd, beq_self_eq_true, Bool.and_self, Bool.not_true, Bool.false_or, beq_iff_eq] at h3
    exact h3

def inRowAtb (w : WM) (e : Handle) (ai i : Nat) : Bool :=
  match (w.arch ai).rows[i]? with
  | some r => r.ent == e
  | none => false

theorem inRowAt_of_check {w : WM} {e : Handle} {ai i : Nat} (h : inRowAtb w e ai i = true) :
    InRowAt w e ai i := by
  unfold inRowAtb at h
  cases hr : (w.arch ai).rows[i]? with
  | none => rw [hr] at h; cases h
  | some r => rw [hr] at h; exact ⟨r, hr, by simpa using h⟩

/-- every live slot's handle owns a row, every row's owner is valid (a valid handle is determined by its
slot: id, stored version, this world) -/
def liveInvb (w : WM) : Bool :=
  ((List.range w.slots.length).all fun i =>
    match w.slots[i]? with
    | some s =>
      !(w.isValid ⟨i, s.ver, w.worldId⟩) ||
        (List.range w.archs.length).any fun ai =>
          (List.range (w.arch ai).rows.length).any fun k => inRowAtb w ⟨i, s.ver, w.worldId⟩ ai k
    | none => true) &&
  allRows w fun _ _ r => w.isValid r.ent

theorem liveInv_of_check {w : WM} (h : liveInvb w = true) : LiveInv w := by
  unfold liveInvb at h
  rw [Bool.and_eq_true, List.all_eq_true] at h
  refine ⟨fun e hv => ?_, fun ai i r hr => allRows_sound h.2 hr⟩
  rcases isValid_slot hv with ⟨s, hs, _, hver⟩
  have he : e = ⟨e.id, s.ver, w.worldId⟩ := by
    unfold WM.isValid at hv
    simp only [Bool.and_eq_true, beq_iff_eq] at hv
    cases e; simp only at hver hv ⊢; rw [hver, hv.1.2]
  have h1 := h.1 e.id (List.mem_range.mpr (isValid_id_lt hv))
  rw [hs] at h1
  simp only at h1
  rw [← he, hv] at h1
  simp only [Bool.not_true, Bool.false_or, List.any_eq_true, List.mem_range] at h1
  rcases h1 with ⟨ai, _, k, _, hk⟩
  exact ⟨ai, k, inRowAt_of_check hk⟩

end Mustache.Proofs.Rows
