import Mustache.Proofs.RefineEntity
/-!
# Refinement: `assignShared`, `removeSharedComponent`
-/
namespace Mustache.Proofs.Refine
open Mustache.Model Mustache.Spec
open Mustache.Proofs.IdTable (tabOf Ghost TInv)
open Mustache.Proofs.Rows

variable (info : CompId → CompInfo) {c : CW} {s : WS}

theorem rebuild_zip_self {pm : Mask} {vals : List Val} (hn : pm.Nodup) (hl : vals.length = pm.length) :
    rebuild info (pm.zip vals) pm [] = pm.zip vals :=
  (zip_eq_rebuild info hn hl _ _ (fun x hx => by rw [rebuildEntry_zip info _ _ hl, if_pos hx])).symm

/-- `getArchetype(mask of e, sh)` + move of the alive entity `e` there: the shared part becomes `sh`; the component
set becomes its closure under the dependencies declared so far (the entity's archetype may predate a declaration):
kept components keep their values, the newly required ones are default-constructed and fire `afterAssign`.
When `sh` is the descriptor `e` has already and its set is closed, `e` stays where it is. -/
theorem reshare_refines {w : WM} {iss : List Handle} {s : WS} (hi : Inv ⟨w, iss⟩) (hr : Rel ⟨w, iss⟩ s)
    {e : Handle} {k pi i : Nat} {prow : Row} {ent : SEnt} (ha : AliveAt ⟨w, iss⟩ s e k pi i prow ent)
    (sh : Shared) (hshin : SharedIn w.pool sh) (xsh : List (Nat × Nat))
    (hx : ∀ sid', lookupS xsh sid' = lookupS (absShared w.pool sh) sid')
    {g : WM × Nat} (hg : w.getArch (w.arch pi).mask sh = g) {tm : Mask} (htm : closedMask w.deps (w.arch pi).mask = tm) :
    ∃ w' cbs, Inv ⟨w', iss⟩ ∧ Rel ⟨w', iss⟩ (s.setEnt k (some ⟨rebuild info ent.comps tm [], xsh⟩)) ∧
      cbsAgree iss cbs (cbDiff info k (w.arch pi).mask tm) ∧
      ((g.1.externalMove info g.2 e pi i [] = none ∧ g.1 = w' ∧ cbs = [] ∧ sh = (w.arch pi).shared) ∨
        g.1.externalMove info g.2 e pi i [] = some (w', cbs)) := by
  subst hg htm
  have hpm : MaskOk (w.arch pi).mask := ha.maskOk hi
  have hplen : prow.vals.length = (w.arch pi).mask.length := ha.vals hi
  rcases getArch_move_cases info hi ha (w.arch pi).mask hpm sh hshin [] with
    ⟨hg, hnone, heq, hsh⟩ | ⟨w2, cbs, hsome, hmv, hks, _, hcbs⟩
  · rw [hg]
    refine ⟨w, [], hi, ?_, ?_, Or.inl ⟨hnone, rfl, rfl, hsh⟩⟩
    · refine rel_entity (c := ⟨w, iss⟩) hi hr hi.rows hi.live ha.issued ha.valid (OpFrame.refl hi.rows _) (fun _ => rfl)
        (SameTable.refl w).keeps _ ?_
      rw [absEnt_of_row ha.valid ha.loc ha.row, heq, ha.rel.1]
      exact ⟨rebuild_zip_self info (maskOk_nodup hpm) hplen, fun sid' => by rw [hx sid', hsh]⟩
    · rw [heq, cbDiff_self]; exact List.Perm.nil
  · have htmok : MaskOk (closedMask w.deps (w.arch pi).mask) := maskOk_closedMask w.deps hpm
    have hmr := moved_refines hi hr ha.issued ha.valid hshin hmv hks
      ⟨rebuild info ent.comps (closedMask w.deps (w.arch pi).mask) [], xsh⟩
      ((zip_eq_rebuild info (maskOk_nodup htmok) (carry_length info _ _ _ _) ent.comps [] fun x hx' => by
        rw [carry_getD info _ _ _ _ x hx', ha.rel.1, rebuildEntry_zip info _ _ hplen]
        split <;> rfl).symm) hx
    refine ⟨w2, cbs, hmr.1, hmr.2, ?_, Or.inr hsome⟩
    rw [hcbs]
    exact cbsAgree_move info ha.ord _ _ (List.Perm.of_eq (List.filter_congr fun x _ => by
      cases (w.arch pi).mask.contains x <;> cases (info x).callbacks <;> rfl))

theorem sassign_refines (hi : Inv c) (hb : Bounds c) (hr : Rel c s)
    (e : Handle) (sid v : Nat) (hv : c.w.isValid e = true) :
    StepRefines info c s (.sassign e sid v) := by
  obtain ⟨w, iss⟩ := c
  rcases rel_alive hi hb hr hv with ⟨k, pi, i, prow, ent, ha⟩
  have hfe := frameEq_poolGet w sid v
  have hext := poolGet_ext w sid v
  have hp0 : PoolInv (w.poolGet sid v).1 := poolGet_inv sid v hi.pool
  have hf := frame_refines (c := ⟨w, iss⟩) hi hr hfe hext hp0
  have ha0 := ha.frame hi hfe hext
  have harch : (w.poolGet sid v).1.arch pi = w.arch pi := frame_arch hfe pi
  have hpsh : SharedIn w.pool (w.arch pi).shared := ha.sharedIn hi
  obtain ⟨hshin, hadd⟩ := poolGet_add hi.pool hpsh sid v
  have hx : ∀ sid', lookupS (setShared ent.shared sid v) sid' =
      lookupS (absShared (w.poolGet sid v).1.pool ((w.arch pi).shared.add sid (w.poolGet sid v).2)) sid' := fun sid' => by
    rw [lookupS_setShared, hadd sid']
    split
    · rfl
    · exact ha.rel.2 sid'
  rcases reshare_refines info hf.1 hf.2 ha0 _ hshin _ hx rfl rfl with ⟨w', cbs, hinv', hrel', hcb, hcase⟩
  rw [harch] at hrel' hcb hcase
  rw [hfe.deps] at hrel' hcb
  have hw : w.step info (.sassign e sid v) = (w', .ok, cbs) := by
    show ((w.sassign info e sid v).1, Out.ok, (w.sassign info e sid v).2) = _
    unfold WM.sassign
    simp only [ha.locArch, ha.locIdx, harch]
    rcases hcase with ⟨hnone, hw', hc, _⟩ | hsome
    · subst hw' hc
      simp only [hnone]
    · simp only [hsome]
  have hs : s.step info (.sassign (ordOf iss e) sid v) =
      (s.setEnt k (some ⟨rebuild info ent.comps (closedMask w.deps (w.arch pi).mask) [], setShared ent.shared sid v⟩), .ok,
        cbDiff info k (w.arch pi).mask (closedMask w.deps (w.arch pi).mask)) := by
    rw [ha.ord]
    show (match s.alive k with | some ent => _ | none => _) = _
    simp only [ha.alive, ha.compSet hi, hr.deps, closed_eq]
  exact StepRefines.intro info hw hs hinv' hrel' ⟨trivial, hcb⟩

theorem sremove_refines (hi : Inv c) (hb : Bounds c) (hr : Rel c s)
    (e : Handle) (sid : Nat) : StepRefines info c s (.sremove e sid) := by
  obtain ⟨w, iss⟩ := c
  have hw0 : w.step info (.sremove e sid) =
      ((w.sremove info e sid).1, .ret (w.sremove info e sid).2.1, (w.sremove info e sid).2.2) := rfl
  cases hv : w.isValid e with
  | false =>
    refine noop_refines (out := .ret false) (sout := .ret false) info hi hr rfl ?_ ?_ rfl rfl
    · rw [hw0, WM.sremove, if_pos (by simp [hv])]
    · show s.step info (.sremove (ordOf iss e) sid) = _
      rcases isAlive_false (rel_dead (c := ⟨w, iss⟩) hr hv) with ho | ⟨k, ho, hal⟩ <;> rw [ho]
      · rfl
      · show (match s.alive k with | some ent => _ | none => _) = _
        simp only [hal]
  | true =>
  rcases rel_alive hi hb hr hv with ⟨k, pi, i, prow, ent, ha⟩
  have hal : s.alive k = some ent := ha.alive
  have hpsh : SharedIn w.pool (w.arch pi).shared := ha.sharedIn hi
  have hany : ent.shared.any (·.1 == sid) = (w.arch pi).shared.has sid := ha.shared_any hi sid
  cases hhas : (w.arch pi).shared.has sid with
  | false =>
    refine noop_refines (out := .ret false) (sout := .ret false) info hi hr rfl ?_ ?_ rfl rfl
    · rw [hw0, WM.sremove, if_neg (by simp [hv])]
      simp only [ha.locArch, hhas, Bool.not_false, if_true]
    · show s.step info (.sremove (ordOf iss e) sid) = _
      rw [ha.ord]
      show (match s.alive k with | some ent => _ | none => _) = _
      simp only [hal, hany, hhas, Bool.false_eq_true, if_false]
  | true =>
    have hshin : SharedIn w.pool ((w.arch pi).shared.remove sid) := sharedIn_remove hpsh sid
    have hx : ∀ sid', lookupS (ent.shared.filter (·.1 != sid)) sid' =
        lookupS (absShared w.pool ((w.arch pi).shared.remove sid)) sid' := by
      intro sid'
      rw [lookupS_filter_ne, lookupS_absShared _ hshin.1.1]
      by_cases hs : sid' = sid
      · subst hs
        rw [if_pos rfl, Shared.get?_remove_self sid' hpsh.1]; rfl
      · rw [if_neg hs, Shared.get?_remove_ne hpsh.1.1 hs, ← lookupS_absShared _ hpsh.1.1]
        exact ha.rel.2 sid'
    rcases reshare_refines info hi hr ha _ hshin _ hx rfl rfl with ⟨w', cbs, hinv', hrel', hcb, hcase⟩
    rcases hcase with ⟨_, _, _, hsheq⟩ | hsome
    · -- the descriptor without `sid` would be the descriptor with it
      have h1 := Shared.get?_remove_self sid hpsh.1
      have h2 := (Shared.has_iff_get? sid hpsh.1.1).mp hhas
      rw [hsheq] at h1
      rw [h1] at h2
      cases h2
    · have hw : w.step info (.sremove e sid) = (w', .ret true, cbs) := by
        rw [hw0, WM.sremove, if_neg (by simp [hv])]
        simp only [ha.locArch, ha.locIdx, hhas, hsome, Bool.not_true, Bool.false_eq_true, if_false]
      have hs : s.step info (.sremove (ordOf iss e) sid) =
          (s.setEnt k (some ⟨rebuild info ent.comps (closedMask w.deps (w.arch pi).mask) [], ent.shared.filter (·.1 != sid)⟩),
            .ret true, cbDiff info k (w.arch pi).mask (closedMask w.deps (w.arch pi).mask)) := by
        rw [ha.ord]
        show (match s.alive k with | some ent => _ | none => _) = _
        simp only [hal, hany, hhas, if_true, ha.compSet hi, hr.deps, closed_eq]
      exact StepRefines.intro info hw hs hinv' hrel' ⟨rfl, hcb⟩

end Mustache.Proofs.Refine
