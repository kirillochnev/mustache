import Mustache.Proofs.RefinePool
/-!
# Refinement: an unlocked operation on one alive entity

* `absEnt_step`, `absEnt_others`: an operation on entity `e` (C02 frame, `OpFrame`) leaves the abstraction of every
  other handle alone;
* `AllKeys`: predicates on archetype keys through `getArch` and key-preserving steps;
* `rel_entity`, `moved_inv'`, `moved_rel`, `moved_refines`: `Inv` and `Rel` once `e` owns its new row;
* `getArch_move_cases`: `getArchetype(m, sh)` + `externalMove` of `e`, the step `assign`, `removeComponent`,
  `assignShared`, `removeSharedComponent` and the builder share: either `e` is in that archetype already and nothing
  happens, or it moves, with the values `carry` gives and the callbacks of the set difference.
-/
namespace Mustache.Proofs.Refine
open Mustache.Model Mustache.Spec
open Mustache.Proofs.IdTable (tabOf Ghost TInv valid_iff_live_any isValid_tab Chain)
open Mustache.Proofs.Rows

variable (info : CompId → CompInfo) {c : CW} {s : WS}

theorem valid_iff_ghost {w : WM} {g : Ghost} (inv : TInv (tabOf w) g) (hr : w.slots.length ≤ 2^30 - 1) (h : Handle) :
    w.isValid h = true ↔ h ∈ g.live := by
  rw [isValid_tab]; exact valid_iff_live_any inv hr h

/-- C01 `freelist_wf`: the head of a non-empty free list is a free slot -/
theorem freeHeadFree_of_tinv {w : WM} {g : Ghost} (inv : TInv (tabOf w) g) : FreeHeadFree w := by
  intro he
  rcases inv.chain with ⟨fs, hch, _, hlen, _, hidf⟩
  cases fs with
  | nil => exact absurd hlen.symm he
  | cons a rest =>
    have ha : a = w.next := hch.head_eq
    subst ha
    cases hch with
    | cons _ s _ hs _ => exact ⟨s, hs, hidf _ (by simp) s hs⟩

theorem allocOK_of_inv (hi : Inv c) (hb : Bounds c) : AllocOK c.w := by
  rcases hi.tinv with ⟨g, tinv, _, _⟩
  exact allocOK_of_table hi.live hi.locsCover hb.inRange (freeHeadFree_of_tinv tinv)

theorem valid_range (hb : Bounds c) {e : Handle} (hv : c.w.isValid e = true) : HRange c.w.worldId e := by
  have hlt := isValid_id_lt hv
  have hw : e.world = c.w.worldId := by
    unfold WM.isValid at hv
    simp only [Bool.and_eq_true, beq_iff_eq] at hv
    exact hv.1.2
  refine ⟨?_, hw⟩
  exact Nat.lt_trans hlt (Nat.lt_of_lt_of_le hb.inRange (Nat.sub_le _ _))

theorem absEnt_step {w w' : WM} (hok : RowsOK w) (hl : LiveInv w) (hsh : SharedPooled w) {id : Nat}
    (hs : OpFrame w w' id) (he : PoolExt w.pool w'.pool) (h : Handle) (hne : h.id ≠ id) :
    absEnt w' h = absEnt w h := by
  have hv := hs.valid h hne
  cases hvw : w.isValid h with
  | false =>
    rw [absEnt_invalid hvw, absEnt_invalid (hv.trans hvw)]
  | true =>
    rcases hl.live_in h hvw with ⟨aj, j, r, hr, rfl⟩
    rcases hs.keeps aj j r hr hne with ⟨⟨j', hr', hl'⟩, hm, hsd⟩
    rw [absEnt_of_row (hv.trans hvw) (locOf_of_locs hl') hr', absEnt_of_row hvw (hok.locOf hr) hr, hm, hsd,
      absShared_ext (hsh _ (arch_mem_archs (lt_of_row hr))) he]

/-- the handles that share `e`'s id are stale before and after, so `absEnt_step` extends to every handle but `e` -/
theorem absEnt_others (hi : Inv c) {w' : WM} {e : Handle} (hev : c.w.isValid e = true)
    (hs : OpFrame c.w w' e.id) (he : PoolExt c.w.pool w'.pool)
    (hvalid : ∀ h, h ≠ e → w'.isValid h = c.w.isValid h) {h : Handle} (hne : h ≠ e) :
    absEnt w' h = absEnt c.w h := by
  by_cases hid : h.id = e.id
  · have hinv : c.w.isValid h = false := by
      cases hv : c.w.isValid h with
      | false => rfl
      | true => exact absurd (valid_same_id hev hv hid) hne
    rw [absEnt_invalid hinv, absEnt_invalid ((hvalid h hne).trans hinv)]
  · exact absEnt_step hi.rows hi.live hi.shared hs he h hid

theorem owns_absEnt {w' : WM} {e : Handle} {ai : Nat} {vals : List Val} (ho : Owns w' e ai vals) :
    absEnt w' e = some ⟨(w'.arch ai).mask.zip vals, absShared w'.pool (w'.arch ai).shared⟩ := by
  rcases ho.here with ⟨n, hl, hr⟩
  rw [absEnt_of_row ho.valid hl hr]

def AllKeys (P : Mask → Shared → Prop) (w : WM) : Prop := ∀ a ∈ w.archs, P a.mask a.shared

theorem allKeys_iff (P : Mask → Shared → Prop) (w : WM) :
    AllKeys P w ↔ ∀ ai, ai < w.archs.length → P (w.arch ai).mask (w.arch ai).shared := by
  constructor
  · intro h ai hai; exact h _ (arch_mem_archs hai)
  · intro h a ha
    rcases List.mem_iff_getElem.mp ha with ⟨i, hi, rfl⟩
    have := h i hi
    rw [arch_def, List.getD_eq_getElem?_getD, List.getElem?_eq_getElem hi] at this
    exact this

theorem AllKeys.keysSame {P : Mask → Shared → Prop} {w w' : WM} (h : AllKeys P w) (hk : KeysSame w w') :
    AllKeys P w' := by
  rw [allKeys_iff] at h ⊢
  intro ai hai
  rw [(hk.key ai).1, (hk.key ai).2]
  exact h ai (by rw [← hk.alen]; exact hai)

theorem AllKeys.getArch {P : Mask → Shared → Prop} {w : WM} (h : AllKeys P w) (m : Mask) (sh : Shared)
    (hp : P (closedMask w.deps m) sh) : AllKeys P (w.getArch m sh).1 :=
  getArch_forall_archs (P := fun a => P a.mask a.shared) h m sh hp

theorem sharedPooled_iff (w : WM) : SharedPooled w ↔ AllKeys (fun _ sh => SharedIn w.pool sh) w := Iff.rfl

theorem archsClosed_iff (w : WM) :
    Mustache.Model.ArchsClosed w.deps w.archs ↔ AllKeys (fun m _ => ClosedUnder w.deps m) w := Iff.rfl

theorem sharedPooled_of_keysSame {p : Pool} {w0 w' : WM} (h0 : AllKeys (fun _ s => SharedIn p s) w0)
    (hks : KeysSame w0 w') (hp : w'.pool = p) : SharedPooled w' := by
  have := h0.keysSame hks
  rw [← hp] at this
  exact this

theorem getArch_keysSame_or (w : WM) (m : Mask) (sh : Shared) :
    (w.getArch m sh).1.deps = w.deps ∧ (w.getArch m sh).1.pool = w.pool := by
  have := getArch_sameTable w m sh
  exact ⟨this.deps, this.pool⟩

theorem setEnt_alive (s : WS) (k : Nat) (x : Option SEnt) (o : Nat) :
    (s.setEnt k x).alive o = if o = k ∧ k < s.ents.length then x else s.alive o := by
  unfold WS.setEnt WS.alive
  simp only [List.getD_eq_getElem?_getD, List.getElem?_set]
  by_cases hk : k = o
  · subst hk
    by_cases hlt : k < s.ents.length
    · simp [hlt]
    · simp [hlt]
  · have : ¬ (o = k ∧ k < s.ents.length) := fun h => hk h.1.symm
    simp [hk, this]

theorem rel_entity (hi : Inv c) (hr : Rel c s) {w' : WM} (hrows : RowsOK w') (hlive : LiveInv w')
    {e : Handle} {k : Nat} (hk : c.issued[k]? = some e) (hev : c.w.isValid e = true) (hs : OpFrame c.w w' e.id)
    (hvalid : ∀ h, w'.isValid h = c.w.isValid h) (hkeep : KeepsCtl c.w w') (x : SEnt)
    (hx : optRel (some x) (absEnt w' e)) : Rel ⟨w', c.issued⟩ (s.setEnt k (some x)) := by
  refine rel_of_ents hi hr hkeep hrows hlive (List.length_set ..) (fun o h ho => ?_) (fun h _ hv _ => (hvalid h).symm.trans hv)
  have hklt : k < s.ents.length := by rw [hr.len]; exact (List.getElem?_eq_some_iff.mp hk).1
  show optRel ((s.setEnt k (some x)).alive o) _
  rw [setEnt_alive]
  by_cases hok : o = k
  · subst hok
    rw [if_pos ⟨rfl, hklt⟩, Option.some.inj (ho.symm.trans hk)]
    exact hx
  · rw [if_neg (fun hh => hok hh.1), absEnt_others hi hev hs hkeep.pool (fun h _ => hvalid h) (fun heq => hok ?_)]
    · exact hr.ents o h ho
    · exact (List.getElem?_inj (List.getElem?_eq_some_iff.mp ho).1 (issued_nodup hi)).mp (ho.trans (heq ▸ hk.symm))

/-- the invariant after key-preserving steps from a state `w0` (whose descriptors are pooled) ending with `e` owning a row -/
theorem moved_inv' {w : WM} {iss : List Handle} (hi : Inv ⟨w, iss⟩) {e : Handle} (hv : w.isValid e = true)
    {w0 : WM} (h0 : AllKeys (fun _ s => SharedIn w.pool s) w0) {w' : WM} {ti : Nat} {vals : List Val}
    (hm : Moved w w' e ti vals) (hks : KeysSame w0 w') :
    Inv ⟨w', iss⟩ :=
  inv_of_keepsCtl (c := ⟨w, iss⟩) hi hm.same.keeps (fun _ h => h) (by rw [SameTable.tab hm.same]; exact hi.tinv)
    hm.step.ok (hm.step.keys hi.keys) (liveInv_owns hm.step hi.live (hm.owns hv)) (hm.same.ctl.poolInv hi.pool)
    (sharedPooled_of_keysSame h0 hks hm.same.pool) (by rw [hm.same.slots]; exact Nat.le_trans hi.locsCover hm.step.llen)

theorem moved_rel {w : WM} {iss : List Handle} {s : WS} (hi : Inv ⟨w, iss⟩) (hr : Rel ⟨w, iss⟩ s) {e : Handle} {k : Nat}
    (hk : iss[k]? = some e) (hv : w.isValid e = true)
    {sh : Shared} (hshin : SharedIn w.pool sh) {w' : WM} {ti : Nat} {vals : List Val}
    (hm : Moved w w' e ti vals) (hsh' : SharedIn w.pool (w'.arch ti).shared)
    (hdata : (w'.arch ti).shared.data = sh.data)
    (x : SEnt) (hcomps : x.comps = (w'.arch ti).mask.zip vals)
    (hshared : ∀ sid, lookupS x.shared sid = lookupS (absShared w.pool sh) sid) :
    Rel ⟨w', iss⟩ (s.setEnt k (some x)) := by
  have hpool : w'.pool = w.pool := hm.same.pool
  refine rel_entity (c := ⟨w, iss⟩) hi hr hm.step.ok (liveInv_owns hm.step hi.live (hm.owns hv)) hk hv
    hm.step.frame hm.same.isValid hm.same.keeps x ?_
  rw [owns_absEnt (hm.owns hv)]
  refine ⟨hcomps, fun sid => ?_⟩
  rw [hshared sid, hpool, shared_eq_of_data hi.pool hsh' hshin hdata]

/-- both at once for `getArch m sh` followed by key-preserving steps ending with `e` owning the row `vals` of the
archetype returned: the record `x` must read like that row and like `sh` -/
theorem moved_refines {w : WM} {iss : List Handle} {s : WS} (hi : Inv ⟨w, iss⟩) (hr : Rel ⟨w, iss⟩ s) {e : Handle}
    {k : Nat} (hk : iss[k]? = some e) (hv : w.isValid e = true) {m : Mask} {sh : Shared} (hshin : SharedIn w.pool sh)
    {w' : WM} {vals : List Val} (hm : Moved w w' e (w.getArch m sh).2 vals) (hks : KeysSame (w.getArch m sh).1 w')
    (x : SEnt) (hcomps : x.comps = (closedMask w.deps m).zip vals)
    (hshared : ∀ sid, lookupS x.shared sid = lookupS (absShared w.pool sh) sid) :
    Inv ⟨w', iss⟩ ∧ Rel ⟨w', iss⟩ (s.setEnt k (some x)) := by
  have hi' := moved_inv' hi hv (AllKeys.getArch (P := fun _ s => SharedIn w.pool s) (w := w) hi.shared m sh hshin) hm hks
  have hkey := getArch_key w m sh
  have hlt : (w.getArch m sh).2 < w'.archs.length := by rw [hks.alen]; exact getArch_idx_lt w m sh
  refine ⟨hi', moved_rel hi hr hk hv hshin hm ?_ ?_ x ?_ hshared⟩
  · rw [← hm.same.pool]; exact hi'.shared _ (arch_mem_archs hlt)
  · rw [(hks.key _).2]; exact hkey.2
  · rw [(hks.key _).1, hkey.1]; exact hcomps

theorem getArch_move_cases {w : WM} {iss : List Handle} {s : WS} (hi : Inv ⟨w, iss⟩) {e : Handle} {k pi i : Nat}
    {prow : Row} {ent : SEnt} (ha : AliveAt ⟨w, iss⟩ s e k pi i prow ent) (m : Mask) (hm : MaskOk m) (sh : Shared)
    (hshin : SharedIn w.pool sh) (skip : Mask) :
    (w.getArch m sh = (w, pi) ∧ w.externalMove info pi e pi i skip = none ∧
      closedMask w.deps m = (w.arch pi).mask ∧ sh = (w.arch pi).shared) ∨
    (∃ w2 cbs, (w.getArch m sh).1.externalMove info (w.getArch m sh).2 e pi i skip = some (w2, cbs) ∧
      Moved w w2 e (w.getArch m sh).2 (carry info (closedMask w.deps m) (w.arch pi).mask prow skip) ∧
      KeysSame (w.getArch m sh).1 w2 ∧
      (sh = (w.arch pi).shared → closedMask w.deps m ≠ (w.arch pi).mask) ∧
      cbs = ((closedMask w.deps m).filter (fun c =>
          !(w.arch pi).mask.contains c && (info c).callbacks && !skip.contains c)).map (Cb.assign · e) ++
        ((w.arch pi).mask.filter (fun c => (info c).callbacks && !(closedMask w.deps m).contains c)).map
          (Cb.remove · e)) := by
  have hpi : pi < w.archs.length := ha.lt
  have hrow : (w.arch pi).rows[i]? = some prow := ha.row
  have hkey := getArch_key w m sh
  have hw1pi : (w.getArch m sh).1.arch pi = w.arch pi := getArch_arch_lt w m sh pi hpi
  rcases getArch_move info hi.rows m sh e pi i skip prow hrow ha.own (fun _ => hm) with
    ⟨hti, hnone⟩ | ⟨hti, w2, cbs, hsome, hmv, _, _⟩
  · left
    have hw1 : (w.getArch m sh).1 = w := by
      rcases Mustache.Proofs.Rows.getArch_cases w m sh with ⟨h, _⟩ | ⟨_, h, _⟩
      · exact h
      · exact absurd (hti.symm.trans h) (Nat.ne_of_lt hpi)
    rw [hti, hw1] at hkey hnone
    exact ⟨Prod.ext hw1 hti, hnone, hkey.1.symm, (shared_eq_of_data hi.pool (ha.sharedIn hi) hshin hkey.2).symm⟩
  · right
    refine ⟨w2, cbs, hsome, hmv, externalMove_keysSame info _ _ e pi i skip (w2, cbs) hsome,
      fun hsh htm => ?_, ?_⟩
    · have hk1 : KeysOK (w.getArch m sh).1 := keysOK_getArch hi.keys m sh hm
      exact hti (hk1.distinct _ pi (getArch_idx_lt w m sh) (Nat.lt_of_lt_of_le hpi (getArch_length_le w m sh))
        (by rw [hkey.1, hw1pi, htm]) (by rw [hkey.2, hw1pi, hsh]))
    · -- a move's callbacks are `moveCbs` (an `assign` per gained component outside `skip`) ++ the `remove`s of `archRemove`
      have := externalMove_eq2 info (w.getArch m sh).1 (w.getArch m sh).2 e pi i skip hti
      rw [hsome] at this
      rw [(Prod.mk.inj (Option.some.inj this)).2, moveCbs,
        archRemove_cbs info _ pi i _ prow (by rw [hw1pi]; exact hrow), hw1pi, hkey.1, ha.own]

end Mustache.Proofs.Refine
