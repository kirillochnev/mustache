import Mustache.Model.Dispatcher

/-! Arithmetic of the `parallelFor` index split. -/
namespace Mustache.Dispatcher

theorem sum_sizes_prefix (d x : Nat) : ∀ m : Nat,
    ((List.range m).map (fun k => if k < x then d + 1 else d)).sum = m * d + min m x := by
  intro m
  induction m with
  | zero => simp
  | succ m ih =>
    rw [List.range_succ, List.map_append, List.sum_append, ih]
    simp only [List.map_cons, List.map_nil, List.sum_cons, List.sum_nil, Nat.add_zero]
    rw [Nat.succ_mul]
    split <;> omega

theorem pforSizes_sum (size tc : Nat) (htc : 1 ≤ tc) : (pforSizes size tc).sum = size := by
  unfold pforSizes
  rw [sum_sizes_prefix]
  have h1 : tc * (size / tc) ≤ size := Nat.mul_div_le size tc
  have h2 : size % tc < tc := Nat.mod_lt _ htc
  have h3 : size % tc = size - tc * (size / tc) := Nat.mod_def size tc
  rw [Nat.mul_comm tc (size / tc)] at h1 h3 ⊢
  omega

theorem pforSizes_length (size tc : Nat) : (pforSizes size tc).length = tc := by simp [pforSizes]

theorem pforSizes_mem (size tc : Nat) : ∀ x ∈ pforSizes size tc, x = size / tc ∨ x = size / tc + 1 := by
  intro x hx
  simp only [pforSizes, List.mem_map, List.mem_range] at hx
  obtain ⟨k, _, rfl⟩ := hx
  split <;> simp

theorem pforRangesFrom_items (b : Nat) (szs : List Nat) :
    ((pforRangesFrom b szs).map rangeItems).flatten = List.range' b szs.sum := by
  induction szs generalizing b with
  | nil => simp [pforRangesFrom]
  | cons sz r ih =>
    simp only [pforRangesFrom, List.map_cons, List.flatten_cons, ih, List.sum_cons, rangeItems]
    rw [Nat.add_sub_cancel_left]
    simp

theorem pforRangesFrom_length (b : Nat) (szs : List Nat) : (pforRangesFrom b szs).length = szs.length := by
  induction szs generalizing b with
  | nil => rfl
  | cons sz r ih => simp [pforRangesFrom, ih]

theorem pforRangesFrom_bounds (b : Nat) (szs : List Nat) :
    ∀ r ∈ pforRangesFrom b szs, b ≤ r.1 ∧ r.1 ≤ r.2 ∧ r.2 ≤ b + szs.sum ∧ (r.2 - r.1) ∈ szs := by
  induction szs generalizing b with
  | nil => simp [pforRangesFrom]
  | cons sz r ih =>
    intro x hx
    simp only [pforRangesFrom, List.mem_cons] at hx
    rcases hx with rfl | hx
    · simp only [List.sum_cons, List.mem_cons]
      refine ⟨Nat.le_refl _, by omega, by omega, Or.inl (by omega)⟩
    · have := ih (b + sz) x hx
      simp only [List.sum_cons, List.mem_cons]
      refine ⟨by omega, this.2.1, by omega, Or.inr this.2.2.2⟩

theorem pforTaskCount_pos (size tc threads : Nat) : 1 ≤ pforTaskCount size tc threads := by
  unfold pforTaskCount
  repeat' split
  all_goals omega

end Mustache.Dispatcher
