import Mustache.Proofs.EventsInv
/-!
The steps within the contract in closed form (`Exec`), and the refinement: such a step of the model
is the same step of the specification, and keeps the invariant.
-/
namespace Mustache.Proofs.Events
open Mustache.Model.Events

/-! list facts -/

theorem getElem?_concat {α : Type} (l : List α) (x : α) (i : Nat) :
    (l ++ [x])[i]? = if i = l.length then some x else l[i]? := by
  rcases Nat.lt_trichotomy i l.length with h | rfl | h
  · rw [if_neg (Nat.ne_of_lt h)]; exact List.getElem?_append_left h
  · rw [if_pos rfl]; exact List.getElem?_concat_length
  · rw [if_neg (Nat.ne_of_gt h), List.getElem?_eq_none (Nat.le_of_lt h)]
    exact List.getElem?_eq_none (List.length_append ▸ h)

theorem not_mem_filter_bne {l : List Nat} {r : Nat} : r ∉ l.filter (· != r) :=
  fun h => bne_iff_ne.mp (List.mem_filter.mp h).2 rfl

theorem step_legal {s : State} {op : Op} (hl : legal s op = true) : step s op = exec s op :=
  if_pos hl

theorem step_illegal {s : State} {op : Op} (hl : legal s op = false) : step s op = (s, .illegal) :=
  if_neg (Bool.not_eq_true _ ▸ hl)

/-- What `exec` returns on an operation within the contract: no undefined-behaviour branch is left,
and every object the operation names is there with its record. -/
inductive Exec (s : State) : Op → State → Out → Prop
  | newManager :
    Exec s .newManager { s with mgrs := s.mgrs ++ [⟨true, []⟩] } (.mgr s.mgrs.length)
  | dropManager {m : Nat} {mg : Mgr} (hmg : s.mgrs[m]? = some mg) :
    Exec s (.dropManager m) { s with mgrs := s.mgrs.set m ⟨false, []⟩ } .ok
  | newReceiver (T : Model.Events.TypeName) :
    Exec s (.newReceiver T) { s with rcvs := s.rcvs ++ [⟨T, true, none⟩] } (.rcv s.rcvs.length)
  | subscribeFn {m : Nat} {mg : Mgr} (T : Model.Events.TypeName) (hmg : s.mgrs[m]? = some mg) (ha : mg.alive = true) :
    Exec s (.subscribeFn m T)
      (afterSubscribe { s with rcvs := s.rcvs ++ [⟨T, true, none⟩] } m mg s.rcvs.length ⟨T, true, none⟩)
      (.rcv s.rcvs.length)
  | subscribe {m : Nat} {mg : Mgr} {r : Nat} {ri : RcvInfo} (hmg : s.mgrs[m]? = some mg)
      (ha : mg.alive = true) (hri : s.rcvs[r]? = some ri) (hra : ri.alive = true)
      (hfree : subscribedAtHome s r = false) :
    Exec s (.subscribe m r) (afterSubscribe s m mg r ri) .ok
  | unsubscribe {r : Nat} {ri : RcvInfo} {s1 : State} (hri : s.rcvs[r]? = some ri)
      (hu : Unsubscribed s r ri s1) :
    Exec s (.unsubscribe r) s1 .ok
  | unsubscribeAt {m : Nat} {mg : Mgr} {r : Nat} {ri : RcvInfo} (hmg : s.mgrs[m]? = some mg)
      (ha : mg.alive = true) (hri : s.rcvs[r]? = some ri) :
    Exec s (.unsubscribeAt m r) (afterSlot s m mg ri.ty (·.erase r)) .ok
  | dropReceiver {r : Nat} {ri : RcvInfo} {s1 : State} (hri : s.rcvs[r]? = some ri)
      (hu : Unsubscribed s r ri s1) :
    Exec s (.dropReceiver r) { s1 with rcvs := s1.rcvs.set r { ri with alive := false } } .ok
  | post {m : Nat} {mg : Mgr} (T : Model.Events.TypeName) (hmg : s.mgrs[m]? = some mg) (ha : mg.alive = true) :
    Exec s (.post m T) (afterSlot s m mg T id) (.delivered (slotList mg.slots (register s.typeIds T).2))

theorem exec_of_legal {s : State} {op : Op} (hl : legal s op = true) :
    Exec s op (step s op).1 (step s op).2 := by
  rw [step_legal hl]
  cases op with
  | newManager => exact .newManager
  | dropManager m =>
    rcases mgrAlive_iff.mp hl with ⟨mg, hmg, _⟩
    exact .dropManager hmg
  | newReceiver T => exact .newReceiver T
  | subscribeFn m T =>
    rcases mgrAlive_iff.mp hl with ⟨mg, hmg, ha⟩
    simp only [exec, doSubscribe_eq (s := { s with rcvs := s.rcvs ++ [⟨T, true, none⟩] }) hmg]
    exact .subscribeFn T hmg ha
  | subscribe m r =>
    simp only [legal, Bool.and_eq_true, Bool.not_eq_true'] at hl
    rcases mgrAlive_iff.mp hl.1.1 with ⟨mg, hmg, ha⟩
    rcases rcvAlive_iff.mp hl.1.2 with ⟨ri, hri, hra⟩
    simp only [exec, hri, doSubscribe_eq hmg]
    exact .subscribe hmg ha hri hra hl.2
  | unsubscribe r =>
    rcases rcvAlive_iff.mp hl with ⟨ri, hri, _⟩
    rcases doUnsubscribe_eq s r ri with ⟨s1, h1, hu⟩
    simp only [exec, hri, h1]
    exact .unsubscribe hri hu
  | unsubscribeAt m r =>
    simp only [legal, Bool.and_eq_true] at hl
    rcases mgrAlive_iff.mp hl.1 with ⟨mg, hmg, ha⟩
    rcases rcvAlive_iff.mp hl.2 with ⟨ri, hri, _⟩
    simp only [exec, hri, doUnsubscribeAt_eq hmg]
    exact .unsubscribeAt hmg ha hri
  | dropReceiver r =>
    rcases rcvAlive_iff.mp hl with ⟨ri, hri, _⟩
    rcases doUnsubscribe_eq s r ri with ⟨s1, h1, hu⟩
    simp only [exec, hri, h1]
    exact .dropReceiver hri hu
  | post m T =>
    rcases mgrAlive_iff.mp hl with ⟨mg, hmg, ha⟩
    simp only [exec, withSlot_eq T id hmg]
    exact .post T hmg ha

theorem step_cases (s : State) (op : Op) :
    step s op = (s, .illegal) ∨ Exec s op (step s op).1 (step s op).2 := by
  cases hl : legal s op with
  | false => exact Or.inl (step_illegal hl)
  | true => exact Or.inr (exec_of_legal hl)


section
variable {s : State} {sp : SState} {m : Nat} {T : Model.Events.TypeName}

theorem lookupIn_nil {ids : List Model.Events.TypeName} {a : Bool} : lookupIn ids ⟨a, []⟩ T = [] := by
  unfold lookupIn
  cases a with
  | false => rfl
  | true => cases idOf ids T <;> rfl

theorem lookup_newManager : lookup { s with mgrs := s.mgrs ++ [⟨true, []⟩] } m T = lookup s m T := by
  unfold lookup
  dsimp only
  rw [getElem?_concat]
  by_cases h : m = s.mgrs.length
  · rw [if_pos h, h, List.getElem?_eq_none (Nat.le_refl _)]; exact lookupIn_nil
  · rw [if_neg h]

theorem lookup_dropManager {m' : Nat} :
    lookup { s with mgrs := s.mgrs.set m ⟨false, []⟩ } m' T = if m' = m then [] else lookup s m' T := by
  unfold lookup
  dsimp only
  rw [List.getElem?_set]
  by_cases h : m = m'
  · rw [if_pos h, if_pos h.symm]
    by_cases hlt : m < s.mgrs.length
    · rw [if_pos hlt]; exact lookupIn_nil
    · rw [if_neg hlt]
  · rw [if_neg h, if_neg (Ne.symm h)]

theorem bounded_newManager (hb : SlotsBounded s) : SlotsBounded { s with mgrs := s.mgrs ++ [⟨true, []⟩] } :=
  slotsBounded_iff.mpr fun _ h => (List.mem_append.mp h).elim (slotsBounded_iff.mp hb _)
    fun h => by rw [List.mem_singleton.mp h]; exact Nat.zero_le _

theorem bounded_dropManager (hb : SlotsBounded s) : SlotsBounded { s with mgrs := s.mgrs.set m ⟨false, []⟩ } :=
  slotsBounded_iff.mpr fun _ h => (List.mem_or_eq_of_mem_set h).elim (slotsBounded_iff.mp hb _)
    fun h => by rw [h]; exact Nat.zero_le _

theorem inv_newReceiver (hI : Inv s) (ri : RcvInfo) : Inv { s with rcvs := s.rcvs ++ [ri] } := by
  refine hI.of_sublist hI.bounded (fun _ _ => List.Sublist.refl _) (fun m T r h => ?_)
  rcases hI.info m T r h with ⟨_, hri, _⟩
  exact List.getElem?_append_left (List.getElem?_eq_some_iff.mp hri).1

theorem sim_newReceiver (hS : Sim s sp) (T : Model.Events.TypeName) :
    Sim { s with rcvs := s.rcvs ++ [⟨T, true, none⟩] }
      { sp with nRcv := sp.nRcv + 1, rty := fun r => if r = sp.nRcv then T else sp.rty r } := by
  refine ⟨hS.nMgr, (congrArg (· + 1) hS.nRcv).trans (List.length_append (bs := [_])).symm, fun r ri h => ?_, hS.subs⟩
  dsimp only at h ⊢
  rw [getElem?_concat, ← hS.nRcv] at h
  by_cases hr : r = sp.nRcv
  · rw [if_pos hr] at h ⊢; cases h; rfl
  · rw [if_neg hr] at h ⊢; exact hS.rty r ri h

end


theorem Exec.sim {s s' : State} {sp : SState} {op : Op} {o : Out} (h : Exec s op s' o)
    (hI : Inv s) (hS : Sim s sp) :
    Inv s' ∧ Sim s' (Mustache.Spec.Events.step sp op).1 ∧ o = (Mustache.Spec.Events.step sp op).2 := by
  induction h with
  | newManager =>
    refine ⟨hI.of_sublist (bounded_newManager hI.bounded) (fun m T => ?_) (fun _ _ _ _ => rfl),
      ⟨(congrArg (· + 1) hS.nMgr).trans (List.length_append (bs := [_])).symm, hS.nRcv, hS.rty,
        fun m T => (hS.subs m T).trans lookup_newManager.symm⟩,
      congrArg Out.mgr hS.nMgr.symm⟩
    rw [lookup_newManager]; exact List.Sublist.refl _
  | @dropManager m mg hmg =>
    refine ⟨hI.of_sublist (bounded_dropManager hI.bounded) (fun m' T => ?_) (fun _ _ _ _ => rfl),
      hS.of_subs List.length_set rfl fun m' T => ?_, rfl⟩
    · rw [lookup_dropManager]
      by_cases h : m' = m
      · rw [if_pos h]; exact List.nil_sublist _
      · rw [if_neg h]; exact List.Sublist.refl _
    · rw [lookup_dropManager, ← hS.subs]
  | newReceiver T => exact ⟨inv_newReceiver hI _, sim_newReceiver hS T, congrArg Out.rcv hS.nRcv.symm⟩
  | @subscribeFn m mg T hmg ha =>
    -- `subscribe_` of the receiver just created, which is in no list yet
    have hI0 := inv_newReceiver hI ⟨T, true, none⟩
    refine ⟨inv_afterSubscribe hI0 hmg ha List.getElem?_concat_length rfl fun m' T' hmem => ?_,
      sim_afterSubscribe hI0 hmg ha (sim_newReceiver hS T) List.getElem?_concat_length rfl hS.nRcv,
      congrArg Out.rcv hS.nRcv.symm⟩
    rcases hI.info m' T' _ hmem with ⟨_, hri', _⟩
    exact Nat.lt_irrefl _ (List.getElem?_eq_some_iff.mp hri').1
  | @subscribe m mg r ri hmg ha hri hra hfree =>
    exact ⟨inv_afterSubscribe hI hmg ha hri hra ((subscribedAtHome_false_iff hI).mp hfree),
      sim_afterSubscribe hI hmg ha hS hri (hS.rty r ri hri) rfl, rfl⟩
  | @unsubscribe r ri s1 hri hu =>
    rcases hu.spec hI hri with ⟨hI1, hm1, hl1⟩
    exact ⟨hI1, hS.of_subs hm1 hu.rcvs fun m' T' => by rw [hl1, ← hS.subs], rfl⟩
  | @unsubscribeAt m mg r ri hmg ha hri =>
    refine ⟨inv_afterSlot hI hmg ha fun _ => List.erase_sublist,
      hS.of_subs List.length_set rfl fun m' T' => ?_, rfl⟩
    rw [lookup_afterErase hI hmg ha, ← hS.subs, ← hS.rty r ri hri]
  | @dropReceiver r ri s1 hri hu =>
    rcases hu.spec hI hri with ⟨hI1, hm1, hl1⟩
    refine ⟨hI1.set_rcv (fun m' T' hmem => ?_) _,
      (hS.of_subs hm1 hu.rcvs fun m' T' => by rw [hl1, ← hS.subs]).set_rcv
        (hu.rcvs.symm ▸ hri : s1.rcvs[r]? = some ri) rfl, rfl⟩
    -- `r` has just been removed from every list
    exact not_mem_filter_bne (hl1 m' T' ▸ hmem)
  | @post m mg T hmg ha =>
    exact ⟨inv_afterSlot hI hmg ha fun _ => List.Sublist.refl _,
      hS.of_subs List.length_set rfl fun m' T' =>
        (hS.subs m' T').trans ((lookup_afterSlot T id hI.bounded hmg ha m' T').trans (ite_self _)).symm,
      congrArg Out.delivered ((lookup_eq_slotList T hI.bounded hmg ha).symm.trans (hS.subs m T).symm)⟩

theorem step_sim {s : State} {sp : SState} (hI : Inv s) (hS : Sim s sp) (op : Op)
    (hl : legal s op = true) :
    Inv (step s op).1 ∧ Sim (step s op).1 (Mustache.Spec.Events.step sp op).1 ∧
      (step s op).2 = (Mustache.Spec.Events.step sp op).2 :=
  (exec_of_legal hl).sim hI hS

end Mustache.Proofs.Events
