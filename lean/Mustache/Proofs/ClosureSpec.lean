import Mustache.Proofs.ClosureDeps
import Mustache.Spec.World
/-! # C13 at the level of the abstract spec WS: gaining a master brings its dependents, removals

Every edit of an entity's component set in WS ends in `rebuild old' (closed deps X) given`: the new set is a
closure, a component missing from `old'` is built from `given` or by default, one present in it keeps its entry.
`gainPost_rebuild` reads the three clauses of `GainPost` off that form; the operations differ in `old'` only
(all of the old map, or the old map filtered by a predicate that holds of every component that stays). -/
namespace Mustache.Spec
open Mustache.Model

theorem closed_eq (deps : List (CompId × Mask)) (m : List Nat) : closed deps m = closedMask deps m := rfl

def lookupC (l : List (CompId × Val)) (c : Nat) : Option Val := (l.find? (·.1 == c)).map (·.2)
def compVal (e : SEnt) (c : Nat) : Option Val := lookupC e.comps c

def givenOrDefault (info : CompId → CompInfo) (given : List (CompId × Val)) (d : Nat) : Val :=
  match given.find? (·.1 == d) with
  | some p => p.2
  | none => defaultVal info d

variable (info : CompId → CompInfo)

theorem alive_lt {s : WS} {o : Nat} {e : SEnt} (h : s.alive o = some e) : o < s.ents.length :=
  lt_of_getD_ne (d := none) fun hn => nomatch hn.symm.trans h

theorem alive_setEnt_self (s : WS) (o : Nat) (x : Option SEnt) (h : o < s.ents.length) :
    (s.setEnt o x).alive o = x := by
  simp [WS.alive, WS.setEnt, List.getD_eq_getElem?_getD, h]

theorem alive_append_self (s : WS) (x : Option SEnt) :
    ({ s with ents := s.ents ++ [x] } : WS).alive s.ents.length = x := by
  simp [WS.alive, List.getD_eq_getElem?_getD]

theorem lookupC_of_find {l : List (CompId × Val)} {d : Nat} {p : CompId × Val} (h : l.find? (·.1 == d) = some p) :
    lookupC l d = some p.2 := by
  unfold lookupC; rw [h]; rfl

theorem map_fst_setKey (l : List (CompId × Val)) (c : CompId) (v : Val) :
    (l.map (fun p => if p.1 == c then (c, v) else p)).map (·.1) = l.map (·.1) := by
  rw [List.map_map]
  exact List.map_congr_left fun p _ => fst_setKey c v p

theorem lookupC_setKey {l : List (CompId × Val)} {c : CompId} (v : Val) (hc : c ∈ l.map (·.1)) (d : Nat) :
    lookupC (l.map (fun p => if p.1 == c then (c, v) else p)) d = if d = c then some v else lookupC l d := by
  have hany : l.any (·.1 == c) = true := by
    obtain ⟨p, hp, hpc⟩ := List.mem_map.mp hc
    exact List.any_eq_true.mpr ⟨p, hp, beq_iff_eq.mpr hpc⟩
  have := find?_fst_upsert l c v d
  rw [if_pos hany] at this
  unfold lookupC
  rw [this]
  exact apply_ite (Option.map Prod.snd) _ _ _

def rebuildEntry (old given : List (CompId × Val)) (c : Nat) : CompId × Val :=
  match old.find? (·.1 == c) with
  | some p => p
  | none => match given.find? (·.1 == c) with
    | some p => p
    | none => (c, defaultVal info c)

theorem rebuild_eq (old : List (CompId × Val)) (newSet : List Nat) (given : List (CompId × Val)) :
    rebuild info old newSet given = newSet.map (rebuildEntry info old given) := rfl

theorem rebuildEntry_fst (old given : List (CompId × Val)) (c : Nat) : (rebuildEntry info old given c).1 = c := by
  unfold rebuildEntry
  split
  · rename_i p h; exact (find?_fst_some h).2
  · split
    · rename_i p h; exact (find?_fst_some h).2
    · rfl

theorem compSet_rebuild (old : List (CompId × Val)) (newSet : List Nat) (given : List (CompId × Val))
    (sh : List (Nat × Nat)) : compSet ⟨rebuild info old newSet given, sh⟩ = newSet := by
  rw [compSet, rebuild_eq, List.map_map]
  exact (List.map_congr_left fun c _ => rebuildEntry_fst info old given c).trans (List.map_id _)

theorem lookupC_rebuild (old : List (CompId × Val)) (newSet : List Nat) (given : List (CompId × Val)) (d : Nat)
    (hd : d ∈ newSet) : lookupC (rebuild info old newSet given) d = some (rebuildEntry info old given d).2 :=
  lookupC_of_find (find?_map_key newSet _ (rebuildEntry_fst info old given) d hd)

theorem rebuildEntry_new {old given : List (CompId × Val)} {d : Nat} (h : d ∉ old.map (·.1)) :
    (rebuildEntry info old given d).2 = givenOrDefault info given d := by
  unfold rebuildEntry givenOrDefault
  rw [find?_fst_eq_none.mpr h]
  simp only
  split <;> rfl

theorem lookupC_rebuild_kept {old old' given : List (CompId × Val)} {newSet : List Nat} {d : Nat}
    (hd : d ∈ newSet) (hk : d ∈ old.map (·.1)) (hagree : old'.find? (·.1 == d) = old.find? (·.1 == d)) :
    lookupC (rebuild info old' newSet given) d = lookupC old d := by
  obtain ⟨p, hp⟩ := find?_fst_isSome hk
  rw [lookupC_rebuild info _ _ _ _ hd, lookupC_of_find hp]
  unfold rebuildEntry; rw [hagree, hp]

/-- the ways entity `o` gains components in one step: `s'` the state after, `old` its component map before
    (`[]` for a creation), `given` the values supplied by the caller -/
inductive GainStep (s : WS) : WS → Nat → List (CompId × Val) → List (CompId × Val) → Prop
  | create (mask : Mask) (sh : List (Nat × Nat)) :
      GainStep s (s.doCreate info mask sh).1 s.ents.length [] []
  | assign (o : Nat) (c : CompId) (v : Val) (e : SEnt) : s.alive o = some e →
      GainStep s (s.doAssign info o c v).1 o e.comps [(c, v)]
  | build (o : Nat) (adds : List (CompId × Option Nat)) (rems : Mask) (e : SEnt) (s' : WS) (cbs : List SCb) :
      s.alive o = some e → s.doBuild info o adds rems = some (s', cbs) →
      GainStep s s' o e.comps (adds.map (fun p => (p.1, storedVal info p.1 p.2)))
  | buildNew (adds : List (CompId × Option Nat)) :
      GainStep s (s.doBuildNew info adds).1 s.ents.length [] (adds.map (fun p => (p.1, storedVal info p.1 p.2)))
  | deferredCreate (o : Nat) (mask : Mask) (sh : List (Nat × Nat)) : o < s.ents.length →
      GainStep s (s.applyCmd info (.create o mask sh)).1 o [] []
  | deferredAssign (o : Nat) (c : CompId) (v : Val) (e : SEnt) : s.alive o = some e →
      GainStep s (s.applyCmd info (.assign (some o) c v)).1 o e.comps [(c, v)]

structure GainPost (deps : List (CompId × Mask)) (old given : List (CompId × Val)) (e' : SEnt) : Prop where
  /-- every component the entity has now and lacked before comes with its whole closure -/
  dependents : ∀ m ∈ compSet e', m ∉ old.map (·.1) → ∀ d ∈ closed deps [m], d ∈ compSet e'
  /-- every new component carries the supplied value, else its default -/
  constructed : ∀ d ∈ compSet e', d ∉ old.map (·.1) → compVal e' d = some (givenOrDefault info given d)
  /-- a component that was there, still is and was not supplied again keeps its value -/
  kept : ∀ d ∈ compSet e', d ∈ old.map (·.1) → d ∉ given.map (·.1) → compVal e' d = lookupC old d

theorem gainPost_rebuild {deps : List (CompId × Mask)} (hb : DepsBounded deps) {old old' given : List (CompId × Val)}
    {X : List Nat} {sh : List (Nat × Nat)}
    (hsub : ∀ d, d ∉ old.map (·.1) → d ∉ old'.map (·.1))
    (hagree : ∀ d ∈ closed deps X, d ∈ old.map (·.1) → old'.find? (·.1 == d) = old.find? (·.1 == d)) :
    GainPost info deps old given ⟨rebuild info old' (closed deps X) given, sh⟩ := by
  have hset : compSet ⟨rebuild info old' (closed deps X) given, sh⟩ = closed deps X := compSet_rebuild info _ _ _ _
  refine ⟨?_, ?_, ?_⟩
  · intro m hm _ d hd
    rw [hset] at hm ⊢
    exact closedMask_single_sub hb hm d hd
  · intro d hd hnew
    rw [hset] at hd
    show lookupC _ d = _
    rw [lookupC_rebuild info _ _ _ _ hd, rebuildEntry_new info (hsub d hnew)]
  · intro d hd hold _
    rw [hset] at hd
    exact lookupC_rebuild_kept info hd hold (hagree d hd hold)

theorem gainPost_rebuild_self {deps : List (CompId × Mask)} (hb : DepsBounded deps) {old given : List (CompId × Val)}
    {X : List Nat} {sh : List (Nat × Nat)} : GainPost info deps old given ⟨rebuild info old (closed deps X) given, sh⟩ :=
  gainPost_rebuild info hb (fun _ h => h) (fun _ _ _ => rfl)

theorem doAssign_present {s : WS} {o : Nat} {e : SEnt} (he : s.alive o = some e) {c : CompId} (v : Val)
    (hc : c ∈ compSet e) :
    (s.doAssign info o c v).1 =
      s.setEnt o (some { e with comps := e.comps.map (fun p => if p.1 == c then (c, v) else p) }) := by
  unfold WS.doAssign
  rw [he]
  simp only [List.contains_iff_mem.mpr hc, if_true]

theorem doAssign_absent {s : WS} {o : Nat} {e : SEnt} (he : s.alive o = some e) {c : CompId} (v : Val)
    (hc : c ∉ compSet e) :
    (s.doAssign info o c v).1 =
      s.setEnt o (some { e with comps := rebuild info e.comps (closed s.deps (Mask.insert (compSet e) c)) [(c, v)] }) := by
  unfold WS.doAssign
  rw [he]
  simp only [List.contains_iff_mem, hc, if_false]

theorem doAssign_deps (s : WS) (o : Nat) (c : CompId) (v : Val) : (s.doAssign info o c v).1.deps = s.deps := by
  cases he : s.alive o with
  | none => unfold WS.doAssign; rw [he]
  | some e =>
    by_cases hc : c ∈ compSet e
    · rw [doAssign_present info he v hc]; rfl
    · rw [doAssign_absent info he v hc]; rfl

theorem doAssign_post {s : WS} (hb : DepsBounded s.deps) {o : Nat} (c : CompId) (v : Val) {e : SEnt}
    (he : s.alive o = some e) :
    ∃ e', (s.doAssign info o c v).1.alive o = some e' ∧ e'.shared = e.shared ∧
      GainPost info s.deps e.comps [(c, v)] e' ∧
      compSet e' = (if c ∈ compSet e then compSet e else closed s.deps (Mask.insert (compSet e) c)) ∧
      (c ∈ compSet e → compVal e' c = some v) := by
  have hlt := alive_lt he
  by_cases hc : c ∈ compSet e
  · rw [doAssign_present info he v hc, if_pos hc]
    have hkeys := map_fst_setKey e.comps c v
    have hlook := lookupC_setKey v hc
    refine ⟨_, alive_setEnt_self _ _ _ hlt, rfl, ⟨?_, ?_, ?_⟩, hkeys, fun _ => (hlook c).trans (if_pos rfl)⟩
    · intro m hm hnew; exact absurd (hkeys ▸ hm) hnew
    · intro d hd hnew; exact absurd (hkeys ▸ hd) hnew
    · intro d _ _ hng
      exact (hlook d).trans (if_neg fun hdc : d = c => hng (hdc ▸ List.mem_cons_self))
  · rw [doAssign_absent info he v hc, if_neg hc]
    exact ⟨_, alive_setEnt_self _ _ _ hlt, rfl, gainPost_rebuild_self info hb, compSet_rebuild info _ _ _ _,
      fun h => absurd h hc⟩

theorem doBuild_post {s : WS} (hb : DepsBounded s.deps) {o : Nat} {adds : List (CompId × Option Nat)} {rems : Mask}
    {e : SEnt} (he : s.alive o = some e) {s' : WS} {cbs : List SCb} (h : s.doBuild info o adds rems = some (s', cbs)) :
    ∃ e', s'.alive o = some e' ∧ s'.deps = s.deps ∧ e'.shared = e.shared ∧
      GainPost info s.deps e.comps (adds.map (fun p => (p.1, storedVal info p.1 p.2))) e' ∧
      compSet e' = closed s.deps (Mask.diff (Mask.union (Mask.ofList (adds.map (·.1))) (compSet e)) rems) := by
  have hlt := alive_lt he
  unfold WS.doBuild at h
  rw [he] at h
  simp only at h
  split at h
  · cases h
  · cases h
    refine ⟨_, alive_setEnt_self _ _ _ hlt, rfl, rfl, ?_, compSet_rebuild info _ _ _ _⟩
    -- the builder keeps the entries of the components that stay
    refine gainPost_rebuild info hb (fun d hd hd' => hd ?_) (fun d hd _ => find?_fst_filter (List.contains_iff_mem.mpr hd))
    exact (List.filter_sublist.map _).subset hd'

/-- `gain_master_has_dependents`, all six ways of gaining at once -/
theorem gainStep_post {s s' : WS} (hb : DepsBounded s.deps) {o : Nat} {old given : List (CompId × Val)}
    (h : GainStep info s s' o old given) :
    ∃ e', s'.alive o = some e' ∧ s'.deps = s.deps ∧ GainPost info s.deps old given e' := by
  induction h with
  | create mask sh => exact ⟨_, alive_append_self s _, rfl, gainPost_rebuild_self info hb⟩
  | assign o c v e he =>
    obtain ⟨e', h1, _, h2, _⟩ := doAssign_post info hb c v he
    exact ⟨e', h1, doAssign_deps info s o c v, h2⟩
  | build o adds rems e s' cbs he hs =>
    obtain ⟨e', h1, h2, _, h3, _⟩ := doBuild_post info hb he hs
    exact ⟨e', h1, h2, h3⟩
  | buildNew adds => exact ⟨_, alive_append_self s _, rfl, gainPost_rebuild_self info hb⟩
  | deferredCreate o mask sh hlt => exact ⟨_, alive_setEnt_self _ _ _ hlt, rfl, gainPost_rebuild_self info hb⟩
  | deferredAssign o c v e he =>
    obtain ⟨e', h1, _, h2, _⟩ := doAssign_post info hb c v he
    exact ⟨e', h1, doAssign_deps info s o c v, h2⟩

theorem doCreate_compSet (s : WS) (mask : Mask) (sh : List (Nat × Nat)) :
    ∃ e', (s.doCreate info mask sh).1.alive s.ents.length = some e' ∧ (s.doCreate info mask sh).2.1 = s.ents.length ∧
      compSet e' = closed s.deps mask ∧ e'.shared = sh :=
  ⟨_, alive_append_self s _, rfl, compSet_rebuild info _ _ _ _, rfl⟩

structure EntClosed (deps : List (CompId × Mask)) (e : SEnt) : Prop where
  sorted : Sorted (compSet e)
  closed : ClosedUnder deps (compSet e)

theorem doRemove_alive {s : WS} {o : Nat} {e : SEnt} (he : s.alive o = some e) (c : CompId) :
    s.doRemove info o c =
      if c ∉ compSet e then (s, []) else
      if closed s.deps (Mask.erase (compSet e) c) = compSet e then (s, []) else
      (s.setEnt o (some { e with comps := (rebuild info
          (if (closed s.deps (Mask.erase (compSet e) c)).contains c then e.comps else e.comps.filter (·.1 != c))
          (closed s.deps (Mask.erase (compSet e) c)) []) }),
        cbDiff info o (compSet e) (closed s.deps (Mask.erase (compSet e) c))) := by
  unfold WS.doRemove
  rw [he]
  simp only [Bool.not_eq_true', ← Bool.not_eq_true, List.contains_iff_mem, beq_iff_eq]

theorem doRemove_dependent_noop {s : WS} (hb : DepsBounded s.deps) {o : Nat} {e : SEnt} (he : s.alive o = some e)
    (hok : EntClosed s.deps e) {m c : Nat} (hm : m ∈ compSet e) (hne : m ≠ c) (hc : c ∈ closed s.deps [m]) :
    s.doRemove info o c = (s, []) := by
  have hce : c ∈ compSet e := closedMask_least hok.closed (fun _ hx => List.mem_singleton.mp hx ▸ hm) c hc
  -- the closure of the rest contains `m`, hence `c`, hence the whole old set; it stays inside the closed old set
  have hafter : closed s.deps (Mask.erase (compSet e) c) = compSet e := by
    refine sorted_ext (sorted_closedMask (Mask.sorted_erase hok.sorted)) hok.sorted fun x =>
      ⟨closedMask_least hok.closed (fun y hy => (Mask.mem_erase.mp hy).1) x, fun hx => ?_⟩
    by_cases hxc : x = c
    · exact hxc ▸ closedMask_single_sub hb (subset_closedMask (Mask.mem_erase.mpr ⟨hm, hne⟩)) c hc
    · exact subset_closedMask (Mask.mem_erase.mpr ⟨hx, hxc⟩)
  rw [doRemove_alive info he, if_neg (not_not_intro hce), if_pos hafter]

theorem doRemove_deps (s : WS) (o : Nat) (c : CompId) : (s.doRemove info o c).1.deps = s.deps := by
  cases he : s.alive o with
  | none => unfold WS.doRemove; rw [he]
  | some e =>
    rw [doRemove_alive info he]
    by_cases h1 : c ∉ compSet e
    · rw [if_pos h1]
    · rw [if_neg h1]
      by_cases h2 : closed s.deps (Mask.erase (compSet e) c) = compSet e
      · rw [if_pos h2]
      · rw [if_neg h2]; rfl

theorem doRemove_post {s : WS} {o : Nat} {e : SEnt} (he : s.alive o = some e) {m : Nat} (hm : m ∈ compSet e) :
    ∃ e', (s.doRemove info o m).1.alive o = some e' ∧ e'.shared = e.shared ∧
      compSet e' = closed s.deps (Mask.erase (compSet e) m) ∧
      (∀ d ∈ compSet e, d ≠ m → d ∈ compSet e' ∧ compVal e' d = compVal e d) := by
  rw [doRemove_alive info he, if_neg (not_not_intro hm)]
  by_cases heq : closed s.deps (Mask.erase (compSet e) m) = compSet e
  · rw [if_pos heq]
    exact ⟨e, he, rfl, heq.symm, fun d hd _ => ⟨hd, rfl⟩⟩
  · rw [if_neg heq]
    refine ⟨_, alive_setEnt_self _ _ _ (alive_lt he), rfl, compSet_rebuild info _ _ _ _, fun d hd hdm => ?_⟩
    have hin : d ∈ closed s.deps (Mask.erase (compSet e) m) := subset_closedMask (Mask.mem_erase.mpr ⟨hd, hdm⟩)
    refine ⟨by rw [compSet_rebuild]; exact hin, ?_⟩
    unfold compVal
    dsimp only
    refine lookupC_rebuild_kept info hin hd ?_
    split
    · rfl
    · exact find?_fst_filter (q := (· != m)) (by simpa using hdm)

/-- the closure of a sorted set is a record in good shape: what creation / assignment / builder produce -/
theorem entClosed_of_closed {deps : List (CompId × Mask)} (hb : DepsBounded deps) {X : List Nat} (hs : Sorted X)
    {e : SEnt} (h : compSet e = closed deps X) : EntClosed deps e :=
  ⟨by rw [h]; exact sorted_closedMask hs, by rw [h]; exact closedMask_closed hb X⟩

end Mustache.Spec
