import Mustache.Model.Dispatcher

/-! Lemmas about the functions of the dispatcher model (`findQueue`, `scanBody`, `lockQ`, `wakeAll`, ...), about lists with
one entry replaced, and the transition relation `Step` that spells out `step`. -/
namespace Mustache.Dispatcher

theorem foldl_pickStep (s : State) (l : List Nat) (b : Nat) :
    ∃ q, l.foldl (pickStep s) (some b) = some q ∧ q ∈ b :: l := by
  induction l generalizing b with
  | nil => exact ⟨b, rfl, List.mem_cons_self⟩
  | cons a r ih =>
    rw [List.foldl_cons, pickStep]
    split
    · obtain ⟨q, hq, hm⟩ := ih a
      exact ⟨q, hq, List.mem_cons_of_mem _ hm⟩
    · obtain ⟨q, hq, hm⟩ := ih b
      exact ⟨q, hq, (List.mem_cons.mp hm).elim (· ▸ List.mem_cons_self) fun h => by simp [h]⟩

theorem pickMin_mem {s : State} {l : List Nat} {q : Nat} (h : pickMin s l = some q) : q ∈ l := by
  cases l with
  | nil => cases h
  | cons a r =>
    obtain ⟨q', hq', hm⟩ := foldl_pickStep s r a
    cases hq'.symm.trans h
    exact hm

theorem pickMin_none {s : State} {l : List Nat} (h : pickMin s l = none) : l = [] := by
  cases l with
  | nil => rfl
  | cons a r =>
    obtain ⟨q, hq, _⟩ := foldl_pickStep s r a
    cases hq.symm.trans h

theorem mem_serialIds {s : State} {q : Nat} : q ∈ serialIds s ↔ 1 ≤ q ∧ q ≤ s.nq := by
  simp only [serialIds, List.mem_map, List.mem_range]
  constructor
  · rintro ⟨a, ha, rfl⟩
    exact ⟨Nat.succ_pos a, ha⟩
  · rintro ⟨h1, h2⟩
    obtain ⟨k, rfl⟩ := Nat.exists_eq_add_of_le' h1
    exact ⟨k, h2, rfl⟩

theorem isOk_iff {s : State} {q : Nat} : isOk s q = true ↔ s.locked q = false ∧ s.jobs q ≠ [] := by
  simp [isOk]

theorem findQueue_some {s : State} {q : Nat} (h : findQueue s = some q) :
    q ≤ s.nq ∧ s.locked q = false ∧ s.jobs q ≠ [] := by
  unfold findQueue at h
  split at h
  · cases h
    exact ⟨Nat.zero_le _, isOk_iff.mp ‹_›⟩
  · have hm := List.mem_filter.mp (pickMin_mem h)
    exact ⟨(mem_serialIds.mp hm.1).2, isOk_iff.mp hm.2⟩

theorem findQueue_none {s : State} (h : findQueue s = none) :
    ∀ q, q ≤ s.nq → s.locked q = true ∨ s.jobs q = [] := by
  intro q hq
  have hnot : ¬isOk s q = true := by
    intro hok
    unfold findQueue at h
    split at h
    · cases h
    · rename_i h0
      by_cases hq0 : q = 0
      · exact h0 (hq0 ▸ hok)
      · have : q ∈ (serialIds s).filter (isOk s) :=
          List.mem_filter.mpr ⟨mem_serialIds.mpr ⟨Nat.pos_of_ne_zero hq0, hq⟩, hok⟩
        rw [pickMin_none h] at this
        cases this
  cases hl : s.locked q
  · exact Or.inr (Classical.byContradiction fun hj => hnot (isOk_iff.mpr ⟨hl, hj⟩))
  · exact Or.inl rfl

theorem findQueue_congr {s1 s2 : State} (hj : s1.jobs = s2.jobs) (hl : s1.locked = s2.locked)
    (hp : s1.prio = s2.prio) (hn : s1.nq = s2.nq) : findQueue s1 = findQueue s2 := by
  unfold findQueue pickMin pickStep serialIds isOk better
  rw [hj, hl, hp, hn]

/-- the three outcomes of the worker's critical section (the `[]` branch of `scanBody` cannot be taken) -/
theorem scanBody_cases (s : State) (th : Nat) :
    (s.terminate = true ∧ scanBody s th = { s with pcs := s.pcs.set th .exited }) ∨
    (s.terminate = false ∧ findQueue s = none ∧
      scanBody s th = { s with pcs := s.pcs.set th .sleeping, tw := s.tw + 1 }) ∨
    (s.terminate = false ∧ ∃ q t r, findQueue s = some q ∧ s.jobs q = t :: r ∧ s.locked q = false ∧ q ≤ s.nq ∧
      scanBody s th = doPop s th q t r) := by
  unfold scanBody
  cases hterm : s.terminate
  · right
    cases hf : findQueue s with
    | none => left; simp
    | some q =>
      right
      have hq := findQueue_some hf
      cases hj : s.jobs q with
      | nil => exact absurd hj hq.2.2
      | cons t r => exact ⟨rfl, q, t, r, rfl, hj, hq.2.1, hq.1, by simp [hj]⟩
  · left; simp

theorem scanBody_of_terminate {s : State} (th : Nat) (ht : s.terminate = true) :
    scanBody s th = { s with pcs := s.pcs.set th .exited } := by
  unfold scanBody
  rw [if_pos ht]

theorem scanBody_frame (s : State) (th : Nat) :
    scanBody s th =
      { s with pcs := (scanBody s th).pcs, jobs := (scanBody s th).jobs, locked := (scanBody s th).locked,
               tw := (scanBody s th).tw, started := (scanBody s th).started, runner := (scanBody s th).runner,
               owner := (scanBody s th).owner, cur := (scanBody s th).cur } := by
  rcases scanBody_cases s th with ⟨_, he⟩ | ⟨_, _, he⟩ | ⟨_, q, t, r, _, _, _, _, he⟩ <;> rw [he] <;> rfl

theorem scanBody_set_pc (s : State) (th : Nat) (p : Pc) :
    scanBody { s with pcs := s.pcs.set th p } th = scanBody s th := by
  have hf : findQueue { s with pcs := s.pcs.set th p } = findQueue s := rfl
  unfold scanBody
  simp only [hf, doPop, List.set_set]
  rfl

theorem getElem?_set_self_of {α : Type} {l : List α} {i : Nat} {p : α} (a : α) (hp : l[i]? = some p) :
    (l.set i a)[i]? = some a :=
  List.getElem?_set_self (List.getElem?_eq_some_iff.mp hp).1

theorem getElem?_set_cases {α : Type} {l : List α} {i j : Nat} {a x : α} (h : (l.set i a)[j]? = some x) :
    (j = i ∧ x = a) ∨ (j ≠ i ∧ l[j]? = some x) := by
  by_cases e : i = j
  · subst e
    rw [List.getElem?_set] at h
    simp only [if_true] at h
    split at h
    · cases h; exact Or.inl ⟨rfl, rfl⟩
    · cases h
  · rw [List.getElem?_set_ne e] at h
    exact Or.inr ⟨fun e' => e e'.symm, h⟩

theorem getElem?_of_set_ne_new {α : Type} {l : List α} {i j : Nat} {a x : α} (h : (l.set i a)[j]? = some x)
    (hne : x ≠ a) : l[j]? = some x := by
  rcases getElem?_set_cases h with ⟨_, e⟩ | ⟨_, h⟩
  · exact absurd e hne
  · exact h

theorem getElem?_set_of_ne_old {α : Type} {l : List α} {i j : Nat} {p x : α} (a : α) (hp : l[i]? = some p)
    (h : l[j]? = some x) (hne : x ≠ p) : (l.set i a)[j]? = some x := by
  rw [List.getElem?_set_ne]
  · exact h
  · rintro rfl
    rw [hp] at h
    cases h
    exact hne rfl

theorem getElem?_set_iff_of_ne {α : Type} {l : List α} {i j : Nat} {p a x : α} (hp : l[i]? = some p)
    (hxp : x ≠ p) (hxa : x ≠ a) : (l.set i a)[j]? = some x ↔ l[j]? = some x :=
  ⟨(getElem?_of_set_ne_new · hxa), (getElem?_set_of_ne_old a hp · hxp)⟩

theorem sum_map_set_of {α : Type} (w : α → Nat) (l : List α) (i : Nat) (x y : α) (h : l[i]? = some y) :
    ((l.set i x).map w).sum + w y = (l.map w).sum + w x := by
  induction l generalizing i with
  | nil => simp at h
  | cons a r ih =>
    cases i with
    | zero =>
      simp at h; subst h
      simp only [List.set_cons_zero, List.map_cons, List.sum_cons]
      omega
    | succ i =>
      simp at h
      have := ih i h
      simp only [List.set_cons_succ, List.map_cons, List.sum_cons]
      omega

theorem countP_eq_sum_map {α : Type} (p : α → Bool) (l : List α) :
    l.countP p = (l.map fun a => if p a then 1 else 0).sum := by
  induction l with
  | nil => rfl
  | cons a r ih => rw [List.countP_cons, List.map_cons, List.sum_cons, ih, Nat.add_comm]

theorem countP_set_of {α : Type} (p : α → Bool) (l : List α) (i : Nat) (x y : α) (h : l[i]? = some y) :
    (l.set i x).countP p + (if p y then 1 else 0) = l.countP p + (if p x then 1 else 0) := by
  rw [countP_eq_sum_map, countP_eq_sum_map]
  exact sum_map_set_of _ l i x y h

theorem lockQ_self {s : State} {q : Nat} (hq : q ≠ 0) : lockQ s q q = true := if_pos ⟨rfl, hq⟩
theorem lockQ_of_ne {s : State} {q i : Nat} (h : i ≠ q) : lockQ s q i = s.locked i := if_neg fun e => h e.1
theorem lockQ_zero (s : State) (q : Nat) : lockQ s q 0 = s.locked 0 := if_neg fun e => e.2 e.1.symm
theorem unlockQ_self {s : State} {q : Nat} (hq : q ≠ 0) : unlockQ s q q = false := if_pos ⟨rfl, hq⟩
theorem unlockQ_of_ne {s : State} {q i : Nat} (h : i ≠ q) : unlockQ s q i = s.locked i := if_neg fun e => h e.1
theorem unlockQ_zero (s : State) (q : Nat) : unlockQ s q 0 = s.locked 0 := if_neg fun e => e.2 e.1.symm

theorem wakeAll_getElem? (l : List Pc) (i : Nat) :
    (wakeAll l)[i]? = (l[i]?).map (fun p => if p = .sleeping then .woken else p) := by
  simp [wakeAll]

theorem wakeAll_getElem?_eq {l : List Pc} {i : Nat} {x : Pc} (hx : isWaiting x = false) :
    (wakeAll l)[i]? = some x ↔ l[i]? = some x := by
  rw [wakeAll_getElem?]
  cases l[i]? with
  | none => simp
  | some p =>
    simp only [Option.map_some, Option.some.injEq]
    split
    · rename_i e
      subst e
      constructor <;> (rintro rfl; cases hx)
    · exact Iff.rfl

theorem wakeAll_not_sleeping (l : List Pc) (i : Nat) : (wakeAll l)[i]? ≠ some Pc.sleeping := by
  rw [wakeAll_getElem?]
  cases h : l[i]? with
  | none => simp
  | some p => cases p <;> simp

theorem wakeAll_length (l : List Pc) : (wakeAll l).length = l.length := by simp [wakeAll]

theorem wakeAll_countP (l : List Pc) : (wakeAll l).countP isWaiting = l.countP isWaiting := by
  induction l with
  | nil => rfl
  | cons a r ih =>
    simp only [wakeAll, List.map_cons, List.countP_cons] at ih ⊢
    rw [ih]
    cases a <;> simp [isWaiting]

theorem mem_snoc {α : Type} {l : List α} {a x : α} : x ∈ l ++ [a] ↔ x ∈ l ∨ x = a := by
  rw [List.mem_append, List.mem_singleton]

theorem pairwise_snoc {α : Type} {R : α → α → Prop} {l : List α} {a : α} :
    (l ++ [a]).Pairwise R ↔ l.Pairwise R ∧ ∀ x ∈ l, R x a := by
  rw [List.pairwise_append]
  simp

theorem nodup_snoc {α : Type} {l : List α} {a : α} (h : l.Nodup) (ha : a ∉ l) : (l ++ [a]).Nodup :=
  pairwise_snoc.mpr ⟨h, fun _ hx e => ha (e ▸ hx)⟩

theorem sorted_nodup {l : List Nat} (h : l.Pairwise (· < ·)) : l.Nodup :=
  h.imp Nat.ne_of_lt

theorem forall_mem_drop_one {α : Type} {l : List α} {P : α → Prop} :
    (∀ x ∈ l.drop 1, P x) ↔ ∀ i x, 1 ≤ i → l[i]? = some x → P x := by
  cases l with
  | nil => exact ⟨nofun, nofun⟩
  | cons a r =>
    constructor
    · intro h i x hi hx
      obtain ⟨k, rfl⟩ := Nat.exists_eq_add_of_le' hi
      exact h x (List.mem_of_getElem? hx)
    · intro h x hx
      obtain ⟨k, hk⟩ := List.getElem?_of_mem hx
      exact h (k + 1) x (Nat.le_add_left 1 k) hk

theorem allExited_iff (s : State) :
    allExited s = true ↔ ∀ th p, 1 ≤ th → s.pcs[th]? = some p → p = Pc.exited := by
  rw [← forall_mem_drop_one, allExited, List.all_eq_true]
  simp only [decide_eq_true_eq]

theorem countP_isWaiting_eq_iff {l : List Pc} {n : Nat} (hlen : l.length = n + 1)
    (h0 : ∀ p, l[0]? = some p → isWaiting p = false) :
    l.countP isWaiting = n ↔ ∀ th p, 1 ≤ th → l[th]? = some p → isWaiting p = true := by
  rw [← forall_mem_drop_one]
  cases l with
  | nil => cases hlen
  | cons a r =>
    rw [List.countP_cons, h0 a rfl, ← Nat.succ.inj hlen]
    exact List.countP_eq_length

/-- split `step s a = some s'` into one goal per enabled branch, with `s'` substituted -/
macro "step_split" hs:ident : tactic => `(tactic| (
  simp only [step] at $hs:ident
  repeat' (split at $hs:ident)
  all_goals (first | (cases $hs:ident; done) | skip)
  all_goals (cases $hs:ident)))

/-- The transition relation: `step s a = some s'` spelled out, one constructor per enabled branch of `step`. -/
inductive Step (s : State) : Action → State → Prop
  | createQueue (p : Int) (hm : s.mode = .api) :
    Step s (.createQueue p) { s with nq := s.nq + 1, prio := upd s.prio (s.nq + 1) p }
  | setSingle (b : Bool) (hm : s.mode = .api) : Step s (.setSingle b) { s with single := b }
  | submit {q : Nat} (hm : s.mode = .api) (hq : q ≤ s.nq) (hsg : q = 0 → s.single = false) :
    Step s (.submit q)
      { s with jobs := upd s.jobs q (s.jobs q ++ [s.nextId]), nextId := s.nextId + 1, tq := upd s.tq s.nextId q }
  | submitInline (hm : s.mode = .api) (hsg : s.single = true) :
    Step s .submitInline
      { s with mode := .inline, pcs := s.pcs.set 0 (.running s.nextId 0), nextId := s.nextId + 1,
               tq := upd s.tq s.nextId 0, started := s.started ++ [s.nextId],
               runner := upd s.runner s.nextId 0 }
  | waitBegin {q : Nat} (hm : s.mode = .api) (hq : q ≤ s.nq) :
    Step s (.waitBegin q) { s with mode := .waitLoop q, waitSnap := s.nextId }
  | waitPop {q t : Nat} {r : List Nat} (hm : s.mode = .waitLoop q) (h0 : s.pcs[0]? = some .idle)
      (ht : s.terminate = false) (hl : s.locked q = false) (hj : s.jobs q = t :: r) :
    Step s .waitPop (doPop s 0 q t r)
  | waitBlocked {q : Nat} (hm : s.mode = .waitLoop q) (h0 : s.pcs[0]? = some .idle) (ht : s.terminate = false)
      (hl : s.locked q = true) (hj : s.jobs q ≠ []) : Step s .waitBlocked s
  | waitEmpty {q : Nat} (hm : s.mode = .waitLoop q) (h0 : s.pcs[0]? = some .idle)
      (he : s.terminate = true ∨ s.jobs q = []) : Step s .waitEmpty { s with mode := .spin q }
  | spinRetry {q : Nat} (hm : s.mode = .spin q) : Step s .spinRetry s
  | spinExit {q : Nat} (hm : s.mode = .spin q) (hw : q = 0 → s.tw = s.n) (hl : q ≠ 0 → s.locked q = false) :
    Step s .spinExit { s with mode := .api, synced := syncedAfter s q }
  | sdFlag (hm : s.mode = .api) : Step s .sdFlag { s with mode := .sdFlag, terminate := true }
  | sdClear (hm : s.mode = .sdFlag) :
    Step s .sdClear { s with mode := .sdCleared, dropped := s.dropped ++ s.jobs 0, jobs := upd s.jobs 0 [] }
  | sdNotify (hm : s.mode = .sdCleared) : Step s .sdNotify { s with mode := .joining, pcs := wakeAll s.pcs }
  | sdJoin (hm : s.mode = .joining) (hall : allExited s = true) : Step s .sdJoin { s with mode := .destroyed }
  | scan {th : Nat} (hth : th ≠ 0) (hp : s.pcs[th]? = some .idle) : Step s (.wScan th) (scanBody s th)
  | rescan {th : Nat} (hth : th ≠ 0) (hp : s.pcs[th]? = some .woken) :
    Step s (.wScan th) (scanBody { s with tw := s.tw - 1 } th)
  | wake {th : Nat} (hp : s.pcs[th]? = some .sleeping) : Step s (.wake th) { s with pcs := s.pcs.set th .woken }
  | taskEnd {th t q : Nat} (hp : s.pcs[th]? = some (.running t q)) :
    Step s (.taskEnd th) { s with pcs := s.pcs.set th (.relock q), done := s.done ++ [t] }
  | relock {th q : Nat} (hp : s.pcs[th]? = some (.relock q)) :
    Step s (.relock th)
      { s with pcs := s.pcs.set th .idle, locked := unlockQ s q,
               mode := if th = 0 ∧ s.mode = .inline then .api else s.mode }

theorem step_iff {s s' : State} {a : Action} : step s a = some s' ↔ Step s a s' := by
  constructor
  · intro hs
    cases a
    case createQueue p => obtain ⟨hm, rfl⟩ := Option.ite_some_none_eq_some.mp hs; exact .createQueue p hm
    case setSingle b => obtain ⟨hm, rfl⟩ := Option.ite_some_none_eq_some.mp hs; exact .setSingle b hm
    case submit q => obtain ⟨hg, rfl⟩ := Option.ite_some_none_eq_some.mp hs; exact .submit hg.1 hg.2.1 hg.2.2
    case submitInline => obtain ⟨hg, rfl⟩ := Option.ite_some_none_eq_some.mp hs; exact .submitInline hg.1 hg.2
    case waitBegin q => obtain ⟨hg, rfl⟩ := Option.ite_some_none_eq_some.mp hs; exact .waitBegin hg.1 hg.2
    case waitPop => step_split hs; rename_i hm hg _ _ _ hj; exact .waitPop hm hg.1 hg.2.1 hg.2.2 hj
    case waitBlocked => step_split hs; rename_i hm hg; exact .waitBlocked hm hg.1 hg.2.1 hg.2.2.1 hg.2.2.2
    case waitEmpty => step_split hs; rename_i hm hg; exact .waitEmpty hm hg.1 hg.2
    case spinRetry => step_split hs; rename_i hm; exact .spinRetry hm
    case spinExit => step_split hs; rename_i hm hg; exact .spinExit hm hg.1 hg.2
    case sdFlag => obtain ⟨hm, rfl⟩ := Option.ite_some_none_eq_some.mp hs; exact .sdFlag hm
    case sdClear => obtain ⟨hm, rfl⟩ := Option.ite_some_none_eq_some.mp hs; exact .sdClear hm
    case sdNotify => obtain ⟨hm, rfl⟩ := Option.ite_some_none_eq_some.mp hs; exact .sdNotify hm
    case sdJoin => obtain ⟨hg, rfl⟩ := Option.ite_some_none_eq_some.mp hs; exact .sdJoin hg.1 hg.2
    case wScan th =>
      step_split hs
      · rename_i hth _ hp; exact .scan hth hp
      · rename_i hth _ hp; exact .rescan hth hp
    case wake th => step_split hs; exact .wake ‹_›
    case taskEnd th => step_split hs; exact .taskEnd ‹_›
    case relock th =>
      simp only [step] at hs
      split at hs
      · cases hs; exact .relock ‹_›
      · cases hs
  · intro h
    -- a constructor carries the guards of its branch, so the tests in `step` evaluate
    cases h
    case submit hm hq hsg => simp [step, hm, hq]; exact hsg
    case spinExit hm hw hl => simp [step, hm]; exact ⟨hw, hl⟩
    all_goals simp [step, *]

theorem Step.isSome {s s' : State} {a : Action} (h : Step s a s') : (step s a).isSome = true := by
  rw [step_iff.mpr h]; rfl

end Mustache.Dispatcher
