import Mustache.Proofs.RowsPack
/-!
# `applyCommandPack` preserves the row/location invariant and the archetype keys
-/
namespace Mustache.Proofs.Rows
open Mustache.Model

/-- what a pack needs from the state it is applied to: a deferred creation brings a non-null handle
whose id owns no row (C01: reserved ids are not live) and a sorted mask; any other pack targets a
handle whose location (if any) is its own row (C01/C02 link) -/
def PackOK (w : WM) : List Cmd → Prop
  | [] => True
  | (.create e m _) :: _ => e.id ≠ nullId ∧ NotInRow w e.id ∧ MaskOk m
  | first :: _ => Located w first.entity

structure PackInv (w1 : WM) (e : Handle) (isCreate : Bool) (acc : WM × PackSt × List Cb) : Prop where
  ok : RowsOK acc.1
  keys : KeysSame w1 acc.1
  fin : MaskOk acc.2.1.final
  same : (isCreate = true ∨ acc.2.1.dead = false) → acc.1.archs = w1.archs ∧ acc.1.locs = w1.locs
  slen : isCreate = true → e.id < acc.1.slots.length

theorem release_slots_length (w : WM) (h : Handle) (hlt : h.id < w.slots.length) :
    (w.release h).slots.length = w.slots.length := by
  simp [WM.release, hlt]

theorem packStep_inv (info : CompId → CompInfo) (w1 : WM) (e : Handle) (isCreate : Bool)
    (acc : WM × PackSt × List Cb) (c : Cmd) (h : PackInv w1 e isCreate acc) :
    PackInv w1 e isCreate (packStep info e isCreate acc c) := by
  rcases acc with ⟨w, p, cbs⟩
  by_cases hdead : p.dead = true
  · rw [packStep_dead info e isCreate w p cbs c hdead]; exact h
  · have hd : p.dead = false := by simpa using hdead
    have hsame := h.same (Or.inr hd)
    unfold packStep
    simp only [hd, Bool.false_eq_true, if_false]
    cases c with
    | create _ _ _ => exact h
    | destroyNow _ =>
      cases isCreate with
      | true =>
        simp only [if_true]
        have hlt := h.slen rfl
        have hr := release_archs_locs w e hlt
        exact ⟨rowsOK_release h.ok e hlt, h.keys.trans (KeysSame.of_archs hr.1), h.fin,
          fun _ => ⟨hr.1.trans hsame.1, hr.2.1.trans hsame.2⟩,
          fun _ => by rw [release_slots_length w e hlt]; exact hlt⟩
      | false =>
        simp only [Bool.false_eq_true, if_false]
        exact ⟨rowsOK_destroyNowU info h.ok e, h.keys.trans (keysSame_destroyNowU info w e), h.fin,
          fun h1 => h1.elim nofun nofun, nofun⟩
    | destroy x =>
      exact ⟨rowsOK_congr (w := w) rfl rfl h.ok, h.keys.trans (KeysSame.of_archs rfl), h.fin,
        fun hh => h.same hh, h.slen⟩
    | remove _ c =>
      simp only
      split
      · split <;>
          exact ⟨h.ok, h.keys, maskOk_closedMask _ (maskOk_erase h.fin c), fun _ => hsame, h.slen⟩
      · exact h
    | assign _ c v =>
      simp only
      split
      · exact ⟨h.ok, h.keys, h.fin, fun _ => hsame, h.slen⟩
      · exact ⟨h.ok, h.keys, maskOk_closedMask _ (maskOk_insert h.fin c), fun _ => hsame, h.slen⟩

theorem packFold_inv (info : CompId → CompInfo) (w1 : WM) (e : Handle) (isCreate : Bool) (l : List Cmd)
    (acc : WM × PackSt × List Cb) (h : PackInv w1 e isCreate acc) :
    PackInv w1 e isCreate (l.foldl (packStep info e isCreate) acc) :=
  foldl_inv (PackInv w1 e isCreate) _ (fun a c ha => packStep_inv info w1 e isCreate a c ha) l acc h

theorem packSetVal_inv (ti idx : Nat) (w : WM) (c : CompId) (v : Val) :
    (RowsOK w → RowsOK (packSetVal ti idx w c v)) ∧ (KeysOK w → KeysOK (packSetVal ti idx w c v)) := by
  unfold packSetVal
  simp only
  split
  · exact ⟨id, id⟩
  · rename_i k _
    exact ⟨fun h => rowsOK_setCell h ti idx k v, fun h => (setCell_keysSame w ti idx k v).keysOK h⟩

theorem packFinish_inv (info : CompId → CompInfo) (e : Handle) (isCreate : Bool) (initial : Mask)
    (sh : Shared) (w : WM) (p : PackSt) (cbs : List Cb) (hok : RowsOK w) (hk : KeysOK w)
    (hfin : MaskOk p.final)
    (hcreate : isCreate = true → p.dead = false →
      e.id ≠ nullId ∧ e.id < w.locs.length ∧ NotInRow w e.id)
    (hloc : isCreate = false → p.dead = false → Located w e) :
    RowsOK (packFinish info e isCreate initial sh (w, p, cbs)).1 ∧
    KeysOK (packFinish info e isCreate initial sh (w, p, cbs)).1 := by
  cases hd : p.dead with
  | true => rw [packFinish_dead _ _ _ _ _ _ _ _ hd]; exact ⟨hok, hk⟩
  | false =>
    rw [packFinish_alive _ _ _ _ _ _ _ _ hd]
    -- the move
    have hmoved : RowsOK (packMoved info e isCreate initial sh w p).1 ∧
        KeysOK (packMoved info e isCreate initial sh w p).1 := by
      cases isCreate with
      | true =>
        rcases hcreate rfl hd with ⟨hn, hl, hnr⟩
        rcases getArch_insert info hok p.final sh e (Mask.ofList (p.src.map (·.1))) hfin hn hl hnr
          with ⟨vals, hm⟩
        exact ⟨hm.step.ok, hm.step.keys hk⟩
      | false =>
        rcases packTarget_cases e false initial sh w p with ⟨_, _, pi, hl, ht⟩ | hT
        · rw [packMoved_stay info e initial sh w p pi hl ht]; exact ⟨hok, hk⟩
        unfold packMoved
        simp only
        rw [hT]
        have hokg := rowsOK_getArch hok p.final sh
        have hkg := keysOK_getArch hk p.final sh hfin
        have hlt := getArch_idx_lt w p.final sh
        have hlocs := getArch_locs w p.final sh
        have hrows := getArch_rows w p.final sh
        generalize w.getArch p.final sh = g at hokg hkg hlt hlocs hrows ⊢
        have hlocEq : g.1.locOf e = w.locOf e := by unfold WM.locOf; rw [hlocs]
        simp only [Bool.false_eq_true, if_false, hlocEq]
        cases hla : (w.locOf e).arch with
        | none => exact ⟨hokg, hkg⟩
        | some pi =>
          simp only
          by_cases hguard : (decide (pi = g.2) || initial == p.final) = true
          · rw [if_pos hguard]; exact ⟨hokg, hkg⟩
          · rw [if_neg hguard]
            have hne : g.2 ≠ pi := fun heq => hguard (by simp [heq])
            rcases hloc rfl hd pi hla with ⟨prow, hr, he⟩
            rcases externalMove_moved info hokg g.2 e pi (w.locOf e).idx (Mask.ofList (p.src.map (·.1))) hne hlt
              ⟨prow, by rw [hrows]; exact hr, he⟩ with ⟨w', cbs', heq, hm⟩
            rw [heq]
            exact ⟨hm.step.ok, hm.step.keys hkg⟩
    have hloops := packLoops_rel (fun a b => (RowsOK a → RowsOK b) ∧ (KeysOK a → KeysOK b))
      (fun _ => ⟨id, id⟩) (fun _ _ _ h₁ h₂ => ⟨fun h => h₂.1 (h₁.1 h), fun h => h₂.2 (h₁.2 h)⟩)
      packSetVal_inv info e isCreate initial p (packTarget e isCreate initial sh w p).2
      (packMoved info e isCreate initial sh w p).1 (packMoved info e isCreate initial sh w p).2 cbs
    exact ⟨hloops.1 hmoved.1, hloops.2 hmoved.2⟩

theorem startCreate_facts (w : WM) (e : Handle) :
    (startCreate w e).archs = w.archs ∧
    (∀ id, id < w.locs.length → (startCreate w e).locs[id]? = w.locs[id]?) ∧
    e.id < (startCreate w e).locs.length ∧ e.id < (startCreate w e).slots.length := by
  refine ⟨rfl, ?_, ?_, ?_⟩
  · intro id hlt
    simp only [startCreate, WM.ensureId]
    exact List.getElem?_append_left hlt
  · simp only [startCreate, WM.ensureId, List.length_append, List.length_replicate]
    exact Nat.sub_le_iff_le_add'.mp (Nat.le_refl _)
  · simp only [startCreate, WM.ensureId, List.length_set, List.length_append, List.length_replicate]
    exact Nat.sub_le_iff_le_add'.mp (Nat.le_refl _)

theorem applyPack_inv (info : CompId → CompInfo) {w : WM} (hok : RowsOK w) (hk : KeysOK w)
    (pack : List Cmd) (hp : PackOK w pack) :
    RowsOK (w.applyPack info pack).1 ∧ KeysOK (w.applyPack info pack).1 := by
  cases pack with
  | nil => exact ⟨hok, hk⟩
  | cons first rest =>
    rw [applyPack_eq]
    cases hs : packStart w first with
    | none => exact ⟨hok, hk⟩
    | some r =>
      rcases r with ⟨w1, initial0, sh⟩
      simp only
      -- facts about the start state
      have hstart : RowsOK w1 ∧ KeysOK w1 ∧ MaskOk initial0 ∧
          (isCreateCmd first = true → first.entity.id ≠ nullId ∧ first.entity.id < w1.locs.length ∧
            NotInRow w1 first.entity.id ∧ first.entity.id < w1.slots.length) ∧
          (isCreateCmd first = false → Located w1 first.entity) := by
        cases hic : isCreateCmd first with
        | true =>
          cases first with
          | create e m sh' =>
            rw [packStart_create] at hs
            cases hs
            rcases hp with ⟨hn, hnr, hm⟩
            have hf := startCreate_facts w e
            refine ⟨⟨fun ai i r hr => hok.vals ai i r hr, fun ai i r hr => ?_⟩,
              (KeysSame.of_archs hf.1).keysOK hk, hm,
              fun _ => ⟨hn, hf.2.2.1, fun ai i r hr => hnr ai i r hr, hf.2.2.2⟩, nofun⟩
            rw [hf.2.1 r.ent.id (hok.id_lt hr)]
            exact hok.loc ai i r hr
          | _ => cases hic
        | false =>
          rcases packStart_other_some hic hs with ⟨_, ai, hla, heq⟩
          cases heq
          have hp' : Located w first.entity := by
            cases first with
            | create e m sh' => cases hic
            | _ => exact hp
          rcases hp' ai hla with ⟨prow, hr, _⟩
          exact ⟨hok, hk, hk.masks ai (lt_of_row hr), nofun, fun _ => hp'⟩
      rcases hstart with ⟨hok1, hk1, hm0, hcr, hlc⟩
      have hinv0 : PackInv w1 first.entity (isCreateCmd first)
          (w1, { final := packInit (isCreateCmd first) w1.deps initial0 }, []) :=
        ⟨hok1, KeysSame.refl w1, by unfold packInit; split; exact maskOk_closedMask _ hm0; exact hm0,
          fun _ => ⟨rfl, rfl⟩, fun hc => (hcr hc).2.2.2⟩
      have hinv := packFold_inv info w1 first.entity (isCreateCmd first)
        (if isCreateCmd first = true then rest else first :: rest) _ hinv0
      generalize (List.foldl (packStep info first.entity (isCreateCmd first))
        (w1, { final := packInit (isCreateCmd first) w1.deps initial0 }, [])
        (if isCreateCmd first = true then rest else first :: rest)) = st at hinv
      rcases st with ⟨w2, p, cbs⟩
      have harchs : (isCreateCmd first = true ∨ p.dead = false) → ∀ ai, w2.arch ai = w1.arch ai :=
        fun hh => arch_congr (hinv.same hh).1
      apply packFinish_inv info first.entity (isCreateCmd first) _ sh w2 p cbs hinv.ok
        (hinv.keys.keysOK hk1) hinv.fin
      · intro hc _
        rcases hcr hc with ⟨hn, hl, hnr, _⟩
        have hsm := hinv.same (Or.inl hc)
        refine ⟨hn, by rw [hsm.2]; exact hl, ?_⟩
        intro ai i r hr
        rw [harchs (Or.inl hc)] at hr
        exact hnr ai i r hr
      · intro hc hd
        have hsm := hinv.same (Or.inr hd)
        have hl := hlc hc
        intro pi hpi
        have hlocEq : w2.locOf first.entity = w1.locOf first.entity := by
          unfold WM.locOf; rw [hsm.2]
        rw [hlocEq] at hpi ⊢
        rcases hl pi hpi with ⟨prow, hr, he⟩
        exact ⟨prow, by rw [harchs (Or.inr hd)]; exact hr, he⟩

def applyPacks (info : CompId → CompInfo) (acc : WM × List Cb) (ps : List (List Cmd)) : WM × List Cb :=
  ps.foldl (fun (acc : WM × List Cb) p =>
    let (w', c) := acc.1.applyPack info p
    (w', acc.2 ++ c)) acc

theorem applyPacks_cons (info : CompId → CompInfo) (acc : WM × List Cb) (p : List Cmd) (ps : List (List Cmd)) :
    applyPacks info acc (p :: ps) =
      applyPacks info ((acc.1.applyPack info p).1, acc.2 ++ (acc.1.applyPack info p).2) ps := rfl

/-- `onUnlock` = ONE left fold of `applyPack` over `packs buffers[0] ++ packs buffers[1] ++ …`, started
from the state with all buffers emptied; finally the temporaries are dropped -/
theorem flush_eq (info : CompId → CompInfo) (w : WM) :
    w.flush info =
      (let r := applyPacks info ({ w with buffers := w.buffers.map (fun _ => []) }, [])
                  (w.buffers.map packs).flatten
       ({ r.1 with temps := [] }, r.2)) := by
  unfold WM.flush applyPacks
  simp only
  generalize ({ w with buffers := w.buffers.map (fun _ => []) }, ([] : List Cb)) = acc
  generalize w.buffers = bufs
  induction bufs generalizing acc with
  | nil => rfl
  | cons b bs ih =>
    simp only [List.foldl_cons, List.map_cons, List.flatten_cons, List.foldl_append]
    exact ih _

/-- `unlock`: the depth goes down by one (0 stays 0) and the flush runs when it has reached 0 -/
theorem unlock_eq (info : CompId → CompInfo) (w : WM) :
    w.unlock info =
      if w.lockDepth - 1 = 0 then
        (({ w with lockDepth := w.lockDepth - 1 }.flush info).1, true,
          ({ w with lockDepth := w.lockDepth - 1 }.flush info).2)
      else ({ w with lockDepth := w.lockDepth - 1 }, false, []) := by
  have hw : (if w.lockDepth > 0 then { w with lockDepth := w.lockDepth - 1 } else w) =
      { w with lockDepth := w.lockDepth - 1 } := by
    by_cases hd : w.lockDepth > 0
    · rw [if_pos hd]
    · have h0 : w.lockDepth = 0 := Nat.eq_zero_of_not_pos hd
      rw [if_neg hd]
      cases w
      simp only at h0
      subst h0
      rfl
  unfold WM.unlock
  rw [hw]

theorem applyPacks_ctl (info : CompId → CompInfo) (acc : WM × List Cb) (ps : List (List Cmd)) :
    SameCtl acc.1 (applyPacks info acc ps).1 := by
  induction ps generalizing acc with
  | nil => exact SameCtl.refl _
  | cons p ps ih =>
    rw [applyPacks_cons]
    exact (applyPack_ctl info acc.1 p).trans
      (ih ((acc.1.applyPack info p).1, acc.2 ++ (acc.1.applyPack info p).2))

/-- every pack meets its precondition in the state it is applied to -/
inductive PacksOK (info : CompId → CompInfo) : WM → List (List Cmd) → Prop
  | nil (w : WM) : PacksOK info w []
  | cons (w : WM) (p : List Cmd) (ps : List (List Cmd)) :
      PackOK w p → PacksOK info (w.applyPack info p).1 ps → PacksOK info w (p :: ps)

theorem applyPacks_inv (info : CompId → CompInfo) (acc : WM × List Cb) (ps : List (List Cmd))
    (hok : RowsOK acc.1) (hk : KeysOK acc.1) (hp : PacksOK info acc.1 ps) :
    RowsOK (applyPacks info acc ps).1 ∧ KeysOK (applyPacks info acc ps).1 := by
  induction ps generalizing acc with
  | nil => exact ⟨hok, hk⟩
  | cons p ps ih =>
    rw [applyPacks_cons]
    cases hp with
    | cons _ _ _ h1 h2 =>
      have := applyPack_inv info hok hk p h1
      exact ih _ this.1 this.2 h2

/-- the state the flush starts from -/
def detached (w : WM) : WM := { w with buffers := w.buffers.map (fun _ => []) }

theorem flush_inv (info : CompId → CompInfo) {w : WM} (hok : RowsOK w) (hk : KeysOK w)
    (hp : PacksOK info (detached w) (w.buffers.map packs).flatten) :
    RowsOK (w.flush info).1 ∧ KeysOK (w.flush info).1 := by
  rw [flush_eq]
  simp only
  have h0 : RowsOK (detached w) := @rowsOK_congr w _ rfl rfl hok
  have hk0 : KeysOK (detached w) := (KeysSame.of_archs (w := w) (w' := detached w) rfl).keysOK hk
  have := applyPacks_inv info (detached w, []) _ h0 hk0 hp
  refine ⟨rowsOK_congr ?_ ?_ this.1, (KeysSame.of_archs ?_).keysOK this.2⟩ <;> rfl

theorem flush_ctl (info : CompId → CompInfo) (w : WM) :
    (w.flush info).1.buffers = w.buffers.map (fun _ => []) ∧ (w.flush info).1.temps = [] ∧
    (w.flush info).1.lockDepth = w.lockDepth ∧ (w.flush info).1.deps = w.deps ∧
    (w.flush info).1.worldId = w.worldId := by
  rw [flush_eq]
  simp only
  have := applyPacks_ctl info (detached w, []) (w.buffers.map packs).flatten
  exact ⟨this.buffers, trivial, this.lockDepth, this.deps, this.worldId⟩

end Mustache.Proofs.Rows
