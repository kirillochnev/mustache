import Mustache.Proofs.RefineFlush
import Mustache.Proofs.LifeFlush
/-!
# Refinement: the outermost `unlock`

Both sides of the flush are written as one fold (`unlock_model_eq`, `unlock_spec_eq`), the model's over the packs of
all buffers on a ghost state with linear buffers; `flush_packs` does the rest, `finish_refines` the final reset of depth,
buffers and temporaries.
-/
namespace Mustache.Proofs.Refine
open Mustache.Model Mustache.Spec
open Mustache.Proofs.IdTable (tabOf Ghost TInv)
open Mustache.Proofs.Rows

variable (info : CompId → CompInfo)

theorem applyPacks_setCtl (d : Nat) (b : List (List Cmd)) (PL : List (List Cmd)) (W : WM) (cbs : List Cb) :
    applyPacks info (setCtl W d b W.marked, cbs) PL =
      (setCtl (applyPacks info (W, cbs) PL).1 d b (applyPacks info (W, cbs) PL).1.marked,
        (applyPacks info (W, cbs) PL).2) := by
  unfold applyPacks
  refine List.foldl_hom (fun r : WM × List Cb => (setCtl r.1 d b r.1.marked, r.2)) (init := (W, cbs)) ?_
  intro r P
  simp only [setCtl_applyPack]

theorem specFlush_eq (s : WS) :
    s.flush info = specFold info ({ s with buffers := s.buffers.map (fun _ => []) }, []) s.buffers.flatten := by
  unfold WS.flush specFold
  simp only
  rw [List.foldl_flatten]

theorem finish_refines {X : WM} {iss : List Handle} {T : WS} (hi : Inv ⟨X, iss⟩) (hr : Rel ⟨X, iss⟩ T)
    (hE : ∀ b ∈ X.buffers, b = []) (b2 : List (List Cmd)) (sb2 : List (List SCmd))
    (hb2 : ∀ b ∈ b2, b = []) (hsb2 : ∀ b ∈ sb2, b = []) (hlen : b2.length = sb2.length) (hle : b2.length ≤ X.nthreads) :
    Inv ⟨{ X with lockDepth := 0, buffers := b2, temps := [] }, iss⟩ ∧
    Rel ⟨{ X with lockDepth := 0, buffers := b2, temps := [] }, iss⟩ { T with lockDepth := 0, buffers := sb2 } := by
  rcases hi.tinv with ⟨g, tinv, hiss, hpend⟩
  have hch : createHandles X.buffers = [] := createHandles_of_empty hE
  have hch2 : createHandles b2 = [] := createHandles_of_empty hb2
  refine ⟨?_, ?_⟩
  · exact inv_ctl_set hi 0 X.nextEntityId b2 []
      ⟨g, tinv.set_lockDepth 0 (fun h => absurd h (Nat.lt_irrefl 0)), hiss, fun h => by rw [hpend h, hch, hch2]⟩
      (by rw [hch2]; exact List.nodup_nil) hle (fun h => absurd h (Nat.lt_irrefl 0))
      (fun _ => hb2) (fun x hx cmd hc => by rw [hb2 x hx] at hc; cases hc) (fun h _ => by rw [hch2]; simp)
  · exact
    { hr with
      lockDepth := rfl
      buffers := by
        show All2 (All2 (cmdRel iss X.pool)) b2 sb2
        apply All2.of_forall hlen
        intro i a b ha hb
        rw [hb2 a (List.mem_of_getElem? ha), hsb2 b (List.mem_of_getElem? hb)]
        exact .nil
      markedOld := fun o _ h _ => by
        show h ∉ createHandles b2
        rw [hch2]; simp }

theorem packs_all_flatten (bufs : List (List Cmd)) : (bufs.map packs).flatten.flatten = bufs.flatten := by
  induction bufs with
  | nil => rfl
  | cons b t ih =>
    simp only [List.map_cons, List.flatten_cons, List.flatten_append, Mustache.Proofs.Life.packs_flatten, ih]

theorem unlock_model_eq (w : WM) (hd : w.lockDepth ≤ 1) :
    w.unlock info =
      ({ setCtl (applyPacks info (w, []) (w.buffers.map packs).flatten).1 0 (w.buffers.map (fun _ => []))
            (applyPacks info (w, []) (w.buffers.map packs).flatten).1.marked with temps := [] },
        true, (applyPacks info (w, []) (w.buffers.map packs).flatten).2) := by
  have hwU : (if w.lockDepth > 0 then { w with lockDepth := w.lockDepth - 1 } else w) = { w with lockDepth := 0 } := by
    rcases Nat.eq_zero_or_pos w.lockDepth with h0 | h0
    · have : ¬ w.lockDepth > 0 := by omega
      rw [if_neg this]
      cases w; simp only at h0; subst h0; rfl
    · rw [if_pos h0]
      have : w.lockDepth - 1 = 0 := by omega
      rw [this]
  unfold WM.unlock
  simp only [hwU, if_true]
  rw [flush_eq]
  simp only
  have h0 : ({ ({ w with lockDepth := 0 } : WM) with buffers := ({ w with lockDepth := 0 } : WM).buffers.map (fun _ => []) } : WM) =
      setCtl w 0 (w.buffers.map (fun _ => [])) w.marked := rfl
  rw [h0, applyPacks_setCtl]

theorem unlock_spec_eq (s : WS) (hd : s.lockDepth ≤ 1) :
    s.unlock info =
      ({ (specFold info (s, []) s.buffers.flatten).1 with lockDepth := 0, buffers := s.buffers.map (fun _ => []) },
        true, (specFold info (s, []) s.buffers.flatten).2) := by
  have hsU : (if s.lockDepth > 0 then { s with lockDepth := s.lockDepth - 1 } else s) = { s with lockDepth := 0 } := by
    rcases Nat.eq_zero_or_pos s.lockDepth with h0 | h0
    · have : ¬ s.lockDepth > 0 := by omega
      rw [if_neg this]
      cases s; simp only at h0; subst h0; rfl
    · rw [if_pos h0]
      have : s.lockDepth - 1 = 0 := by omega
      rw [this]
  unfold WS.unlock
  simp only [hsU, if_true]
  rw [specFlush_eq]
  exact congrArg (fun r : WS × List SCb => (r.1, true, r.2)) (specFold_ctl info 0 _ s.buffers.flatten s [])

/-- the outermost `unlock`: the whole flush refines the command-by-command spec (callbacks: net agreement) -/
theorem unlock_outer_refines {c : CW} {s : WS} (hi : Inv c) (hr : Rel c s) (hd : c.w.lockDepth ≤ 1)
    (hb' : Bounds (c.step info .unlock).1) : StepRefines info c s .unlock := by
  obtain ⟨w, iss⟩ := c
  have hd' : w.lockDepth ≤ 1 := hd
  have hsd : s.lockDepth ≤ 1 := by rw [hr.lockDepth]; exact hd'
  have hstep : (CW.step info ⟨w, iss⟩ .unlock) =
      (⟨{ setCtl (applyPacks info (w, []) (w.buffers.map packs).flatten).1 0 (w.buffers.map (fun _ => []))
            (applyPacks info (w, []) (w.buffers.map packs).flatten).1.marked with temps := [] }, iss⟩,
        .ret true, (applyPacks info (w, []) (w.buffers.map packs).flatten).2) := by
    simp only [CW.step, WM.step, unlock_model_eq info w hd', issueOut]
  have hs : s.step info (Op.mapRef (ordOf iss) (.unlock : Op Handle)) =
      ({ (specFold info (s, []) s.buffers.flatten).1 with lockDepth := 0, buffers := s.buffers.map (fun _ => []) },
        .ret true, (specFold info (s, []) s.buffers.flatten).2) := by
    simp only [Op.mapRef, WS.step, unlock_spec_eq info s hsd]
  have hblen : w.buffers.length = s.buffers.length := hr.buffers.length
  unfold StepRefines
  rw [hstep] at hb' ⊢
  rw [hs]
  by_cases hnil : w.buffers = []
  · -- nothing buffered at all
    have hsnil : s.buffers = [] := by
      rw [hnil] at hblen
      exact List.eq_nil_of_length_eq_zero hblen.symm
    rw [hnil, hsnil]
    have hf := finish_refines (X := w) (T := s) hi hr (by rw [hnil]; intro b hb; cases hb) [] [] (by intro b hb; cases hb)
      (by intro b hb; cases hb) rfl (Nat.zero_le _)
    exact ⟨hf.1, hf.2, rfl, by simp only [isUnlockOp, if_true]; exact cbsAgreeNet_nil iss⟩
  · have hn : 0 < w.buffers.length := List.length_pos_iff.mpr hnil
    generalize hPL : (w.buffers.map packs).flatten = PL at *
    have hflat : PL.flatten = w.buffers.flatten := by rw [← hPL]; exact packs_all_flatten w.buffers
    have hPLs : ∀ P ∈ PL, IsPack P := by
      intro P hP
      rw [← hPL] at hP
      rcases List.mem_flatten.mp hP with ⟨l, hl, hPl⟩
      rcases List.mem_map.mp hl with ⟨buf, _, rfl⟩
      exact packs_shape buf P hPl
    have hchl : createHandles (lin w.buffers.length w.buffers.flatten) = createHandles w.buffers := by
      rw [createHandles_lin]; rfl
    have hiG : Inv ⟨setCtl w w.lockDepth (lin w.buffers.length w.buffers.flatten) w.marked, iss⟩ :=
      inv_pop hi _ (hchl ▸ List.Perm.refl _) (lin_length _ _ hn)
        (fun x hx cmd hc => List.mem_flatten.mp (mem_lin hx hc))
        (fun h0 x hx => (mem_lin_cases hx).elim
          (fun h => h.trans (List.flatten_eq_nil_iff.mpr (hi.bufEmpty h0))) id)
    have hrG : Rel ⟨setCtl w w.lockDepth (lin w.buffers.length w.buffers.flatten) w.marked, iss⟩
        { s with buffers := lin w.buffers.length s.buffers.flatten } :=
      rel_pop hr _ _ (all2_lin hr.buffers.flatten) (fun h hh => by rw [hchl] at hh; exact hh)
    rw [← hflat] at hiG hrG
    have hfp := flush_packs info iss w.buffers.length w.lockDepth PL w
      { s with buffers := lin w.buffers.length s.buffers.flatten } s.buffers.flatten [] [] hPLs hiG hrG rfl
      hb'.inRange hb'.noWrap (cbsAgreeNet_nil iss)
    rw [specFold_buffers] at hfp
    obtain ⟨hiX, hrX, hcb⟩ := hfp
    have hf := finish_refines hiX hrX
      (by
        intro b hb
        rcases mem_lin_cases hb with h | h <;> exact h)
      (w.buffers.map (fun _ => [])) (s.buffers.map (fun _ => []))
      (fun _ h => List.eq_of_mem_replicate (List.map_const' ▸ h))
      (fun _ h => List.eq_of_mem_replicate (List.map_const' ▸ h)) (by simp [hblen])
      (by rw [List.length_map]; exact Nat.le_trans (Nat.le_of_eq (lin_length _ _ hn).symm) hiX.bufLe)
    exact ⟨hf.1, hf.2, rfl, by simp only [isUnlockOp, if_true]; exact hcb⟩

end Mustache.Proofs.Refine
