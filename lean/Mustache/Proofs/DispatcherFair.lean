import Mustache.Proofs.DispatcherMeasure
import Mustache.Model.DispatcherAccess

/-! `wait` returns on every infinite run that keeps taking progress actions and has finitely many spurious wake-ups
(`progressMeasure` cannot decrease for ever); a weakly fair run keeps taking progress actions, because an enabled
progress action stays enabled until one is taken. -/
namespace Mustache.Dispatcher

/-- the external thread is inside `wait(q)` -/
def InWait (q : Nat) (s : State) : Prop := s.mode = .waitLoop q ∨ s.mode = .spin q

theorem inWait_blocked {q : Nat} {s : State} (h : InWait q s) : s.mode.isBlocked = true := by
  rcases h with h | h <;> rw [h] <;> rfl

theorem inWait_step {q : Nat} {s s' : State} {a : Action} (h : InWait q s) (hs : step s a = some s') :
    InWait q s' ∨ s'.mode = .api := by
  cases step_iff.mp hs
  case scan | rescan => rw [scanBody_frame]; exact Or.inl h
  case spinExit => exact Or.inr rfl
  case waitEmpty hm _ _ =>
    rcases h with h | h <;> rw [hm] at h <;> cases h
    exact Or.inl (Or.inr rfl)
  case relock th _ _ =>
    -- the inline job of `addJob` is not running during `wait`
    have hc : ¬(th = 0 ∧ s.mode = .inline) := fun hc => by rcases h with h | h <;> rw [hc.2] at h <;> cases h
    show InWait q { s with mode := if th = 0 ∧ s.mode = .inline then .api else s.mode } ∨ _
    rw [if_neg hc]
    exact Or.inl h
  case waitPop | waitBlocked | spinRetry | wake | taskEnd => exact Or.inl h
  case createQueue _ hm | setSingle _ hm | submit hm _ _ | submitInline hm _ | waitBegin hm _ | sdFlag hm | sdClear hm |
      sdNotify hm | sdJoin hm _ =>
    rcases h with h | h <;> rw [hm] at h <;> cases h

structure InfRun (n : Nat) where
  st : Nat → State
  act : Nat → Action
  start : Reachable n (st 0)
  steps : ∀ i, step (st i) (act i) = some (st (i + 1))

theorem InfRun.reach {n : Nat} (r : InfRun n) : ∀ i, Reachable n (r.st i) := by
  intro i
  induction i with
  | zero => exact r.start
  | succ i ih => exact Reachable.step (r.act i) ih (r.steps i)

/-- A1: the schedule keeps taking actions other than busy-wait iterations / spurious wake-ups
(justified by `no_deadlock` under a weakly fair scheduler) -/
def KeepsProgressing {n : Nat} (r : InfRun n) : Prop := ∀ i, ∃ j, i ≤ j ∧ (r.act j).isSpin = false

/-- A2: from some point on there are no spurious wake-ups -/
def FinitelyManyWakes {n : Nat} (r : InfRun n) : Prop := ∃ i0, ∀ j, i0 ≤ j → ∀ th, r.act j ≠ .wake th

theorem le_of_step_le {μ : Nat → Nat} {i0 j : Nat} (hle : ∀ i, i0 ≤ i → μ (i + 1) ≤ μ i) (hij : i0 ≤ j) :
    μ j ≤ μ i0 := by
  induction hij with
  | refl => exact Nat.le_refl _
  | step hk ih => exact Nat.le_trans (hle _ hk) ih

/-- a sequence of naturals that never increases from `i0` on cannot decrease infinitely often -/
theorem not_decreasing_forever (μ : Nat → Nat) (hlt : ∀ i, ∃ j, i ≤ j ∧ μ (j + 1) < μ j) :
    ∀ (m i0 : Nat), μ i0 < m → (∀ i, i0 ≤ i → μ (i + 1) ≤ μ i) → False := by
  intro m
  induction m with
  | zero => exact fun i0 hm _ => Nat.not_lt_zero _ hm
  | succ m ih =>
    intro i0 hm hle
    obtain ⟨j, hij, hj⟩ := hlt i0
    exact ih (j + 1) (Nat.lt_of_lt_of_le hj (Nat.le_of_lt_succ (Nat.lt_of_le_of_lt (le_of_step_le hle hij) hm)))
      fun i hi => hle i (Nat.le_trans (Nat.le_succ_of_le hij) hi)

/-- `wait` returns on a run with finitely many spurious wake-ups that keeps taking progress actions for as long
as it stays inside `wait` -/
theorem wait_returns_of_progress {n : Nat} (r : InfRun n) {q : Nat} (h0 : InWait q (r.st 0))
    (hA1 : (∀ i, InWait q (r.st i)) → KeepsProgressing r) (hA2 : FinitelyManyWakes r) :
    ∃ i, (r.st i).mode = .api := by
  apply Classical.byContradiction
  intro hno
  have hin : ∀ i, InWait q (r.st i) := by
    intro i
    induction i with
    | zero => exact h0
    | succ i ih => exact (inWait_step ih (r.steps i)).resolve_right fun h => hno ⟨i + 1, h⟩
  obtain ⟨i0, hw⟩ := hA2
  -- without wake-ups the measure never goes up, and it goes down at every progress action
  have hlt : ∀ i, (r.act i).isSpin = false → progressMeasure (r.st (i + 1)) < progressMeasure (r.st i) := fun i hsp =>
    bounded_progress_inv (reachable_inv (r.reach i)) (inWait_blocked (hin i)) hsp (r.steps i)
  have hle : ∀ i, i0 ≤ i → progressMeasure (r.st (i + 1)) ≤ progressMeasure (r.st i) := by
    intro i hi
    cases hsp : (r.act i).isSpin
    · exact Nat.le_of_lt (hlt i hsp)
    · exact Nat.le_of_eq (measure_eq_of_spin (r.steps i) hsp (hw i hi))
  refine not_decreasing_forever (fun i => progressMeasure (r.st i)) (fun i => ?_) _ i0 (Nat.lt_succ_self _) hle
  obtain ⟨j, hij, hj⟩ := hA1 hin i
  exact ⟨j, hij, hlt j hj⟩

theorem persists_wake {s : State} {th : Nat} (hsl : s.pcs[th]? = some Pc.sleeping) (a : Action)
    (ha : a.isSpin = false) (he : (step s a).isSome = true) :
    (step { s with pcs := s.pcs.set th Pc.woken } a).isSome = true := by
  -- no guard reads a `sleeping` entry
  have keep : ∀ {o : Nat} {p : Pc}, s.pcs[o]? = some p → p ≠ Pc.sleeping → (s.pcs.set th Pc.woken)[o]? = some p :=
    fun ho hp => getElem?_set_of_ne_old _ hsl ho hp
  obtain ⟨s', hs'⟩ := Option.isSome_iff_exists.mp he
  cases step_iff.mp hs'
  case waitBlocked | spinRetry | wake => cases ha
  case createQueue p hm => exact Step.isSome (.createQueue p hm)
  case setSingle b hm => exact Step.isSome (.setSingle b hm)
  case submit hm hq hsg => exact Step.isSome (.submit hm hq hsg)
  case submitInline hm hsg => exact Step.isSome (.submitInline hm hsg)
  case waitBegin hm hq => exact Step.isSome (.waitBegin hm hq)
  case waitPop hm h0 ht hl hj => exact Step.isSome (.waitPop hm (keep h0 nofun) ht hl hj)
  case waitEmpty hm h0 he' => exact Step.isSome (.waitEmpty hm (keep h0 nofun) he')
  case spinExit hm hw hl => exact Step.isSome (.spinExit hm hw hl)
  case sdFlag hm => exact Step.isSome (.sdFlag hm)
  case sdClear hm => exact Step.isSome (.sdClear hm)
  case sdNotify hm => exact Step.isSome (.sdNotify hm)
  case sdJoin hm hall =>
    refine Step.isSome (.sdJoin hm ((allExited_iff _).mpr fun o p ho hp => ?_))
    rcases getElem?_set_cases hp with ⟨rfl, _⟩ | ⟨_, hp⟩
    · exact nomatch (allExited_iff s).mp hall o _ ho hsl
    · exact (allExited_iff s).mp hall o p ho hp
  case scan hth hp => exact Step.isSome (.scan hth (keep hp nofun))
  case rescan hth hp => exact Step.isSome (.rescan hth (keep hp nofun))
  case taskEnd hp => exact Step.isSome (.taskEnd (keep hp nofun))
  case relock hp => exact Step.isSome (.relock (keep hp nofun))

theorem progress_persists {s s' : State} {a b : Action} (hb : b.isSpin = true) (hs : step s b = some s')
    (ha : a.isSpin = false) (he : (step s a).isSome = true) : (step s' a).isSome = true := by
  cases step_iff.mp hs
  case waitBlocked | spinRetry => exact he
  case wake hsl => exact persists_wake hsl a ha he
  all_goals cases hb

/-- Weak fairness of the scheduler: a thread that from some point on always has an enabled action which is
neither a busy-wait iteration nor a new API call eventually takes an action that is not a busy-wait iteration. -/
def WeaklyFair {n : Nat} (r : InfRun n) : Prop :=
  ∀ th i, (∀ j, i ≤ j → ∃ a : Action, a.thread = th ∧ a.isSpin = false ∧ a.isCall = false ∧ (step (r.st j) a).isSome = true) →
    ∃ j, i ≤ j ∧ (r.act j).thread = th ∧ (r.act j).isSpin = false

/-- fairness lift: inside `wait`, a weakly fair schedule keeps taking progress actions, because the action
`no_deadlock` provides stays enabled until a progress action is taken -/
theorem keeps_progressing_of_weakly_fair {n : Nat} (r : InfRun n) {q : Nat} (hin : ∀ i, InWait q (r.st i))
    (hf : WeaklyFair r) : KeepsProgressing r := by
  intro i
  apply Classical.byContradiction
  intro hno
  have hspin : ∀ j, i ≤ j → (r.act j).isSpin = true := by
    intro j hj
    cases h : (r.act j).isSpin
    · exact absurd ⟨j, hj, h⟩ hno
    · rfl
  have hmode : (r.st i).mode ≠ .destroyed := by
    rcases hin i with h | h <;> rw [h] <;> simp
  rcases no_deadlock_inv (reachable_inv (r.reach i)) hmode with hapi | ⟨a0, ha1, ha2, ha3⟩
  · rcases hin i with h | h <;> rw [h] at hapi <;> cases hapi
  · have hpers : ∀ d, (step (r.st (i + d)) a0).isSome = true := by
      intro d
      induction d with
      | zero => exact ha3
      | succ d ih => exact progress_persists (hspin (i + d) (Nat.le_add_right i d)) (r.steps (i + d)) ha1 ih
    obtain ⟨j, hj, _, hns⟩ := hf a0.thread i (fun j hj => ⟨a0, rfl, ha1, ha2, by
      have := hpers (j - i)
      rwa [Nat.add_sub_cancel' hj] at this⟩)
    rw [hspin j hj] at hns
    cases hns

/-- what makes `WeaklyFair` checkable on a run without workers (`demoRun` in Props/C08) -/
theorem no_progress_without_workers (s : State) (hp : s.pcs = [Pc.idle]) (hm : s.mode = .api) (a : Action)
    (h1 : a.isSpin = false) (h2 : a.isCall = false) : step s a = none := by
  have pcs_eq : ∀ {th : Nat} {p : Pc}, s.pcs[th]? = some p → p = Pc.idle ∧ th = 0 := fun {th} {p} h => by
    rw [hp] at h
    cases th with
    | zero => cases h; exact ⟨rfl, rfl⟩
    | succ k => cases h
  cases hst : step s a with
  | none => rfl
  | some s' =>
    exfalso
    cases step_iff.mp hst
    case waitBlocked | spinRetry | wake => cases h1
    case createQueue | setSingle | submit | submitInline | waitBegin | sdFlag => cases h2
    case waitPop hm' _ _ _ _ | waitEmpty hm' _ _ | spinExit hm' _ _ | sdClear hm' | sdNotify hm' | sdJoin hm' _ =>
      exact nomatch hm.symm.trans hm'
    case scan hth hpc | rescan hth hpc => exact hth (pcs_eq hpc).2
    case taskEnd hpc | relock hpc => exact nomatch (pcs_eq hpc).1

end Mustache.Dispatcher
