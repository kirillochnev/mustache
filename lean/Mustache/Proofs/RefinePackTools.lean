import Mustache.Proofs.RefinePackBody
import Mustache.Proofs.RefinePackAgree
/-!
# Refinement, the flush: what the refinement of one pack is assembled from

The statement for one pack (`PackRefines`, `PackRefinesPop`), the spec commands a pack is related to, and the last step
every pack shares: the `destroy` commands of the pack only mark the entity, on both sides (`pack_marked`).
-/
namespace Mustache.Proofs.Refine
open Mustache.Model Mustache.Spec
open Mustache.Proofs.IdTable (tabOf Ghost TInv)
open Mustache.Proofs.Rows

variable (info : CompId → CompInfo)

def PackRefines (w : WM) (iss : List Handle) (s : WS) (pack : List Cmd) (sp : List SCmd) : Prop :=
  Inv ⟨(w.applyPack info pack).1, iss⟩ ∧
  Rel ⟨(w.applyPack info pack).1, iss⟩ (specFold info (s, []) sp).1 ∧
  cbsAgreeNet iss (w.applyPack info pack).2 (specFold info (s, []) sp).2

/-- the conclusion of the refinement of one pack, its commands leaving the (ghost) buffers -/
def PackRefinesPop (w : WM) (iss : List Handle) (s : WS) (pack : List Cmd) (sp : List SCmd) (b' : List (List Cmd))
    (sb' : List (List SCmd)) : Prop :=
  Inv ⟨setCtl (w.applyPack info pack).1 w.lockDepth b' (w.applyPack info pack).1.marked, iss⟩ ∧
  Rel ⟨setCtl (w.applyPack info pack).1 w.lockDepth b' (w.applyPack info pack).1.marked, iss⟩
    { (specFold info (s, []) sp).1 with buffers := sb' } ∧
  cbsAgreeNet iss (w.applyPack info pack).2 (specFold info (s, []) sp).2

def specCmdRef (o : Option Nat) : Cmd → SCmd
  | .create _ m _ => .create 0 m []
  | .destroyNow _ => .destroyNow o
  | .destroy _ => .destroy o
  | .remove _ c => .remove o c
  | .assign _ c v => .assign o c v

theorem cmdRel_noncreate {iss : List Handle} {pool : Pool} {cmd : Cmd} {sc : SCmd} (hnc : crH cmd = none)
    (h : cmdRel iss pool cmd sc) : sc = specCmdRef (ordOf iss cmd.entity) cmd := by
  cases cmd with
  | create e m sh => cases hnc
  | destroyNow e => cases sc <;> simp only [cmdRel, specCmdRef, Cmd.entity] at h ⊢ <;> first | (rw [h]) | (exact h.elim)
  | destroy e => cases sc <;> simp only [cmdRel, specCmdRef, Cmd.entity] at h ⊢ <;> first | (rw [h]) | (exact h.elim)
  | remove e c => cases sc <;> simp only [cmdRel, specCmdRef, Cmd.entity] at h ⊢ <;> first | (rw [h.1, h.2]) | (exact h.elim)
  | assign e c v =>
    cases sc <;> simp only [cmdRel, specCmdRef, Cmd.entity] at h ⊢ <;> first | (rw [h.1, h.2.1, h.2.2]) | (exact h.elim)

theorem specCmdRef_some (k : Nat) (cmd : Cmd) (hnc : crH cmd = none) : specCmdRef (some k) cmd = specCmd k cmd := by
  cases cmd <;> first | rfl | cases hnc

theorem valid_not_pending {c : CW} (hi : Inv c) (hb : Bounds c) {e : Handle} (hv : c.w.isValid e = true) :
    e ∉ createHandles c.w.buffers := by
  rcases hi.tinv with ⟨g, tinv, _, hpend⟩
  intro hc
  exact tinv.pend_not_live e ((hpend e).mpr hc) ((valid_iff_ghost tinv (Nat.le_of_lt hb.inRange) e).mp hv)

/-- no row of the current state carries the id of a reserved handle -/
theorem pending_notInRow {c : CW} (hi : Inv c) (hb : Bounds c) {e : Handle} (hpe : e ∈ createHandles c.w.buffers) :
    NotInRow c.w e.id := by
  intro ai i r hr hid
  rcases hi.tinv with ⟨g, tinv, hiss, hpend⟩
  have hv := hi.live.row_live ai i r hr
  have hl := (valid_iff_ghost tinv (Nat.le_of_lt hb.inRange) r.ent).mp hv
  have := tinv.pend_unique e ((hpend e).mpr hpe) r.ent (tinv.live_issued _ hl) hid
  rw [this] at hv
  exact valid_not_pending hi hb hv hpe

theorem pending_facts {c : CW} (hi : Inv c) {e : Handle} (hpe : e ∈ createHandles c.w.buffers) :
    e.world = c.w.worldId ∧ e ∈ c.issued := by
  rcases hi.tinv with ⟨g, tinv, hiss, hpend⟩
  have h1 := tinv.pend_issued e ((hpend e).mpr hpe)
  refine ⟨tinv.world e h1, ?_⟩
  rw [hiss] at h1
  exact List.mem_reverse.mp h1

/-! ## `Rel` through equal observations of the spec state -/

/-- `Rel` only reads the spec state through its observable fields -/
theorem rel_of_frame {c : CW} {A B : WS} (hr : Rel c A) (hlen : B.ents.length = A.ents.length)
    (hal : ∀ o, B.alive o = A.alive o) (hdeps : B.deps = A.deps) (hld : B.lockDepth = A.lockDepth)
    (hnt : B.nthreads = A.nthreads) (hbuf : B.buffers = A.buffers) (hmk : B.marked = A.marked) : Rel c B :=
  { len := hlen.trans hr.len
    ents := fun o h ho => by rw [hal o]; exact hr.ents o h ho
    deps := hdeps.trans hr.deps
    lockDepth := hld.trans hr.lockDepth
    nthreads := hnt.trans hr.nthreads
    buffers := by rw [hbuf]; exact hr.buffers
    marked := fun o => by rw [hmk, hal o]; exact hr.marked o
    markedLt := fun o ho => by rw [hlen]; rw [hmk] at ho; exact hr.markedLt o ho
    markedNodup := by rw [hmk]; exact hr.markedNodup
    markedOld := fun o ho => by rw [hmk] at ho; exact hr.markedOld o ho }

theorem rel_same_buffers {c : CW} {T : WS} {sb : List (List SCmd)} (h : Rel c { T with buffers := sb })
    (hb : T.buffers = sb) : Rel c T := by
  subst hb; exact h

/-- the last step of every pack. `X` is the state the pack reaches apart from the marks, related to the spec state `s`
with the new record `x` of ordinal `k`; the spec's replay `S'` differs from `s` at `k` only and has `k` marked iff some
`destroy` of the pack met the entity alive (`mk`). Then the marked state is related to `S'`. -/
theorem pack_marked {X : WM} {iss : List Handle} {s S' : WS} {k : Nat} {x : Option SEnt} {e : Handle} (mk : Bool)
    (sb' : List (List SCmd)) (hi : Inv ⟨X, iss⟩) (hr : Rel ⟨X, iss⟩ { s.setEnt k x with buffers := sb' })
    (hk : iss[k]? = some e) (hrg : HRange X.worldId e) (hnp : e ∉ createHandles X.buffers)
    (hfr : FrameK s S' k) (hal : S'.alive k = x) (hm : S'.marked = if mk then insertNat s.marked k else s.marked) :
    Inv ⟨{ X with marked := if mk then insertSorted X.marked e else X.marked }, iss⟩ ∧
    Rel ⟨{ X with marked := if mk then insertSorted X.marked e else X.marked }, iss⟩ { S' with buffers := sb' } := by
  have hklt : k < s.ents.length := by
    have := hr.len
    rw [show ({ s.setEnt k x with buffers := sb' } : WS).ents.length = s.ents.length from List.length_set ..] at this
    rw [this]; exact (List.getElem?_eq_some_iff.mp hk).1
  have hlen : S'.ents.length = (s.setEnt k x).ents.length := hfr.len.trans (List.length_set ..).symm
  have halive : ∀ o, S'.alive o = (s.setEnt k x).alive o := by
    intro o
    rw [setEnt_alive]
    by_cases ho : o = k
    · subst ho; rw [if_pos ⟨rfl, hklt⟩]; exact hal
    · rw [if_neg (fun h => ho h.1)]; exact hfr.others o ho
  cases mk with
  | false => exact ⟨hi, rel_of_frame hr hlen halive hfr.deps hfr.lockDepth hfr.nthreads rfl hm⟩
  | true =>
    exact ⟨mark_inv hi (Or.inl (List.mem_of_getElem? hk)) hrg hnp,
      rel_of_frame (mark_rel hi hr hk hrg hnp) hlen halive hfr.deps hfr.lockDepth hfr.nthreads rfl hm⟩

theorem inv_pop {X : WM} {iss : List Handle} (hi : Inv ⟨X, iss⟩) (b' : List (List Cmd))
    (hperm : (createHandles b').Perm (createHandles X.buffers)) (hblen : b'.length = X.buffers.length)
    (hbsub : ∀ x ∈ b', ∀ cmd ∈ x, ∃ y ∈ X.buffers, cmd ∈ y) (hemp : X.lockDepth = 0 → ∀ x ∈ b', x = []) :
    Inv ⟨setCtl X X.lockDepth b' X.marked, iss⟩ := by
  rcases hi.tinv with ⟨g, tinv, hiss, hpend⟩
  exact inv_ctl_set hi X.lockDepth X.nextEntityId b' X.temps
    ⟨g, tinv, hiss, fun h => (hpend h).trans hperm.mem_iff.symm⟩ (hperm.nodup_iff.mpr hi.pendNodup)
    (by rw [hblen]; exact hi.bufLe) (fun h => by rw [hblen]; exact hi.bufLen h) hemp
    (fun x hx cmd hc => by
      rcases hbsub x hx cmd hc with ⟨y, hy, hcy⟩
      exact hi.bufKnown y hy cmd hcy)
    (fun h hm hc => (hi.markedKnown h hm).2 (hperm.mem_iff.mp hc))

theorem rel_pop {X : WM} {iss : List Handle} {T : WS} (hr : Rel ⟨X, iss⟩ T) (b' : List (List Cmd)) (sb' : List (List SCmd))
    (hbrel : All2 (All2 (cmdRel iss X.pool)) b' sb')
    (hsub : ∀ h ∈ createHandles b', h ∈ createHandles X.buffers) :
    Rel ⟨setCtl X X.lockDepth b' X.marked, iss⟩ { T with buffers := sb' } :=
  { hr with buffers := hbrel, markedOld := fun o ho h hh hc => hr.markedOld o ho h hh (hsub h hc) }

end Mustache.Proofs.Refine
