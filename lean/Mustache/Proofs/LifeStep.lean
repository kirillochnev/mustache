import Mustache.Proofs.LifeFlush
import Mustache.Proofs.LifeLocked
/-!
# One API call (`WM.step`) (C03)

`OpOk info w op`: what the call needs from the state it is issued on (the contract of DESIGN.md 3.3 in terms of the
model state); `step_callOk`: the counter of parked temporaries keeps agreeing with the buffers, and on a state with
sorted masks the events `WM.events` lists for the call lead from `slotsOf w` to the slot set of the model's next state.
-/
namespace Mustache.Proofs.Life
open Mustache.Model Mustache.Proofs.Rows

variable (info : CompId → CompInfo)

/-- the state `unlock` flushes (lock counter already decremented) -/
def unlockPre (w : WM) : WM := if w.lockDepth > 0 then { w with lockDepth := w.lockDepth - 1 } else w

def OpOk (info : CompId → CompInfo) (w : WM) : Op Handle → Prop
  | .create _ mask _ => MaskOk mask
  | .assign t e c v =>
    (w.isLocked = true → t < w.buffers.length) ∧
    (w.isLocked = false → LocIn w e ∧
      ∀ pi, (w.locOf e).arch = some pi → v.isSome = true → c ∉ (w.arch pi).mask)
  | .remove _ e _ => w.isLocked = false → w.isValid e = true → LocIn w e
  | .buildNew t adds =>
    (w.isLocked = true → t < w.buffers.length) ∧ (w.isLocked = false → (adds.map (·.1)).Nodup)
  | .build t e adds _ =>
    (w.isLocked = true → t < w.buffers.length) ∧
    (w.isLocked = false → LocIn w e ∧ (adds.map (·.1)).Nodup ∧
      ∀ pi, (w.locOf e).arch = some pi → ∀ c ∈ adds.map (·.1), c ∉ (w.arch pi).mask)
  | .clone e => w.isValid e = true → LocIn w e
  | .sassign e _ _ => LocIn w e
  | .sremove e _ => w.isValid e = true → LocIn w e
  | .unlock => (unlockPre w).lockDepth = 0 →
      PacksLifeOK info (detached (unlockPre w)) ((unlockPre w).buffers.map packs).flatten
  | _ => True

theorem quiet_unlockPre (w : WM) : Quiet w (unlockPre w) := by
  unfold unlockPre
  split
  · exact ⟨.of_archs rfl, rfl, rfl⟩
  · exact .refl w

/-- `create`: the default-valued shared instances come from the pool, which leaves archetypes, buffers and counter
alone; then `create(mask, shared)` on the resulting state `wp` -/
theorem step_create_eq (w : WM) (t : Nat) (mask : Mask) (shared : List Nat) :
    ∃ wp shp, Quiet w wp ∧ (w.step info (.create t mask shared)).1 = (wp.create info t mask shp).1 ∧
      w.events info (.create t mask shared) =
        if wp.isLocked then [] else (wp.getArch mask shp).1.archInsertEvents (wp.getArch mask shp).2 [] := by
  have hp := foldl_inv (fun (acc : WM × Shared) => Quiet w acc.1)
    (fun (acc : WM × Shared) sid =>
      let (w', inst) := acc.1.poolGet sid 0
      (w', acc.2.add sid inst))
    (fun a b h => h.trans (quiet_poolGet _ _ _)) shared (w, Shared.null) (.refl w)
  unfold WM.step WM.events
  exact ⟨_, _, hp, rfl, rfl⟩

theorem step_unlock_fst (w : WM) :
    (w.step info .unlock).1 =
      if (unlockPre w).lockDepth = 0 then ((unlockPre w).flush info).1 else unlockPre w := by
  unfold WM.step WM.unlock
  exact apply_ite (fun x : WM × Bool × List Cb => x.1) _ _ _

theorem step_clone_fst (w : WM) (e : Handle) :
    (w.step info (.clone e)).1 = (w.clone e).1 := by
  show (match w.clone e with
    | (w, some d) => ((w, .created d, []) : WM × Out Handle × List Cb)
    | (w, none) => (w, .null, [])).1 = _
  cases w.clone e with
  | mk w' r => cases r <;> rfl

theorem step_callOk (w : WM) (op : Op Handle) (hop : OpOk info w op) :
    CallOk info w (w.events info op) (w.step info op).1 := by
  cases op with
  | create t mask shared =>
    obtain ⟨wp, shp, hq, hst, hev⟩ := step_create_eq info w t mask shared
    rw [hst, hev]
    refine CallOk.pre ?_ hq
    by_cases hl : wp.isLocked = true
    · rw [if_pos hl, create_locked info wp t mask shp hl]
      exact (createLocked_recorded info wp t mask shp).callOk
    · simp only [Bool.not_eq_true] at hl
      rw [if_neg (by simp [hl])]
      exact create_unlocked info wp t mask shp hl hop
  | assign t e c v =>
    by_cases hl : w.isLocked = true
    · exact (assign_recorded info w t e c v hl (hop.1 hl)).callOk
    · simp only [Bool.not_eq_true] at hl
      exact assign_unlocked info w t e c v hl (hop.2 hl).1 (hop.2 hl).2
  | remove t e c =>
    show CallOk info w (w.removeCompEvents e c) (w.removeComp info t e c).1
    by_cases hl : w.isLocked = true
    · have hev : w.removeCompEvents e c = [] := by unfold WM.removeCompEvents; simp only [hl, if_true]
      rw [hev, removeComp_locked info w t e c hl]
      exact (recorded_pushCmd info w t _ (fun _ => rfl)).callOk
    · simp only [Bool.not_eq_true] at hl
      exact removeComp_unlocked info w t e c hl (hop hl)
  | buildNew t adds =>
    unfold WM.events WM.step
    by_cases hl : w.isLocked = true
    · simp only [hl, if_true]
      have hc := createLocked_recorded info w t [] Shared.null
      exact (assignRun_recorded info t _ adds w _ [] [] hc (by rw [hc.lock.isLocked]; exact hl)
        (by rw [hc.lock.nbuf]; exact hop.1 hl)).callOk
    · simp only [Bool.not_eq_true] at hl
      simp only [hl, Bool.false_eq_true, if_false]
      exact buildNewU_unlocked info w adds (hop.2 hl)
  | build t e adds rems =>
    unfold WM.events WM.step
    by_cases hl : w.isLocked = true
    · simp only [hl, if_true]
      have hr := assignRun_recorded info t e adds w w [] [] (.refl w) hl (hop.1 hl)
      exact (removeRun_recorded info t e rems w _ _ hr (by rw [hr.lock.isLocked]; exact hl)).callOk
    · simp only [Bool.not_eq_true] at hl
      simp only [hl, Bool.false_eq_true, if_false]
      exact buildUpdateU_unlocked info w e adds rems (hop.2 hl).1 (hop.2 hl).2.1 (hop.2 hl).2.2
  | destroy t e =>
    show CallOk info w [] (w.destroy t e)
    unfold WM.destroy
    split
    · exact (recorded_pushCmd info w t _ (fun _ => rfl)).callOk
    · split
      · exact (CallOk.refl w).post ⟨.of_archs rfl, rfl, rfl⟩
      · exact .refl w
  | destroyNow t e =>
    unfold WM.events WM.step WM.destroyNow
    by_cases hl : w.isLocked = true
    · simp only [hl, if_true]
      exact (recorded_pushCmd info w t _ (fun _ => rfl)).callOk
    · simp only [Bool.not_eq_true] at hl
      simp only [hl, Bool.false_eq_true, if_false]
      exact .of_bt (destroyNowU_ctl info w e).bt
        (fun hmk => (destroyNowU_accepts info w _ (tempOnly_tempLive _) e hmk).1)
  | clone e =>
    rw [step_clone_fst]
    exact clone_unlocked info w e hop
  | sassign e sid v => exact sassign_unlocked info w e sid v hop
  | sremove e sid => exact sremove_unlocked info w e sid hop
  | clearArch mask =>
    unfold WM.events WM.step
    simp only
    split
    · exact .of_bt (clearArch_bt info w _)
        (fun hmk => clearArch_accepts info w _ (tempOnly_tempLive _) _ (maskOk_nodup (hmk _)))
    · exact .refl w
  | update =>
    show CallOk info w (w.events info .update) (w.update info).1
    unfold WM.events
    by_cases hl : w.isLocked = true
    · unfold WM.update
      simp only [hl, if_true]
      exact .refl w
    · simp only [Bool.not_eq_true] at hl
      simp only [hl, Bool.false_eq_true, if_false]
      exact update_unlocked info w hl
  | lock => exact lock_callOk info w
  | unlock =>
    have hev : w.events info .unlock =
        if (unlockPre w).lockDepth = 0 then (unlockPre w).flushEvents info else [] := rfl
    rw [hev, step_unlock_fst]
    refine CallOk.pre ?_ (quiet_unlockPre w)
    by_cases h0 : (unlockPre w).lockDepth = 0
    · rw [if_pos h0, if_pos h0]
      exact flush_callOk info _ (hop h0)
    · rw [if_neg h0, if_neg h0]
      exact .refl _
  | dep c extra => exact (CallOk.refl w).post ⟨.of_archs rfl, rfl, rfl⟩
  | _ => exact .refl w

end Mustache.Proofs.Life
