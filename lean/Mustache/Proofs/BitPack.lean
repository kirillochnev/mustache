import Mustache.Gen.EntityIR
import Mustache.Proofs.LayoutBasic
/-! Natural-number meaning of the GENERATED functions (`Mustache.Gen.*`, regenerated from /repo's LLVM IR on
every run): a handle is `id + 2^30 * (world + 2^10 * version)`, `alignAs` is `alignUp`, the checked `/` and `%`
are `/` and `%`. Kernel-only: no bv_decide. Numeral exponents carry their type (`2 ^ (30 : Nat)`): a bare one nested
in arithmetic is elaborated several times over. -/
namespace Mustache.Proofs.BitPack
open Mustache.Gen Mustache.Model.Layout

/-! ## bit fields of a natural number: `a + 2^k * b` with `a < 2^k` has low field `a` and rest `b` -/

theorem low_field {a k : Nat} (b : Nat) (h : a < 2 ^ k) : (a + 2 ^ k * b) % 2 ^ k = a := by
  rw [Nat.add_mul_mod_self_left, Nat.mod_eq_of_lt h]

theorem high_field {a k : Nat} (b : Nat) (h : a < 2 ^ k) : (a + 2 ^ k * b) / 2 ^ k = b := by
  rw [Nat.add_mul_div_left _ _ (Nat.two_pow_pos k), Nat.div_eq_of_lt h, Nat.zero_add]

theorem field_mod {a k : Nat} (b n : Nat) (h : a < 2 ^ k) : (a + 2 ^ k * b) % (2 ^ k * n) = a + 2 ^ k * (b % n) := by
  rw [Nat.mod_mul, low_field b h, high_field b h]

theorem field_lt {a k b n : Nat} (h : a < 2 ^ k) (hb : b < n) : a + 2 ^ k * b < 2 ^ k * n :=
  Nat.lt_of_lt_of_le (Nat.add_lt_add_right h _) (by rw [Nat.add_comm, ← Nat.mul_succ]; exact Nat.mul_le_mul_left _ hb)

/-- OR-ing fields that do not overlap adds them (the shape of `Entity::reset`: version, id, world) -/
theorem or_fields {i w a b : Nat} (v : Nat) (hi : i < 2 ^ a) (hw : w < 2 ^ b) :
    (v <<< (b + a) ||| i) ||| w <<< a = i + 2 ^ a * (w + 2 ^ b * v) := by
  rw [Nat.or_assoc, Nat.or_comm i, ← Nat.or_assoc, Nat.shiftLeft_add, ← Nat.shiftLeft_or_distrib,
    ← Nat.shiftLeft_add_eq_or_of_lt hw, ← Nat.shiftLeft_add_eq_or_of_lt hi, Nat.shiftLeft_eq, Nat.shiftLeft_eq,
    Nat.mul_comm, Nat.mul_comm v, Nat.add_comm, Nat.add_comm w]


theorem id_toNat (x : BitVec 64) : (w_id x).toNat = x.toNat % 2 ^ (30 : Nat) := by
  have e : (1073741823#32).toNat = 2 ^ (30 : Nat) - 1 := rfl
  rw [w_id, BitVec.toNat_and, BitVec.toNat_setWidth, e, Nat.and_two_pow_sub_one_eq_mod,
    Nat.mod_mod_of_dvd _ (Nat.pow_dvd_pow 2 (by decide))]

theorem world_toNat (x : BitVec 64) : (w_world x).toNat = x.toNat / 2 ^ (30 : Nat) % 2 ^ (10 : Nat) := by
  have e : (1023#32).toNat = 2 ^ (10 : Nat) - 1 := rfl
  rw [w_world, BitVec.toNat_and, BitVec.toNat_setWidth, BitVec.toNat_ushiftRight, e, Nat.and_two_pow_sub_one_eq_mod,
    Nat.mod_mod_of_dvd _ (Nat.pow_dvd_pow 2 (by decide)), Nat.shiftRight_eq_div_pow]

theorem version_toNat (x : BitVec 64) : (w_version x).toNat = x.toNat / 2 ^ (30 : Nat) / 2 ^ (10 : Nat) := by
  rw [w_version, BitVec.toNat_setWidth, BitVec.toNat_ushiftRight, Nat.shiftRight_eq_div_pow, Nat.div_div_eq_div_mul]
  have h : x.toNat < 2 ^ (40 : Nat) * 2 ^ (24 : Nat) := x.isLt
  exact Nat.mod_eq_of_lt (Nat.lt_trans (Nat.div_lt_of_lt_mul h) (by decide))

theorem fields_sum (x : BitVec 64) :
    x.toNat = (w_id x).toNat + 2 ^ (30 : Nat) * ((w_world x).toNat + 2 ^ (10 : Nat) * (w_version x).toNat) := by
  rw [id_toNat, world_toNat, version_toNat, Nat.mod_add_div, Nat.mod_add_div]

theorem fields_of_sum (x : BitVec 64) {i w : Nat} (v : Nat) (hi : i < 2 ^ (30 : Nat)) (hw : w < 2 ^ (10 : Nat))
    (hx : x.toNat = i + 2 ^ (30 : Nat) * (w + 2 ^ (10 : Nat) * v)) :
    (w_id x).toNat = i ∧ (w_world x).toNat = w ∧ (w_version x).toNat = v := by
  rw [id_toNat, world_toNat, version_toNat, hx, low_field _ hi, high_field _ hi, low_field _ hw, high_field _ hw]
  exact ⟨rfl, rfl, rfl⟩

theorem toNat_zext_shl (x : BitVec 32) {n : Nat} (k : Nat) (h : x.toNat < 2 ^ n) (hk : n + k ≤ 64) :
    (BitVec.setWidth 64 x <<< k).toNat = x.toNat <<< k := by
  rw [BitVec.toNat_shiftLeft, BitVec.toNat_setWidth_of_le (by decide), Nat.shiftLeft_eq]
  refine Nat.mod_eq_of_lt (Nat.lt_of_lt_of_le (Nat.mul_lt_mul_of_pos_right h (Nat.two_pow_pos k)) ?_)
  rw [← Nat.pow_add]
  exact Nat.pow_le_pow_right (by decide) hk

theorem reset_toNat (i v w : BitVec 32) (hi : i.toNat < 2 ^ (30 : Nat)) (hv : v.toNat < 2 ^ (24 : Nat)) (hw : w.toNat < 2 ^ (10 : Nat)) :
    (w_reset i v w).toNat = i.toNat + 2 ^ (30 : Nat) * (w.toNat + 2 ^ (10 : Nat) * v.toNat) := by
  unfold w_reset
  rw [BitVec.toNat_or, BitVec.toNat_or, toNat_zext_shl v 40 hv (by decide), toNat_zext_shl w 30 hw (by decide),
    BitVec.toNat_setWidth_of_le (by decide)]
  exact or_fields (a := 30) (b := 10) v.toNat hi hw


theorem toNat_pos {n : Nat} {a : BitVec n} (ha : a ≠ 0#n) : 0 < a.toNat :=
  Nat.pos_of_ne_zero (fun h => ha (BitVec.eq_of_toNat_eq h))

/-- adding `-1` modulo `m` and then `a ≥ 1` without overflow is subtracting one -/
theorem add_neg_one_mod (x a m : Nat) (h1 : 0 < x + a) (h2 : x + a ≤ m) (hm : 0 < m) :
    (x + (m - 1) + a) % m = x + a - 1 := by
  have e : x + (m - 1) + a = x + a - 1 + m := by
    rw [Nat.add_right_comm, ← Nat.add_sub_assoc hm, Nat.sub_add_comm h1]
  rw [e, Nat.add_mod_right, Nat.mod_eq_of_lt (Nat.lt_of_lt_of_le (Nat.sub_lt h1 Nat.one_pos) h2)]

/-- the generated `alignAs` is `alignUp` as long as `off + a` fits 32 bits: `off - 1 + a` wraps back to
`off + a - 1`, and `n - n % a` is `n / a * a` -/
theorem align_toNat (off a : BitVec 32) (ha : a ≠ 0#32) (hov : off.toNat + a.toNat ≤ 2 ^ (32 : Nat)) :
    (w_align off a).toNat = alignUp off.toNat a.toNat := by
  have hsum : (off + 4294967295#32 + a).toNat = off.toNat + a.toNat - 1 := by
    have e : (4294967295#32).toNat = 2 ^ (32 : Nat) - 1 := rfl
    rw [BitVec.toNat_add, BitVec.toNat_add, Nat.mod_add_mod, e]
    exact add_neg_one_mod _ _ _ (Nat.add_pos_right _ (toNat_pos ha)) hov (by decide)
  unfold w_align alignUp
  rw [BitVec.toNat_sub_of_le (BitVec.le_def.mpr (by rw [BitVec.toNat_umod]; exact Nat.mod_le _ _)),
    BitVec.toNat_umod, hsum, Nat.mul_comm]
  exact Nat.sub_eq_of_eq_add (Nat.div_add_mod _ _).symm

theorem align_defined (off : BitVec 32) {a : BitVec 32} (ha : a ≠ 0#32) : w_align_defined off a = true := by
  show (!true || a != 0#32) = true
  exact (Bool.or_eq_true _ _).mpr (Or.inr (bne_iff_ne.mpr ha))

theorem div_eq (i : BitVec 32) {cap : BitVec 32} (hc : cap ≠ 0#32) : w_div i cap = i / cap := by
  simp [w_div, hc]

theorem mod_eq (i : BitVec 32) {cap : BitVec 32} (hc : cap ≠ 0#32) : w_mod i cap = i % cap := by
  simp [w_mod, hc]

/-- the division is guarded by the null check, so it is defined for every capacity -/
theorem div_defined (i cap : BitVec 32) : w_div_defined i cap = true := by
  by_cases hc : cap = 0#32
  · subst hc; rfl
  · exact (Bool.or_eq_true _ _).mpr (Or.inr (bne_iff_ne.mpr hc))

theorem mod_defined (i cap : BitVec 32) : w_mod_defined i cap = true := div_defined i cap

end Mustache.Proofs.BitPack
