import Mustache.Proofs.LifeSlots
/-!
# Parked temporaries (C03): their slots and the model's counter

`tempLive bufs` has one slot per recorded `assign` command; `WM.temps` counts, per instrumented component, the
temporaries parked in command buffers. What recording one command does to both, and `CallOk`: what every API call
guarantees about them.
-/
namespace Mustache.Proofs.Life
open Mustache.Model Mustache.Proofs.Rows

theorem tempLive_temp (bufs : List (List Cmd)) (t k c : Nat) :
    tempLive bufs (.temp t k c) = true ↔ ∃ e v, (bufs.getD t [])[k]? = some (Cmd.assign e c v) := by
  unfold tempLive
  simp only
  split
  · rename_i e c' v h
    rw [h]
    constructor
    · intro hc
      have : c' = c := by simpa using hc
      subst this; exact ⟨e, v, rfl⟩
    · rintro ⟨e', v', h'⟩
      cases h'; simp
  · rename_i h
    constructor
    · intro hf; cases hf
    · rintro ⟨e, v, h'⟩
      exact absurd h' (h e c v)

/-- only the contents of the buffers matter, not how many empty ones there are -/
theorem tempLive_congr {bufs bufs' : List (List Cmd)} (h : ∀ t, bufs'.getD t [] = bufs.getD t []) :
    tempLive bufs' = tempLive bufs := by
  apply slotState_ext
  intro y
  cases y with
  | stored a c i => exact Iff.rfl
  | temp t k c => rw [tempLive_temp, tempLive_temp, h t]

theorem tempLive_empty (bufs : List (List Cmd)) (h : ∀ t, bufs.getD t [] = []) : tempLive bufs = SlotState.empty := by
  rw [tempLive_congr (bufs := []) h]
  funext y; cases y <;> rfl

theorem getD_set_buf (bufs : List (List Cmd)) (t t' : Nat) (x : List Cmd) :
    (bufs.set t x).getD t' [] = if t = t' ∧ t < bufs.length then x else bufs.getD t' [] := by
  simp only [List.getD_eq_getElem?_getD, List.getElem?_set]
  by_cases h : t = t'
  · subst h
    by_cases hlt : t < bufs.length
    · simp [hlt]
    · simp [hlt]
  · simp [h]

/-- recording a command on thread `t`: an `assign<C>` parks one temporary, command number `|buffer t|`; nothing else
changes -/
theorem tempLive_push (bufs : List (List Cmd)) (t : Nat) (cmd : Cmd) (t' k c : Nat) :
    tempLive (bufs.set t (bufs.getD t [] ++ [cmd])) (.temp t' k c) = true ↔
      tempLive bufs (.temp t' k c) = true ∨
        (t' = t ∧ t < bufs.length ∧ k = (bufs.getD t []).length ∧ ∃ e v, cmd = .assign e c v) := by
  rw [tempLive_temp, tempLive_temp, getD_set_buf]
  split
  · rename_i htt
    rcases htt with ⟨rfl, hlt⟩
    by_cases hk : k < (bufs.getD t []).length
    · rw [List.getElem?_append_left hk]
      exact ⟨Or.inl, fun h => h.elim id (fun h' => absurd h'.2.2.1 (Nat.ne_of_lt hk))⟩
    · rw [List.getElem?_append_right (Nat.le_of_not_lt hk), List.getElem?_eq_none_iff.mpr (Nat.le_of_not_lt hk)]
      constructor
      · rintro ⟨e, v, h⟩
        rw [List.getElem?_singleton] at h
        split at h
        · cases h; exact Or.inr ⟨rfl, hlt, by omega, e, v, rfl⟩
        · cases h
      · rintro (⟨_, _, h⟩ | ⟨_, _, hk', e, v, rfl⟩)
        · cases h
        · exact ⟨e, v, by rw [hk', Nat.sub_self]; rfl⟩
  · rename_i htt
    exact ⟨Or.inl, fun h => h.elim id (fun h' => absurd ⟨h'.1.symm, h'.2.1⟩ htt)⟩

def isAssignOf (c : CompId) : Cmd → Bool
  | .assign _ c' _ => c' == c
  | _ => false

theorem tempLive_push_other (bufs : List (List Cmd)) (t : Nat) (cmd : Cmd) (h : ∀ c, isAssignOf c cmd = false) :
    tempLive (bufs.set t (bufs.getD t [] ++ [cmd])) = tempLive bufs := by
  apply slotState_ext
  intro y
  cases y with
  | stored a c i => exact Iff.rfl
  | temp t' k c =>
    rw [tempLive_push]
    refine ⟨fun h' => h'.elim id (fun ⟨_, _, _, e, v, hc⟩ => ?_), Or.inl⟩
    have := h c
    rw [hc] at this
    simp [isAssignOf] at this

theorem tempLive_push_assign (bufs : List (List Cmd)) (t : Nat) (e : Handle) (c : CompId) (v : Val)
    (ht : t < bufs.length) :
    tempLive (bufs.set t (bufs.getD t [] ++ [Cmd.assign e c v])) =
      (tempLive bufs).set (.temp t (bufs.getD t []).length c) true := by
  apply slotState_ext
  intro y
  rw [set_true_apply]
  cases y with
  | stored a c' i => exact ⟨Or.inr, fun h => h.elim (fun h' => by cases h') id⟩
  | temp t' k c' =>
    rw [tempLive_push, or_comm]
    refine or_congr ⟨?_, ?_⟩ Iff.rfl
    · rintro ⟨rfl, _, rfl, _, _, h⟩
      cases h; rfl
    · intro h
      cases h; exact ⟨rfl, ht, rfl, e, v, rfl⟩

def nAssign (bufs : List (List Cmd)) (c : CompId) : Nat :=
  (bufs.map (fun b => (b.filter (isAssignOf c)).length)).sum

/-- the model's counter of parked temporaries of `c` -/
def tempCount (temps : List (CompId × Nat)) (c : CompId) : Nat :=
  match temps.find? (·.1 == c) with | some (_, k) => k | none => 0

/-- the invariant: for every instrumented component the counter equals the number of parked temporaries -/
def TempsInv (info : CompId → CompInfo) (w : WM) : Prop :=
  ∀ c, (info c).counted = true → tempCount w.temps c = nAssign w.buffers c

theorem tempsInv_init (info : CompId → CompInfo) : TempsInv info {} := fun _ _ => rfl

theorem tempsInv_of_bt {info : CompId → CompInfo} {w w' : WM} (hbt : BT w w') (h : TempsInv info w) :
    TempsInv info w' := by
  intro c hc; rw [hbt.1, hbt.2]; exact h c hc

theorem tempCount_addTemp (temps : List (CompId × Nat)) (c c' : CompId) :
    tempCount (addTemp temps c) c' = tempCount temps c' + (if c' = c then 1 else 0) := by
  unfold addTemp
  by_cases hany : temps.any (·.1 == c) = true
  · -- an entry for `c` exists: it is bumped, the keys stay as they are
    rw [if_pos hany]
    unfold tempCount
    rw [find?_map_fst _ (fun p => by split <;> simp_all)]
    cases hf : temps.find? (·.1 == c') with
    | none =>
      have hne : c' ≠ c := fun h => by rw [← h, any_fst_of_find?_none hf] at hany; cases hany
      rw [if_neg hne]; rfl
    | some p =>
      have hp := (find?_fst_some hf).2
      by_cases hcc : c' = c <;> simp [hp, hcc]
  · rw [if_neg hany]
    unfold tempCount
    rw [List.find?_append]
    cases hf : temps.find? (·.1 == c') with
    | some p =>
      have hne : c' ≠ c := fun h => hany (h ▸ any_fst_of_find?_some hf)
      rw [if_neg hne]; rfl
    | none =>
      by_cases hcc : c' = c
      · simp [hcc]
      · simp [hcc, Ne.symm hcc]

theorem nAssign_push (bufs : List (List Cmd)) (t : Nat) (cmd : Cmd) (c : CompId) :
    nAssign (bufs.set t (bufs.getD t [] ++ [cmd])) c =
      nAssign bufs c + (if t < bufs.length ∧ isAssignOf c cmd = true then 1 else 0) := by
  unfold nAssign
  induction bufs generalizing t with
  | nil => simp
  | cons b bs ih =>
    cases t with
    | zero =>
      simp only [List.set_cons_zero, List.getD_cons_zero, List.map_cons, List.sum_cons, List.filter_append,
        List.length_append, List.length_cons, Nat.zero_lt_succ, true_and]
      by_cases hc : isAssignOf c cmd = true
      · simp only [List.filter_cons, hc, if_true, List.filter_nil, List.length_cons, List.length_nil]
        rw [Nat.zero_add, Nat.add_right_comm]
      · have hc' : isAssignOf c cmd = false := by simpa using hc
        simp only [List.filter_cons, hc', Bool.false_eq_true, if_false, List.filter_nil, List.length_nil]
        rfl
    | succ t =>
      have := ih t
      simp only [List.set_cons_succ, List.getD_cons_succ, List.map_cons, List.sum_cons, List.length_cons,
        Nat.add_lt_add_iff_right] at this ⊢
      rw [this, Nat.add_assoc]

theorem nAssign_replicate (bufs : List (List Cmd)) (k : Nat) (c : CompId) :
    nAssign (bufs ++ List.replicate k []) c = nAssign bufs c := by
  unfold nAssign
  rw [List.map_append, List.sum_append]
  have : ((List.replicate k ([] : List Cmd)).map (fun b => (b.filter (isAssignOf c)).length)).sum = 0 := by
    induction k with
    | zero => rfl
    | succ k ih => simp [List.replicate_succ]
  rw [this, Nat.add_zero]

/-- what every API call guarantees: the counter keeps agreeing with the buffers, and on a state with sorted masks the
events lead from the slot set of the state before to that of the state after -/
structure CallOk (info : CompId → CompInfo) (w : WM) (evs : List Event) (w' : WM) : Prop where
  temps : TempsInv info w → TempsInv info w'
  acc : MasksOk w → accepts (slotsOf w) evs = some (slotsOf w')

theorem CallOk.refl {info : CompId → CompInfo} (w : WM) : CallOk info w [] w := ⟨id, fun _ => rfl⟩

theorem CallOk.of_bt {info : CompId → CompInfo} {w w' : WM} {evs : List Event} (hb : BT w w')
    (h : MasksOk w → accepts (live w (tempLive w.buffers)) evs = some (live w' (tempLive w.buffers))) :
    CallOk info w evs w' :=
  ⟨tempsInv_of_bt hb, fun hmk => slots_of_live hb (h hmk)⟩

theorem CallOk.pre {info : CompId → CompInfo} {w0 w w' : WM} {evs : List Event} (h : CallOk info w evs w')
    (hq : Quiet w0 w) : CallOk info w0 evs w' :=
  ⟨fun hi => h.temps (tempsInv_of_bt hq.2 hi), fun hmk => by rw [← hq.slotsOf]; exact h.acc (hq.1.masksOk hmk)⟩

theorem CallOk.post {info : CompId → CompInfo} {w w' w'' : WM} {evs : List Event} (h : CallOk info w evs w')
    (hq : Quiet w' w'') : CallOk info w evs w'' :=
  ⟨fun hi => tempsInv_of_bt hq.2 (h.temps hi), fun hmk => by rw [hq.slotsOf]; exact h.acc hmk⟩

end Mustache.Proofs.Life
