import Mustache.Proofs.VersionsBlocks
/-!
# The primitives of the version model on one archetype

Entity / archetype lookups; rows and stamps after `push`, `swapRemove`, `stampComp`, `runJob`; the job
filter in terms of "a stamp newer than the job's last run"; membership in the processed list.
-/
namespace Mustache.Versions

/-! list facts -/

theorem getElem?_lt {α} {l : List α} {i : Nat} {x : α} (h : l[i]? = some x) : i < l.length :=
  (List.getElem?_eq_some_iff.mp h).1

theorem getElem?_modify_some {α} {l : List α} {ai x : Nat} {f : α → α} {a0 a' : α}
    (h0 : l[ai]? = some a0) (hx : (l.modify ai f)[x]? = some a') :
    (x = ai ∧ a' = f a0) ∨ (x ≠ ai ∧ l[x]? = some a') := by
  by_cases hxa : ai = x
  · subst hxa
    rw [List.getElem?_modify_eq, h0] at hx
    exact Or.inl ⟨rfl, (Option.some.inj hx).symm⟩
  · rw [List.getElem?_modify_ne _ _ hxa] at hx
    exact Or.inr ⟨Ne.symm hxa, hx⟩


theorem posIn_sound : ∀ {l : List Ent} {e : Ent} {i : Nat}, posIn l e = some i → l[i]? = some e
  | x :: xs, e, i, h => by
    unfold posIn at h
    split at h
    · next hx => cases h; exact congrArg some hx
    · obtain ⟨i', hi', rfl⟩ := Option.map_eq_some_iff.mp h
      exact (posIn_sound hi' :)

theorem locate_sound : ∀ {as : List Arch} {e : Ent} {ai i : Nat},
    locate as e = some (ai, i) → ∃ a, as[ai]? = some a ∧ a.ents[i]? = some e
  | a :: r, e, ai, i, h => by
    unfold locate at h
    split at h
    · next i' hp => cases h; exact ⟨a, rfl, posIn_sound hp⟩
    · obtain ⟨⟨ai', i'⟩, hl, heq⟩ := Option.map_eq_some_iff.mp h
      cases heq
      exact (locate_sound hl :)

theorem findArch_sound : ∀ {as : List Arch} {m : List Comp} {ai : Nat},
    findArch as m = some ai → ∃ a, as[ai]? = some a ∧ a.mask = m
  | a :: r, m, ai, h => by
    unfold findArch at h
    split at h
    · next hm => cases h; exact ⟨a, rfl, hm⟩
    · obtain ⟨ai', hf, rfl⟩ := Option.map_eq_some_iff.mp h
      exact (findArch_sound hf :)


@[simp] theorem stampChunk_ents (a : Arch) (k v) : (a.stampChunk k v).ents = a.ents := rfl
@[simp] theorem stampChunk_cs (a : Arch) (k v) : (a.stampChunk k v).cs = a.cs := rfl
@[simp] theorem stampChunk_mask (a : Arch) (k v) : (a.stampChunk k v).mask = a.mask := rfl
@[simp] theorem stampChunk_gst (a : Arch) (k v c) : (a.stampChunk k v).gst c = v := rfl
@[simp] theorem stampChunk_cst (a : Arch) (k v k' c) :
    (a.stampChunk k v).cst k' c = if k' = k then v else a.cst k' c := rfl

@[simp] theorem stampComp_ents (a : Arch) (k c v) : (a.stampComp k c v).ents = a.ents := rfl
@[simp] theorem stampComp_cs (a : Arch) (k c v) : (a.stampComp k c v).cs = a.cs := rfl
@[simp] theorem stampComp_mask (a : Arch) (k c v) : (a.stampComp k c v).mask = a.mask := rfl
@[simp] theorem stampComp_gst (a : Arch) (k c v c') :
    (a.stampComp k c v).gst c' = if c' = c then v else a.gst c' := rfl
@[simp] theorem stampComp_cst (a : Arch) (k c v k' c') :
    (a.stampComp k c v).cst k' c' = if k' = k ∧ c' = c then v else a.cst k' c' := rfl

@[simp] theorem push_ents (a : Arch) (e v) : (a.push e v).ents = a.ents ++ [e] := rfl
@[simp] theorem push_cs (a : Arch) (e v) : (a.push e v).cs = a.cs := rfl
@[simp] theorem push_mask (a : Arch) (e v) : (a.push e v).mask = a.mask := rfl
@[simp] theorem push_gst (a : Arch) (e v c) : (a.push e v).gst c = v := rfl
@[simp] theorem push_cst (a : Arch) (e v k c) :
    (a.push e v).cst k c = if k = a.ents.length / a.cs then v else a.cst k c := rfl

theorem chunk_in_range {a : Arch} {i : Nat} {e : Ent} (h : a.ents[i]? = some e) :
    i / a.cs * a.cs < a.ents.length :=
  Nat.lt_of_le_of_lt (Nat.div_mul_le_self ..) (getElem?_lt h)

theorem ne_nil_of_range {a : Arch} {k : Nat} (h : k * a.cs < a.ents.length) : a.ents ≠ [] :=
  List.ne_nil_of_length_pos (Nat.zero_lt_of_lt h)

theorem push_row {a : Arch} {e v} {k : Nat} {y : Ent} :
    (a.push e v).ents[k]? = some y ↔ a.ents[k]? = some y ∨ (k = a.ents.length ∧ y = e) := by
  rw [push_ents, List.getElem?_append]
  split
  · next hk => exact ⟨Or.inl, fun h => h.elim id fun h => absurd h.1 (Nat.ne_of_lt hk)⟩
  · next hk =>
    rw [List.getElem?_singleton, List.getElem?_eq_none (Nat.le_of_not_lt hk)]
    split
    · next h0 =>
      have : k = a.ents.length := Nat.le_antisymm (Nat.le_of_sub_eq_zero h0) (Nat.le_of_not_lt hk)
      exact ⟨fun h => Or.inr ⟨this, (Option.some.inj h).symm⟩,
        fun h => h.elim nofun fun h => h.2 ▸ rfl⟩
    · next h0 => exact ⟨nofun, fun h => h.elim nofun fun h => absurd (h.1 ▸ Nat.sub_self _) h0⟩

/-- Both branches of `swapRemove` in one form: the chunks of row `i` and of the last row are stamped and
the rows are `(ents.set i last).dropLast`. For `i` the last row itself the two chunks coincide and `set`
writes the row over itself. -/
theorem swapRemove_eq {a : Arch} {i : Nat} {e : Ent} (v : Ver) (hi : a.ents[i]? = some e) :
    ∃ x cst, a.ents[a.ents.length - 1]? = some x ∧
      (∀ k c, cst k c = if k = i / a.cs ∨ k = (a.ents.length - 1) / a.cs then v else a.cst k c) ∧
      a.swapRemove i v = { a with ents := (a.ents.set i x).dropLast, cst := cst, gst := fun _ => v } := by
  obtain ⟨hlen, hie⟩ := List.getElem?_eq_some_iff.mp hi
  by_cases hil : i = a.ents.length - 1
  · refine ⟨e, (a.stampChunk (i / a.cs) v).cst, hil ▸ hi, fun k c => ?_, (if_pos hil).trans ?_⟩
    · rw [← hil]; simp only [or_self]; rfl
    · have hset : a.ents.set i e = a.ents := hie ▸ List.set_getElem_self hlen
      rw [hset]; rfl
  · have hl := List.getElem?_eq_getElem (Nat.sub_one_lt (Nat.ne_of_gt (Nat.zero_lt_of_lt hlen)))
    refine ⟨_, ((a.stampChunk ((a.ents.length - 1) / a.cs) v).stampChunk (i / a.cs) v).cst, hl, fun k c => ?_,
      (if_neg hil).trans (by rw [hl]; rfl)⟩
    by_cases h1 : k = i / a.cs
    · exact (if_pos h1).trans (if_pos (Or.inl h1)).symm
    · by_cases h2 : k = (a.ents.length - 1) / a.cs
      · exact ((if_neg h1).trans (if_pos h2)).trans (if_pos (Or.inr h2)).symm
      · exact ((if_neg h1).trans (if_neg h2)).trans (if_neg (not_or.mpr ⟨h1, h2⟩)).symm

theorem swapRemove_spec {a : Arch} {i : Nat} {e : Ent} (v : Ver) (hi : a.ents[i]? = some e) :
    (a.swapRemove i v).cs = a.cs ∧ (a.swapRemove i v).mask = a.mask ∧
    (a.swapRemove i v).ents.length = a.ents.length - 1 ∧
    (∀ c, (a.swapRemove i v).gst c = v) ∧
    (∀ k c, (a.swapRemove i v).cst k c =
        if k = i / a.cs ∨ k = (a.ents.length - 1) / a.cs then v else a.cst k c) ∧
    (∀ k y, (a.swapRemove i v).ents[k]? = some y ↔
        k < a.ents.length - 1 ∧ a.ents[if k = i then a.ents.length - 1 else k]? = some y) := by
  obtain ⟨x, cst, hl, hc, heq⟩ := swapRemove_eq v hi
  rw [heq]
  refine ⟨rfl, rfl, List.length_dropLast.trans (congrArg (· - 1) List.length_set), fun _ => rfl, hc,
    fun k y => ?_⟩
  dsimp only
  rw [List.getElem?_dropLast, List.length_set, List.getElem?_set]
  by_cases hk : k < a.ents.length - 1
  · rw [if_pos hk, and_iff_right hk]
    by_cases hki : i = k
    · rw [if_pos hki, if_pos (getElem?_lt hi), if_pos hki.symm, hl]
    · rw [if_neg hki, if_neg (Ne.symm hki)]
  · rw [if_neg hk]; exact ⟨nofun, fun h => absurd h.1 hk⟩


/-- stamp `v` is newer than the job's last run (every stamp is, for a job that never ran): what both
`checkAndSet` overloads test -/
def Job.newer (J : Job) (v : Ver) : Prop := ∀ L, J.last = some L → L < v

theorem Job.newer.mono {J : Job} {v v' : Ver} (h : J.newer v) (hv : v ≤ v') : J.newer v' :=
  fun L hl => Nat.lt_of_lt_of_le (h L hl) hv

theorem matchSt_iff {J : Job} {fc : List Comp} {st : Comp → Ver} :
    J.matchSt fc st = true ↔ fc = [] ∨ ∃ c ∈ fc, J.newer (st c) := by
  unfold Job.matchSt Job.newer
  cases J.last with
  | none =>
    refine iff_of_true rfl ?_
    cases fc with
    | nil => exact Or.inl rfl
    | cons c _ => exact Or.inr ⟨c, List.mem_cons_self, nofun⟩
  | some L =>
    simp only [Bool.or_eq_true, List.isEmpty_iff, List.any_eq_true, decide_eq_true_eq, Option.some.injEq,
      forall_eq']

theorem mem_fmask {a : Arch} {m : List Comp} {c : Comp} : c ∈ a.fmask m ↔ c ∈ m ∧ c ∈ a.mask := by
  unfold Arch.fmask
  rw [List.mem_filter, List.contains_iff_mem]

theorem checkOf_eq {jobs : List Job} {j : Nat} {J : Job} (h : jobs[j]? = some J) :
    checkOf jobs j = J.check := by
  unfold checkOf; rw [h]

theorem reqOk_congr (J : Job) {a a' : Arch} (h : a'.mask = a.mask) : J.reqOk a' = J.reqOk a := by
  unfold Job.reqOk; rw [h]

theorem procChunk_iff {a : Arch} {J : Job} {k : Nat} :
    a.procChunk J k = true ↔ k * a.cs < a.ents.length ∧ J.reqOk a = true ∧ J.chunkOk k = true ∧
      a.gMatch J = true ∧ a.cMatch J k = true := by
  unfold Arch.procChunk Arch.sel Arch.active Job.matchesArch
  simp only [Bool.and_eq_true, decide_eq_true_eq, Bool.not_eq_true', List.isEmpty_eq_false_iff]
  exact ⟨fun ⟨⟨⟨⟨_, h1⟩, h2⟩, h3⟩, h4, h5⟩ => ⟨h3, h1, h4, h2, h5⟩,
    fun ⟨h3, h1, h4, h2, h5⟩ => ⟨⟨⟨⟨ne_nil_of_range h3, h1⟩, h2⟩, h3⟩, h4, h5⟩⟩

theorem procChunk_active {a : Arch} {J : Job} {k : Nat} (h : a.procChunk J k = true) :
    a.active J = true := by
  unfold Arch.procChunk at h
  rw [Bool.and_eq_true, Bool.and_eq_true] at h
  exact h.1.1

@[simp] theorem runJob_ents (a : Arch) (J cur) : (a.runJob J cur).ents = a.ents :=
  (apply_ite Arch.ents ..).trans (ite_self _)
@[simp] theorem runJob_cs (a : Arch) (J cur) : (a.runJob J cur).cs = a.cs :=
  (apply_ite Arch.cs ..).trans (ite_self _)
@[simp] theorem runJob_mask (a : Arch) (J cur) : (a.runJob J cur).mask = a.mask :=
  (apply_ite Arch.mask ..).trans (ite_self _)

theorem runJob_gst (a : Arch) (J : Job) (cur : Ver) (c : Comp) :
    (a.runJob J cur).gst c = if a.active J = true ∧ c ∈ a.fmask J.upd then cur else a.gst c := by
  unfold Arch.runJob
  by_cases h : a.active J = true
  · simp only [h, if_true, true_and, List.contains_iff_mem]
  · rw [if_neg h, if_neg fun hh => h hh.1]

theorem runJob_cst (a : Arch) (J : Job) (cur : Ver) (k : Nat) (c : Comp) :
    (a.runJob J cur).cst k c = if a.procChunk J k = true ∧ c ∈ a.fmask J.upd then cur else a.cst k c := by
  unfold Arch.runJob
  by_cases h : a.active J = true
  · simp only [h, if_true, Bool.and_eq_true, List.contains_iff_mem]
  · rw [if_neg h, if_neg fun hh => h (procChunk_active hh.1)]

theorem mem_processed {a : Arch} {J : Job} (hcs : 0 < a.cs) (e : Ent) :
    e ∈ a.processed J ↔ ∃ i, a.ents[i]? = some e ∧ a.procChunk J (i / a.cs) = true := by
  unfold Arch.processed
  rw [List.mem_filterMap]
  refine exists_congr fun i => and_comm.trans (and_congr_right fun he => ?_)
  have hlt := getElem?_lt he
  unfold Arch.blocksOf Arch.procChunk
  cases a.active J with
  | false => exact iff_of_false nofun nofun
  | true =>
    rw [if_pos rfl, mem_blocks_iff hcs (Nat.zero_lt_of_lt hlt), Bool.true_and, Bool.and_eq_true,
      decide_eq_true_eq]
    exact and_congr_left' ⟨fun _ => chunk_in_range he, fun _ => hlt⟩

end Mustache.Versions
