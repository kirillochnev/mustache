import Mustache.Proofs.LifeArch
import Mustache.Proofs.LifeTemps
/-!
# The unlocked operations (C03): create, assign, removeComponent, destroyNow, update, clone

For each operation, on a state `w` that is not locked and under the operation's contract: the events
`Model/Lifecycle.lean` lists for it lead from the slot set of `w` to that of the model's next state, and buffers and
temporaries counter are untouched (`CallOk`).
-/
namespace Mustache.Proofs.Life
open Mustache.Model Mustache.Proofs.Rows

variable (info : CompId → CompInfo)

/-- the operand's location, when it names an archetype, is a row index inside that archetype -/
def LocIn (w : WM) (e : Handle) : Prop :=
  ∀ pi, (w.locOf e).arch = some pi → (w.locOf e).idx < (w.arch pi).rows.length

/-! ## `getArchetype(m, sh)` followed by `externalMove` of row `(pi, idx)` into it -/

section Move
variable {w w1 : WM} {m : Mask} {sh : Shared} {ti : Nat} (ga : GotArch w m sh w1 ti) (e : Handle) (pi idx : Nat) (skip : Mask)
include ga

theorem GotArch.callOk : CallOk info w [] w1 :=
  .of_bt ga.table.bt (fun _ => congrArg some (ga.live _).symm)

theorem move_newRow (F : SlotState) (hF : TempOnly F) (hmk : MasksOk w) (hm : MaskOk m)
    (hidx : idx < (w.arch pi).rows.length) (r : WM × List Cb)
    (hx : w1.externalMove info ti e pi idx skip = some r) :
    NewRow F w r.1 (w1.externalMoveEvents ti pi idx skip) ti (w1.arch ti).rows.length (w1.arch ti).mask
      ((w1.arch ti).mask.filter (fun c => !(w.arch pi).mask.contains c && skip.contains c)) := by
  have hpa : w1.arch pi = w.arch pi := ga.old pi (lt_archs_of_rows hidx)
  have := externalMove_newRow info w1 F hF ti e pi idx skip ga.lt (by rw [hpa]; exact hidx) (ga.masksOk hmk hm) r hx
  rw [hpa] at this
  exact this.pre (ga.live F)

/-- a move without skip mask leaves nothing raw; when the archetype looked up is the entity's own ("to itself"),
nothing happens -/
theorem move_callOk (hm : MasksOk w → MaskOk m) (hidx : idx < (w.arch pi).rows.length) :
    CallOk info w (w1.externalMoveEvents ti pi idx [])
      (match w1.externalMove info ti e pi idx [] with
        | none => w1
        | some r => r.1) := by
  cases hx : w1.externalMove info ti e pi idx [] with
  | none => rw [externalMoveEvents_of_none hx]; exact ga.callOk info
  | some r =>
    exact .of_bt (ga.table.bt.trans (externalMove_sameTable info _ _ _ _ _ _ r hx).bt) (fun hmk =>
      (move_newRow info ga e pi idx [] _ (tempOnly_tempLive _) hmk (hm hmk) hidx r hx).done
        (filter_and_contains_nil _ _))

end Move

theorem create_unlocked (w : WM) (t : Nat) (mask : Mask) (sh : Shared)
    (hl : w.isLocked = false) (hm : MaskOk mask) :
    CallOk info w ((w.getArch mask sh).1.archInsertEvents (w.getArch mask sh).2 []) (w.create info t mask sh).1 := by
  unfold WM.create
  simp only [hl, Bool.false_eq_true, if_false]
  cases hg : w.getArch mask sh with
  | mk w1 ai =>
  have ga := gotArch hg
  refine .of_bt ((ga.table.bt.trans (allocId_bt _)).trans (archInsert_sameTable info _ _ _ _).bt) (fun hmk => ?_)
  have hev : w1.archInsertEvents ai [] = (w1.allocId).1.archInsertEvents ai [] := by
    unfold WM.archInsertEvents; rw [allocId_arch]
  rw [hev]
  exact ((archInsert_newRow info _ _ (tempOnly_tempLive _) ai _ [] (by rw [allocId_archs]; exact ga.lt)
    ((shapeEq_allocId w1).masksOk (ga.masksOk hmk hm))).pre
      (((shapeEq_allocId w1).live _).trans (ga.live _))).done (filter_contains_nil _)

theorem assign_unlocked (w : WM) (t : Nat) (e : Handle) (c : CompId) (v : Option Nat)
    (hl : w.isLocked = false) (hloc : LocIn w e)
    (hnew : ∀ pi, (w.locOf e).arch = some pi → v.isSome = true → c ∉ (w.arch pi).mask) :
    CallOk info w (w.assignEvents t e c v) (w.assign info t e c v).1 := by
  unfold WM.assignEvents WM.assign
  simp only [hl, Bool.false_eq_true, if_false]
  cases hla : (w.locOf e).arch with
  | none => exact .refl w
  | some pi =>
    simp only
    cases hg : w.getArch (Mask.insert (w.arch pi).mask c) (w.arch pi).shared with
    | mk w1 ti =>
    have ga := gotArch hg
    simp only
    by_cases hti : ti = pi
    · rw [if_pos hti, hti, externalMove_self]
      exact ga.callOk info
    · obtain ⟨⟨w2, cbs⟩, hx⟩ := externalMove_some info w1 ti e pi (w.locOf e).idx
        (if v.isSome then Mask.insert (w.arch pi).mask c else []) hti
      rw [if_neg hti, hx]
      simp only
      -- the events, up to the state the move leaves
      have main : CallOk info w
          (w1.externalMoveEvents ti pi (w.locOf e).idx (if v.isSome then Mask.insert (w.arch pi).mask c else []) ++
            (if v.isSome && (w1.arch ti).mask.contains c then
              [Event.construct (.stored ti c (w1.arch ti).rows.length)] else [])) w2 := by
        refine .of_bt (ga.table.bt.trans (externalMove_sameTable info _ _ _ _ _ _ _ hx).bt) (fun hmk => ?_)
        have nr := move_newRow info ga e pi _ _ (tempLive w.buffers) (tempOnly_tempLive _) hmk (maskOk_insert (hmk pi) c) (hloc pi hla) _ hx
        cases v with
        | none =>
          simp only [Option.isSome_none, Bool.false_eq_true, if_false, Bool.false_and, List.append_nil] at nr ⊢
          exact nr.done (filter_and_contains_nil _ _)
        | some tok =>
          have hct : c ∈ (w1.arch ti).mask := by
            rw [ga.mask]; exact mem_closedMask_of_mem _ _ _ ((mem_insert _ _ _).mpr (Or.inl rfl))
          simp only [Option.isSome_some, if_true, Bool.true_and, List.contains_iff_mem.mpr hct] at nr ⊢
          refine nr.fill [c] _ rfl (fun ev hev => ?_) (by simp) (fun x => ?_)
            (fun x hx => (List.mem_filter.mp hx).1)
          · rw [List.mem_singleton.mp hev]; exact ⟨rfl, rfl⟩
          · -- of the new set `mask ∪ {c}` (closed), what the old row lacks and the skip mask names is `c`
            simp only [List.mem_singleton, List.mem_filter, Bool.and_eq_true, Bool.not_eq_true',
              List.contains_iff_mem, ← Bool.not_eq_true]
            constructor
            · rintro rfl
              exact ⟨hct, hnew pi hla rfl, (mem_insert _ _ _).mpr (Or.inl rfl)⟩
            · rintro ⟨_, h2, h3⟩
              exact ((mem_insert _ _ _).mp h3).resolve_right h2
      -- the value written last changes no slot
      refine main.post ?_
      split
      · exact quiet_setRow _ _ _ _
      · exact .refl w2

theorem removeComp_unlocked (w : WM) (t : Nat) (e : Handle) (c : CompId)
    (hl : w.isLocked = false) (hloc : w.isValid e = true → LocIn w e) :
    CallOk info w (w.removeCompEvents e c) (w.removeComp info t e c).1 := by
  unfold WM.removeCompEvents WM.removeComp
  simp only [hl, Bool.false_eq_true, if_false]
  by_cases hv : w.isValid e = true
  · simp only [hv, Bool.not_true, Bool.false_eq_true, if_false]
    cases hla : (w.locOf e).arch with
    | none => exact .refl w
    | some pi =>
      simp only
      by_cases hc : (w.arch pi).mask.contains c = true
      · simp only [hc, Bool.not_true, Bool.false_eq_true, if_false]
        cases hg : w.getArch (Mask.erase (w.arch pi).mask c) (w.arch pi).shared with
        | mk w1 ti =>
        simp only
        have := move_callOk info (gotArch hg) e pi (w.locOf e).idx (fun hmk => maskOk_erase (hmk pi) c) (hloc hv pi hla)
        split <;> (rename_i hx; rw [hx] at this; exact this)
      · simp only [hc, Bool.not_false, if_true]; exact .refl w
  · simp only [Bool.not_eq_true] at hv
    simp only [hv, Bool.not_false, if_true]; exact .refl w

theorem destroyNowU_accepts (w : WM) (F : SlotState) (hF : TempOnly F)
    (h : Handle) (hmk : MasksOk w) :
    accepts (live w F) (w.destroyNowUEvents h) = some (live (w.destroyNowU info h).1 F) ∧
    MasksOk (w.destroyNowU info h).1 := by
  rw [destroyNowU_fst]
  unfold WM.destroyNowUEvents
  by_cases hv : w.isValid h = true
  · simp only [hv, Bool.not_true, Bool.false_eq_true, if_false, if_true]
    rw [((shapeEq_release _ h).live F)]
    refine ⟨?_, (shapeEq_release _ h).masksOk ?_⟩
    · cases (w.locOf h).arch with
      | none => rfl
      | some ai => exact archRemove_accepts info w F hF ai _ [] (maskOk_nodup (hmk ai))
    · cases (w.locOf h).arch with
      | none => exact hmk
      | some ai => exact masksOk_congr (archRemove_mask info w ai _ []) hmk
  · simp only [Bool.not_eq_true] at hv
    simp only [hv, Bool.not_false, if_true, Bool.false_eq_true, if_false]
    exact ⟨rfl, hmk⟩

/-- the loop of `update()` over the marked entities, model and event list side by side -/
theorem update_fold_accepts (l : List Handle) (w : WM) (F : SlotState) (hF : TempOnly F)
    (hmk : MasksOk w) (cbs : List Cb) (evs0 : List Event) (S0 : SlotState)
    (h0 : accepts S0 evs0 = some (live w F)) :
    accepts S0 (l.foldl (fun (acc : WM × List Event) h =>
        ((acc.1.destroyNowU info h).1, acc.2 ++ acc.1.destroyNowUEvents h)) (w, evs0)).2 =
      some (live (l.foldl (fun (acc : WM × List Cb) h =>
        let (w', c) := acc.1.destroyNowU info h
        (w', acc.2 ++ c)) (w, cbs)).1 F) := by
  induction l generalizing w cbs evs0 with
  | nil => exact h0
  | cons h t ih =>
    rw [List.foldl_cons, List.foldl_cons]
    have hd := destroyNowU_accepts info w F hF h hmk
    exact ih (w.destroyNowU info h).1 hd.2 _ _ (accepts_append_of h0 hd.1)

theorem update_unlocked (w : WM) (hl : w.isLocked = false) :
    CallOk info w (w.marked.foldl (fun (acc : WM × List Event) h =>
        ((acc.1.destroyNowU info h).1, acc.2 ++ acc.1.destroyNowUEvents h)) (w, [])).2 (w.update info).1 := by
  unfold WM.update
  simp only [hl, Bool.false_eq_true, if_false]
  -- the marked set is emptied at the end: no slot, buffer or counter changes
  refine CallOk.post (.of_bt ?_ (fun hmk => update_fold_accepts info w.marked w _ (tempOnly_tempLive _) hmk [] [] _ rfl))
    ⟨.of_archs rfl, rfl, rfl⟩
  refine foldl_rel (fun a b : WM × List Cb => BT a.1 b.1) (fun a => BT.refl a.1) (fun _ _ _ => BT.trans) _ ?_
    w.marked (w, [])
  exact fun a h => (destroyNowU_ctl info a.1 h).bt

theorem clone_unlocked (w : WM) (e : Handle) (hloc : w.isValid e = true → LocIn w e) :
    CallOk info w
      (if !w.isValid e then [] else
        match (w.locOf e).arch with
        | none => []
        | some ai => cloneEvents ai (w.arch ai).mask (w.arch ai).rows.length (w.locOf e).idx) (w.clone e).1 := by
  unfold WM.clone
  by_cases hv : w.isValid e = true
  · simp only [hv, Bool.not_true, Bool.false_eq_true, if_false]
    cases hla : (w.locOf e).arch with
    | none => exact .refl w
    | some ai =>
      simp only
      refine .of_bt ((allocId_bt w).trans ((sameTable_setArch _ _ _).trans (sameTable_setLoc _ _ _ _)).bt)
        (fun hmk => ?_)
      have hidx := hloc hv ai hla
      have hai : ai < (w.allocId).1.archs.length := by rw [allocId_archs]; exact lt_archs_of_rows hidx
      rw [accepts_intoRow _ _ ai (w.arch ai).rows.length (w.arch ai).mask
        (by simp [cloneEvents, colSlots, List.map_map, Event.dst])
        (fun ev hev => by rcases List.mem_map.mp hev with ⟨c, _, rfl⟩; rfl)
        (maskOk_nodup (hmk ai)) (live_nextRow w (tempOnly_tempLive _) ai)
        (fun ev hev x hx => by
          rcases List.mem_map.mp hev with ⟨c, hc, rfl⟩
          cases hx
          exact live_of_row w _ hc hidx)]
      congr 1
      -- the new state: one row more in `ai`
      apply live_addRow _ ai
      · intro a; rw [← allocId_arch w a]; exact (insertRow_shape _ ai _ _ hai).1 a
      · intro a; rw [← allocId_arch w a]; exact (insertRow_shape _ ai _ _ hai).2 a
  · simp only [Bool.not_eq_true] at hv
    simp only [hv, Bool.not_false, if_true]; exact .refl w

end Mustache.Proofs.Life
