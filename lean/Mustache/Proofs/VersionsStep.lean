import Mustache.Proofs.VersionsBasic
/-!
# The operations on the whole state

What `writeAt`, `arrive`, `depart`, `jobRun`, `getArch` do when the archetype / job they address exists,
and the case analysis of `step` into these.
-/
namespace Mustache.Versions


section
variable {s : State} {ai : Nat} {a : Arch} (ha : s.archs[ai]? = some a)
include ha

theorem writeAt_eq (i : Nat) (e : Ent) (c : Comp) :
    s.writeAt ai i e c =
      { s with
        archs := s.archs.modify ai (fun a => a.stampComp (i / a.cs) c s.stampVer)
        pending := fun j' e' c' => if e' = e ∧ c' = c then true else s.pending j' e' c'
        touched := fun j' ai' k =>
          if ai' = ai ∧ k = i / a.cs ∧ (checkOf s.jobs j').contains c = true
          then true else s.touched j' ai' k } := by
  unfold State.writeAt; rw [ha]

theorem arrive_eq (e : Ent) :
    s.arrive ai e =
      { s with
        archs := s.archs.modify ai (fun a => a.push e s.w)
        pending := fun j' e' c' => if e' = e then true else s.pending j' e' c'
        touched := fun j' ai' k =>
          if ai' = ai ∧ k = a.ents.length / a.cs then true else s.touched j' ai' k } := by
  unfold State.arrive; rw [ha]

theorem depart_eq (i : Nat) :
    s.depart ai i =
      { s with
        archs := s.archs.modify ai (fun a => a.swapRemove i s.w)
        pending := fun j' e' c' =>
          if i ≠ a.ents.length - 1 ∧ a.ents[a.ents.length - 1]? = some e' then true else s.pending j' e' c'
        touched := fun j' ai' k =>
          if ai' = ai ∧ (k = i / a.cs ∨ k = (a.ents.length - 1) / a.cs) then true
          else s.touched j' ai' k } := by
  unfold State.depart; rw [ha]

end

theorem jobRun_none {s : State} {j : Nat} (hj : s.jobs[j]? = none) : s.jobRun j = (s, []) := by
  unfold State.jobRun; rw [hj]

section
variable {s : State} {j : Nat} {J : Job} (hj : s.jobs[j]? = some J)
include hj

theorem jobRun_snd : (s.jobRun j).2 = s.archs.flatMap (·.processed J) := by
  unfold State.jobRun; rw [hj]

/-- the state after a run of an existing job, with `(s.jobRun j).2` for the processed entities -/
theorem jobRun_eq :
    (s.jobRun j).1 =
      { s with
        archs := s.archs.map (·.runJob J s.w)
        jobs := if !(s.jobRun j).2.isEmpty then s.jobs.set j { J with last := some s.w } else s.jobs
        w := if !(s.jobRun j).2.isEmpty then s.w + 1 else s.w
        pending := fun j' e c =>
          if (s.jobRun j).2.contains e then (if j' = j then false else s.pending j' e c || J.upd.contains c)
          else s.pending j' e c
        touched := fun j' ai k =>
          match s.archs[ai]? with
          | none => s.touched j' ai k
          | some a =>
            if a.procChunk J k then
              (if j' = j then false else s.touched j' ai k || overlaps (a.fmask J.upd) (checkOf s.jobs j'))
            else s.touched j' ai k } := by
  rw [jobRun_snd hj]; unfold State.jobRun; rw [hj]; rfl

theorem jobRun_pending (j' : Nat) (e : Ent) (c : Comp) :
    (s.jobRun j).1.pending j' e c =
      if (s.jobRun j).2.contains e then (if j' = j then false else s.pending j' e c || J.upd.contains c)
      else s.pending j' e c := by
  rw [jobRun_eq hj]

theorem jobRun_touched {x : Nat} {a : Arch} (ha : s.archs[x]? = some a) (j' k : Nat) :
    (s.jobRun j).1.touched j' x k =
      if a.procChunk J k then
        (if j' = j then false else s.touched j' x k || overlaps (a.fmask J.upd) (checkOf s.jobs j'))
      else s.touched j' x k := by
  rw [jobRun_eq hj]; dsimp only; rw [ha]

theorem jobRun_archs {x : Nat} {a' : Arch} (hx : (s.jobRun j).1.archs[x]? = some a') :
    ∃ a, s.archs[x]? = some a ∧ a' = a.runJob J s.w := by
  replace hx : (s.archs.map (·.runJob J s.w))[x]? = some a' := by rwa [jobRun_eq hj] at hx
  obtain ⟨a, ha, rfl⟩ := Option.map_eq_some_iff.mp (List.getElem?_map ▸ hx)
  exact ⟨a, ha, rfl⟩

theorem jobRun_jobs {j' : Nat} {J' : Job} (hj' : (s.jobRun j).1.jobs[j']? = some J') :
    (s.jobs[j']? = some J' ∧ (j' = j → (s.jobRun j).2 = [])) ∨
    (j' = j ∧ (s.jobRun j).2 ≠ [] ∧ J' = { J with last := some s.w }) := by
  replace hj' : (if !(s.jobRun j).2.isEmpty then s.jobs.set j { J with last := some s.w } else s.jobs)[j']?
      = some J' := by rwa [jobRun_eq hj] at hj'
  cases hp : (s.jobRun j).2 with
  | nil => rw [hp] at hj'; exact Or.inl ⟨hj', fun _ => rfl⟩
  | cons x xs =>
    rw [hp] at hj'
    replace hj' : (s.jobs.set j { J with last := some s.w })[j']? = some J' := hj'
    rw [List.getElem?_set] at hj'
    split at hj'
    · next h =>
      rw [if_pos (getElem?_lt hj)] at hj'
      exact Or.inr ⟨h.symm, nofun, (Option.some.inj hj').symm⟩
    · next h => exact Or.inl ⟨hj', fun h' => absurd h'.symm h⟩

theorem jobRun_w : s.w ≤ (s.jobRun j).1.w ∧ ((s.jobRun j).2 ≠ [] → (s.jobRun j).1.w = s.w + 1) := by
  rw [jobRun_eq hj]
  cases (s.jobRun j).2 with
  | nil => exact ⟨Nat.le_refl _, fun h => absurd rfl h⟩
  | cons x xs => exact ⟨Nat.le_succ _, fun _ => rfl⟩

end

open Mustache.ChunkSize (resolveFor) in
theorem getArchClosed_ok {s s1 : State} {m : List Comp} {aj : Nat} (hg : s.getArchClosed m = .ok (s1, aj)) :
    (s1 = s ∧ findArch s.archs m = some aj) ∨
    (findArch s.archs m = none ∧ aj = s.archs.length ∧ ∃ cs, resolveFor s.dflt s.fns m = .ok cs ∧
      s1 = { s with archs := s.archs ++ [{ mask := m, cs := cs, ents := [], cst := fun _ _ => nullVer,
                                            gst := fun _ => nullVer }] }) := by
  unfold State.getArchClosed at hg
  split at hg
  · next ai hf => cases hg; exact Or.inl ⟨rfl, hf⟩
  · next hf =>
    split at hg
    · cases hg
    · next cs hr => cases hg; exact Or.inr ⟨hf, rfl, cs, hr, rfl⟩

theorem getArchClosed_lt {s s1 : State} {m : List Comp} {aj : Nat} (hg : s.getArchClosed m = .ok (s1, aj)) :
    aj < s1.archs.length := by
  rcases getArchClosed_ok hg with ⟨rfl, hf⟩ | ⟨_, rfl, _, _, rfl⟩
  · obtain ⟨a, ha, _⟩ := findArch_sound hf
    exact getElem?_lt ha
  · exact (List.length_append ..).symm ▸ Nat.lt_succ_self _

theorem depart_archs_length (s : State) (ai i : Nat) : (s.depart ai i).archs.length = s.archs.length := by
  unfold State.depart
  split
  · rfl
  · exact List.length_modify ..


/-- `markDirty` is the same transition. -/
theorem step_getMut (s : State) (e : Ent) (c : Comp) :
    s.step (.getMut e c) = (s, .access false) ∨
      ∃ ai i a, s.archs[ai]? = some a ∧ a.ents[i]? = some e ∧
        s.step (.getMut e c) = (s.writeAt ai i e c, .access true) := by
  dsimp only [State.step]
  cases hl : locate s.archs e with
  | none => exact Or.inl rfl
  | some p =>
    obtain ⟨a, ha, he⟩ := locate_sound hl
    dsimp only
    rw [ha]
    by_cases hc : a.mask.contains c = true
    · exact Or.inr ⟨p.1, p.2, a, ha, he, if_pos hc⟩
    · exact Or.inl (if_neg hc)

theorem getConst_state (s : State) (e c : Nat) : (s.step (.getConst e c)).1 = s := by
  dsimp only [State.step]
  split
  · rfl
  · split <;> rfl

/-- Case analysis of an operation by what it does to the state. `arch` is the move whose target is the archetype
the entity is already in: only `getArch` has happened. -/
theorem step_cases {P : State → Prop} (s : State) (op : Op)
    (same : P s)
    (update : P s.worldUpdate)
    (run : ∀ j, op = .run j → P (s.jobRun j).1)
    (write : ∀ ai i a e c, s.archs[ai]? = some a → a.ents[i]? = some e → P (s.writeAt ai i e c))
    (arch : ∀ m s1 aj, s.getArch m = .ok (s1, aj) → P s1)
    (create : ∀ m s1 ai, s.getArch m = .ok (s1, ai) →
      P (({ s1 with nextEnt := s1.nextEnt + 1 } : State).arrive ai s1.nextEnt))
    (move : ∀ ai i a e m s1 aj, s.archs[ai]? = some a → a.ents[i]? = some e →
      s.getArch m = .ok (s1, aj) → aj ≠ ai → P ((s1.depart ai i).arrive aj e))
    (depart : ∀ ai i a e, s.archs[ai]? = some a → a.ents[i]? = some e → P (s.depart ai i))
    (config : ∀ d f g, (0 < s.dflt → 0 < d) → P { s with dflt := d, fns := f, deps := g }) :
    P (s.step op).1 := by
  have moveTo : ∀ ai i a e m same', s.archs[ai]? = some a → a.ents[i]? = some e →
      P (s.moveTo ai i e m same').1 := by
    intro ai i a e m same' ha he
    unfold State.moveTo
    split
    · exact same
    · next s1 aj hg =>
      split
      · exact arch m s1 aj hg
      · next hne => exact move ai i a e m s1 aj ha he hg hne
  have getMut : ∀ e c, P (s.step (.getMut e c)).1 := by
    intro e c
    rcases step_getMut s e c with h0 | ⟨ai, i, a, ha, he, h0⟩
    · rw [h0]; exact same
    · rw [h0]; exact write ai i a e c ha he
  cases op with
  | update => exact update
  | run j => exact run j rfl
  | getMut e c => exact getMut e c
  | markDirty e c => exact getMut e c
  | getConst e c => rw [getConst_state]; exact same
  | create m =>
    dsimp only [State.step]
    split
    · exact same
    · next s1 ai hg => exact create _ s1 ai hg
  | assign e c =>
    dsimp only [State.step]
    cases hl : locate s.archs e with
    | none => exact same
    | some p =>
      obtain ⟨a, ha, he⟩ := locate_sound hl
      dsimp only
      rw [ha]
      exact moveTo p.1 p.2 a e _ _ ha he
  | remove e c =>
    dsimp only [State.step]
    cases hl : locate s.archs e with
    | none => exact same
    | some p =>
      obtain ⟨a, ha, he⟩ := locate_sound hl
      simp only [ha]
      split
      · exact moveTo p.1 p.2 a e _ _ ha he
      · exact same
  | destroyNow e =>
    dsimp only [State.step]
    cases hl : locate s.archs e with
    | none => exact same
    | some p =>
      obtain ⟨a, ha, he⟩ := locate_sound hl
      exact depart p.1 p.2 a e ha he
  | setDefault n =>
    dsimp only [State.step]
    split
    · exact same
    · next hn => exact config n s.fns s.deps fun _ => Nat.pos_of_ne_zero hn
  | addFn m mn mx => exact config s.dflt _ s.deps id
  | addDep c ds => exact config s.dflt s.fns _ id


theorem exec_induction {P : State → Prop} {s : State} (ops : List Op) (h0 : P s)
    (hstep : ∀ s, ∀ op ∈ ops, P s → P (s.step op).1) : P (s.exec ops) := by
  induction ops generalizing s with
  | nil => exact h0
  | cons op ops ih =>
    exact ih (hstep s op List.mem_cons_self h0) fun s o ho => hstep s o (List.mem_cons_of_mem _ ho)

theorem exec_append (s : State) (ops1 ops2 : List Op) :
    s.exec (ops1 ++ ops2) = (s.exec ops1).exec ops2 :=
  List.foldl_append

theorem run_append (cfg : Config) (ops1 ops2 : List Op) :
    run cfg (ops1 ++ ops2) = (run cfg ops1).exec ops2 := exec_append ..

/-- A history with job bodies reaches a state that a plain history reaches too (the run, then — if it
selected anything — the body's immediate accesses, then its deferred commands). -/
theorem hexec_reachable (s : State) (hops : List HOp) : ∃ ops : List Op, s.hexec hops = s.exec ops := by
  induction hops generalizing s with
  | nil => exact ⟨[], rfl⟩
  | cons h t ih =>
    obtain ⟨ops', hops'⟩ := ih (s.hstep h).1
    show ∃ ops, (s.hstep h).1.hexec t = s.exec ops
    rw [hops']
    cases h with
    | plain o => exact ⟨o :: ops', rfl⟩
    | runDo j body =>
      simp only [State.hstep]
      split
      · exact ⟨.run j :: ops', rfl⟩
      · exact ⟨.run j :: (bodyOrder (s.jobRun j).1.nextEnt body ++ ops'),
          (exec_append (s.jobRun j).1 _ ops').symm⟩

theorem hrun_reachable (cfg : Config) (hops : List HOp) : ∃ ops : List Op, hrun cfg hops = run cfg ops :=
  hexec_reachable (init cfg) hops

end Mustache.Versions
