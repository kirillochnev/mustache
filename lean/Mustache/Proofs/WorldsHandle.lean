import Mustache.Model.Worlds
import Mustache.Proofs.BitPack
import Mustache.Proofs.WorldsId
/-! # Handles and the world they come from (C17): what a world stamps into a handle, what survives the packing,
    and what `isEntityValid` makes of it -/
namespace Mustache.Proofs.WorldsHandle
open Mustache.Model Mustache.Proofs.WorldsId Mustache.Proofs.BitPack

def InRange (h : Handle) : Prop := h.id < 2 ^ (30 : Nat) ∧ h.ver < 2 ^ (24 : Nat) ∧ h.world < 2 ^ (10 : Nat)

/-- `Handle.value` with the fields nested the way `Proofs/BitPack.lean` reads them -/
theorem value_eq (h : Handle) : h.value = h.id + 2 ^ (30 : Nat) * (h.world + 2 ^ (10 : Nat) * h.ver) := by
  rw [Nat.mul_add, ← Nat.mul_assoc, Nat.mul_comm _ h.world, Nat.mul_comm _ h.ver, ← Nat.add_assoc]
  rfl

theorem packed_eq_value (h : Handle) (hr : InRange h) : h.packed = h.value := by
  obtain ⟨hi, hv, hw⟩ := hr
  unfold Handle.packed
  rw [Nat.or_comm, ← Nat.or_assoc, or_fields (a := 30) (b := 10) h.ver hi hw, ← value_eq]
  exact Nat.mod_eq_of_lt (by rw [value_eq]; exact field_lt hi (field_lt hw hv))

theorem ofValue_sum {i w : Nat} (v : Nat) (hi : i < 2 ^ (30 : Nat)) (hw : w < 2 ^ (10 : Nat)) :
    Handle.ofValue (i + 2 ^ (30 : Nat) * (w + 2 ^ (10 : Nat) * v)) = ⟨i, v % 2 ^ (24 : Nat), w⟩ := by
  have e (x : Nat) : x / 2 ^ (40 : Nat) = x / 2 ^ (30 : Nat) / 2 ^ (10 : Nat) := by rw [Nat.div_div_eq_div_mul]
  unfold Handle.ofValue
  rw [e, low_field _ hi, high_field _ hi, low_field _ hw, high_field _ hw]

theorem ofValue_value (h : Handle) (hr : InRange h) : Handle.ofValue h.value = h := by
  rw [value_eq, ofValue_sum _ hr.1 hr.2.2, Nat.mod_eq_of_lt hr.2.1]

theorem seen_eq (h : Handle) (hr : InRange h) : h.seen = h := by
  unfold Handle.seen
  rw [packed_eq_value h hr, ofValue_value h hr]

/-- the defect mechanism: a world id of 2^10 leaves the world field and lands in the version, since
`2^10 <<< 30 = 1 <<< 40`: the handle packs like the one with world 0 and version 1 -/
theorem seen_overflow (i : Nat) (hi : i < 2 ^ (30 : Nat)) : Handle.seen ⟨i, 0, 2 ^ (10 : Nat)⟩ = ⟨i, 1, 0⟩ := by
  have e : Handle.packed ⟨i, 0, 2 ^ (10 : Nat)⟩ = Handle.packed ⟨i, 1, 0⟩ := by
    simp only [Handle.packed, Nat.zero_shiftLeft, Nat.or_zero]
    rfl
  rw [Handle.seen, e]
  exact seen_eq ⟨i, 1, 0⟩ ⟨hi, (by decide : 1 < 2 ^ (24 : Nat)), (by decide : 0 < 2 ^ (10 : Nat))⟩


theorem isValid_world (w : WM) (h : Handle) (hv : w.isValid h = true) : h.world = w.worldId := by
  unfold WM.isValid at hv
  simp only [Bool.and_eq_true, beq_iff_eq] at hv
  exact hv.1.2

theorem isValid_foreign (w : WM) (h : Handle) (hne : h.world ≠ w.worldId) : w.isValid h = false := by
  cases hv : w.isValid h with
  | false => rfl
  | true => exact absurd (isValid_world w h hv) hne

theorem isValid_of_slot (w : WM) (h : Handle) (hnn : h.isNull = false) (hw : h.world = w.worldId)
    (hs : w.slots[h.id]? = some ⟨h.id, h.ver⟩) : w.isValid h = true := by
  unfold WM.isValid
  rw [hnn, hw, hs]
  simp

/-- the handle `createWithOutInit` returns (the null pattern only on a corrupt free list) carries the world's id and
is valid at once in the world that issued it -/
theorem allocId_own (w : WM) (hnn : w.allocId.2.isNull = false) :
    w.allocId.2.world = w.worldId ∧ w.allocId.1.isValid w.allocId.2 = true := by
  by_cases he : w.empty = 0
  · rw [Rows.allocId_grow w he] at hnn ⊢
    exact ⟨rfl, isValid_of_slot _ _ hnn rfl (List.getElem?_concat_length ..)⟩
  · cases hs : w.slots[w.next]? with
    | none => rw [Rows.allocId_bad w he hs] at hnn; exact absurd hnn (show Handle.null.isNull ≠ false by decide)
    | some s =>
      rw [Rows.allocId_pop w he s hs] at hnn ⊢
      exact ⟨rfl, isValid_of_slot _ _ hnn rfl (List.getElem?_set_self (List.getElem?_eq_some_iff.mp hs).1)⟩

variable (info : CompId → CompInfo)

theorem getArch_slots (w : WM) (m s) : (w.getArch m s).1.slots = w.slots :=
  (Rows.getArch_sameTable w m s).slots

theorem create_unlocked (w : WM) (t : Nat) (mask : Mask) (sh : Shared) (hl : w.isLocked = false)
    (hnn : (w.create info t mask sh).2.1.isNull = false) :
    (w.create info t mask sh).2.1.world = w.worldId ∧
    (w.create info t mask sh).1.isValid (w.create info t mask sh).2.1 = true := by
  unfold WM.create at hnn ⊢
  simp only [hl, Bool.false_eq_true, if_false] at hnn ⊢
  have h := allocId_own (w.getArch mask sh).1 hnn
  exact ⟨h.1.trans (getArch_wid w mask sh), by rw [(Rows.archInsert_sameTable info _ _ _ _).isValid]; exact h.2⟩

theorem createLocked_world (w : WM) (t : Nat) (mask : Mask) (sh : Shared) :
    (w.createLocked t mask sh).2.world = w.worldId := rfl

end Mustache.Proofs.WorldsHandle
