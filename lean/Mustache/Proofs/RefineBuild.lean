import Mustache.Proofs.RefineEntity
/-!
# Refinement: the builder (`begin(e)….end()` on an existing entity, unlocked) and its `initComponent` loop
-/
namespace Mustache.Proofs.Refine
open Mustache.Model Mustache.Spec
open Mustache.Proofs.IdTable (tabOf Ghost TInv)
open Mustache.Proofs.Rows

variable (info : CompId → CompInfo)

theorem addsVals_length (tm : Mask) (adds : List (CompId × Option Nat)) (vals : List Val) :
    (addsVals info tm adds vals).length = vals.length := by
  induction adds generalizing vals with
  | nil => rfl
  | cons p rest ih =>
    simp only [addsVals, List.foldl_cons] at ih ⊢
    cases tm.indexOf? p.1 with
    | none => exact ih vals
    | some ci => simp only; rw [ih]; simp

theorem addsVals_get (tm : Mask) (adds : List (CompId × Option Nat)) (hn : (adds.map (·.1)).Nodup) (vals : List Val)
    (hl : vals.length = tm.length) (x : CompId) (hx : x ∈ tm) :
    (addsVals info tm adds vals).getD (tm.idxOf x) none =
      match adds.find? (·.1 == x) with
      | some p => storedOf info p.1 p.2
      | none => vals.getD (tm.idxOf x) none := by
  induction adds generalizing vals with
  | nil => rfl
  | cons p rest ih =>
    have hn' := List.nodup_cons.mp hn
    rw [addsVals_cons, List.find?_cons]
    by_cases hpx : p.1 = x
    · have hlt : tm.idxOf x < vals.length := hl ▸ (indexOf?_of_mem hx).2.1
      rw [hpx, (indexOf?_of_mem hx).1, beq_self_eq_true, ih hn'.2 _ ((List.length_set ..).trans hl),
        find?_fst_eq_none.mpr (hpx ▸ hn'.1)]
      simp [List.getD_eq_getElem?_getD, hlt, hpx]
    · rw [beq_false_of_ne hpx]
      cases hidx : tm.indexOf? p.1 with
      | none => exact ih hn'.2 vals hl
      | some ci =>
        rw [ih hn'.2 _ ((List.length_set ..).trans hl)]
        cases rest.find? (·.1 == x) with
        | some q => rfl
        | none =>
          have hne : ci ≠ tm.idxOf x := (indexOf?_some hidx).2 ▸ idxOf_ne (indexOf?_some hidx).1 hx hpx
          simp only
          rw [List.getD_eq_getElem?_getD, List.getElem?_set_ne hne, ← List.getD_eq_getElem?_getD]

theorem build_cb_list (pm tm : Mask) (adds : List (CompId × Option Nat)) (htn : tm.Nodup)
    (han : (adds.map (·.1)).Nodup) (hdisj : ∀ p ∈ adds, p.1 ∉ pm) :
    (tm.filter (fun c => !pm.contains c && (info c).callbacks && !(Mask.ofList (adds.map (·.1))).contains c) ++
      (adds.filter (fun p => tm.contains p.1 && (info p.1).callbacks)).map (·.1)).Perm
    (tm.filter (fun c => (info c).callbacks && !pm.contains c)) := by
  have h := new_cbs_perm info (pm := pm) htn han (fun c _ => mem_ofList _ c)
    (fun c hc => by obtain ⟨p, hp, rfl⟩ := List.mem_map.mp hc; exact hdisj p hp)
  rw [List.filter_map] at h
  exact h

theorem addsCbs_eq (tm : Mask) (e : Handle) (adds : List (CompId × Option Nat)) :
    addsCbs info tm e adds =
      ((adds.filter (fun p => tm.contains p.1 && (info p.1).callbacks)).map (·.1)).map (Cb.assign · e) := by
  rw [addsCbs, List.map_map]; rfl

theorem build_vals (pm tm : Mask) (prow : Row) (adds : List (CompId × Option Nat))
    (han : (adds.map (·.1)).Nodup) (hdisj : ∀ p ∈ adds, p.1 ∉ pm) (x : CompId) (hx : x ∈ tm) :
    (addsVals info tm adds (carry info tm pm prow (Mask.ofList (adds.map (·.1))))).getD (tm.idxOf x) none =
      if x ∈ pm then prow.vals.getD (pm.idxOf x) none
      else match adds.find? (·.1 == x) with
        | some p => storedVal info p.1 p.2
        | none => defaultVal info x := by
  rw [addsVals_get info tm adds han _ (carry_length info _ _ _ _) x hx]
  by_cases hxp : x ∈ pm
  · rw [if_pos hxp]
    have hnone : adds.find? (·.1 == x) = none := find?_fst_eq_none.mpr fun hm => by
      obtain ⟨p, hp, rfl⟩ := List.mem_map.mp hm
      exact hdisj p hp hxp
    rw [hnone]
    simp only
    rw [carry_get info _ _ _ _ x hx, carried_of_mem info _ _ _ x hxp]
  · rw [if_neg hxp]
    cases hf : adds.find? (·.1 == x) with
    | some p => rfl
    | none =>
      simp only
      rw [carry_get info _ _ _ _ x hx, carried_of_not_mem info _ _ _ x hxp]
      have : (Mask.ofList (adds.map (·.1))).contains x = false := by
        rw [contains_false_iff, mem_ofList]
        exact find?_fst_eq_none.mp hf
      rw [this]; rfl

theorem build_unlocked_refines {c : CW} {s : WS} (hi : Inv c) (hb : Bounds c) (hr : Rel c s)
    (hl : c.w.isLocked = false) (t : Nat) (e : Handle) (adds : List (CompId × Option Nat)) (rems : Mask)
    (hv : c.w.isValid e = true) (han : addsOk adds) (hdis : ∀ p ∈ adds, c.w.hasComp e p.1 = false) :
    StepRefines info c s (.build t e adds rems) := by
  obtain ⟨w, iss⟩ := c
  rcases rel_alive hi hb hr hv with ⟨k, pi, i, prow, ent, ha⟩
  have hplen : prow.vals.length = (w.arch pi).mask.length := ha.vals hi
  have hdisj : ∀ p ∈ adds, p.1 ∉ (w.arch pi).mask := fun p hp => by
    have := hdis p hp
    rw [hasComp_of_loc ha.loc, hv, Bool.true_and] at this
    exact contains_false_iff.mp this
  have hw0 : w.step info (.build t e adds rems) = ((w.buildUpdateU info e adds rems).1,
      resOut (w.buildUpdateU info e adds rems).2.1, (w.buildUpdateU info e adds rems).2.2) := by
    show (if w.isLocked = true then _ else _) = _
    rw [if_neg (by simp [hl])]
    rfl
  have hs0 : s.step info (.build t (ordOf iss e) adds rems) = (match s.doBuild info k adds rems with
      | some (s, cbs) => (s, .ok, cbs)
      | none => (s, .selfMove, [])) := by
    show (if s.lockDepth > 0 then _ else _) = _
    rw [if_neg (unlocked_spec hr hl), ha.ord]
    rfl
  have hmok : MaskOk (Mask.diff (Mask.union (Mask.ofList (adds.map (·.1))) (w.arch pi).mask) rems) :=
    Mask.sorted_diff (Mask.sorted_union (Mask.sorted_ofList _))
  generalize hmdef : Mask.diff (Mask.union (Mask.ofList (adds.map (·.1))) (w.arch pi).mask) rems = m at hmok
  generalize htm : closedMask w.deps m = tm
  have htmok : MaskOk tm := htm ▸ maskOk_closedMask w.deps hmok
  have hspec : s.doBuild info k adds rems = (if (tm == (w.arch pi).mask) = true then none else
      some (s.setEnt k (some { ent with
          comps := rebuild info (ent.comps.filter (fun p => tm.contains p.1)) tm
            (adds.map (fun p => (p.1, storedVal info p.1 p.2))) }), cbDiff info k (w.arch pi).mask tm)) := by
    simp only [WS.doBuild, ha.alive, ha.compSet hi, hr.deps, closed_eq, hmdef, htm]
  rw [hspec] at hs0
  rcases getArch_move_cases info hi ha m hmok (w.arch pi).shared (ha.sharedIn hi) (Mask.ofList (adds.map (·.1))) with
    ⟨hg, hnone, heq, _⟩ | ⟨w2, cbs, hsome, hmv, hks, hne, hcbs⟩
  · -- "to itself"
    refine noop_refines (out := .selfMove) (sout := .selfMove) info hi hr rfl ?_ ?_ rfl trivial
    · rw [hw0]
      simp only [WM.buildUpdateU, ha.locArch, ha.locIdx, hmdef, Shared.null_merge, hg, hnone, resOut]
    · show s.step info (.build t (ordOf iss e) adds rems) = _
      rw [hs0, ← htm, heq, beq_self_eq_true, if_pos rfl]
  · rw [htm] at hmv hcbs
    have hbne : (tm == (w.arch pi).mask) = false := by rw [← htm]; simpa using hne rfl
    rw [hbne] at hs0
    have hmask2 : (w2.arch (w.getArch m (w.arch pi).shared).2).mask = tm := by
      rw [(hks.key _).1, (getArch_key w m (w.arch pi).shared).1, htm]
    have hloop := builderLoop_explicit info tm adds w2 _ [] hmv hmask2
    have hw : w.step info (.build t e adds rems) =
        ((builderLoop info (w.getArch m (w.arch pi).shared).2 (w2.locOf e).idx e adds (w2, [])).1, .ok,
          cbs ++ addsCbs info tm e adds) := by
      rw [hw0]
      simp only [WM.buildUpdateU, ha.locArch, ha.locIdx, hmdef, Shared.null_merge, hsome, resOut]
      rw [← List.nil_append (addsCbs info tm e adds), ← hloop.2.1]
      rfl
    have hmr := moved_refines hi hr ha.issued hv (ha.sharedIn hi) hloop.1 (hks.trans hloop.2.2)
      { ent with
        comps := rebuild info (ent.comps.filter (fun p => tm.contains p.1)) tm
          (adds.map (fun p => (p.1, storedVal info p.1 p.2))) }
      (by
        rw [htm]
        show rebuild info _ tm _ = _
        refine (zip_eq_rebuild info (maskOk_nodup htmok) (by rw [addsVals_length, carry_length]) _ _ fun x hx => ?_).symm
        rw [ha.rel.1, rebuildEntry_zip_filter info _ _ hplen (fun c => tm.contains c), build_vals info _ _ _ adds han hdisj x hx,
          given_find]
        by_cases hxp : x ∈ (w.arch pi).mask
        · rw [if_pos hxp, if_pos ⟨hxp, List.contains_iff_mem.mpr hx⟩]
        · rw [if_neg hxp, if_neg (fun h => hxp h.1)]
          cases hf : adds.find? (·.1 == x) with
          | none => rfl
          | some p =>
            have : p.1 = x := by simpa using List.find?_some hf
            simp [this])
      (fun sid => ha.rel.2 sid)
    refine StepRefines.intro info hw hs0 hmr.1 hmr.2 ⟨trivial, ?_⟩
    -- callbacks: move-constructed ++ removed ++ builder arguments ~ (constructed ++ arguments) ++ removed
    show cbsAgree iss _ _
    rw [hcbs, addsCbs_eq, List.append_assoc]
    refine List.Perm.trans ((List.Perm.append_left _ List.perm_append_comm).map _) ?_
    rw [← List.append_assoc, ← List.map_append]
    exact cbsAgree_move info ha.ord _ tm (build_cb_list info (w.arch pi).mask tm adds (maskOk_nodup htmok) han hdisj)

end Mustache.Proofs.Refine
