import Mustache.Proofs.RowsRemove
import Mustache.Proofs.SharedArch
/-!
# `externalMove` = swap-remove from the source + insertion into the target; `getArchetype`
-/
namespace Mustache.Proofs.Rows
open Mustache.Model

theorem setArch_comm (w : WM) (i j : Nat) (a b : Arch) (h : i ≠ j) :
    (w.setArch i a).setArch j b = (w.setArch j b).setArch i a := by
  simp [WM.setArch, List.set_comm a b h]

theorem setLoc_setArch (w : WM) (i : Nat) (a : Arch) (h : Handle) (x : Option Nat) (y : Nat) :
    (w.setArch i a).setLoc h x y = (w.setLoc h x y).setArch i a := by
  unfold WM.setLoc; split <;> rfl

theorem archRemove_setArch_comm (info : CompId → CompInfo) (w : WM) (target prev idx : Nat) (sk : Mask)
    (X : Arch) (hne : target ≠ prev) :
    (w.setArch target X).archRemove info prev idx sk =
      ((w.archRemove info prev idx sk).1.setArch target X, (w.archRemove info prev idx sk).2) := by
  unfold WM.archRemove
  rw [arch_setArch_ne _ _ _ _ (Ne.symm hne)]
  simp only
  cases (w.arch prev).rows[idx]? with
  | none => rfl
  | some row =>
    simp only [setLoc_setArch, setArch_comm _ _ _ _ _ hne]
    split <;> rfl

/-- the values of the row built in the target archetype: carried over from the source row where the
source has the component, otherwise raw/fixed (constructor skipped) or the default -/
def moveVals (info : CompId → CompInfo) (w : WM) (target prev prevIdx : Nat) (skip : Mask) : List Val :=
  (w.arch target).mask.map (fun c =>
    match (w.arch prev).mask.indexOf? c with
    | some i => ((w.arch prev).rows.getD prevIdx default).vals.getD i none
    | none =>
      if skip.contains c then (match (info c).fixed with | some v => some v | none => none)
      else defaultVal info c)

theorem moveVals_length (info : CompId → CompInfo) (w : WM) (target prev prevIdx : Nat) (skip : Mask) :
    (moveVals info w target prev prevIdx skip).length = (w.arch target).mask.length :=
  List.length_map _

/-- the afterAssign callbacks `externalMove` fires for the freshly constructed components -/
def moveCbs (info : CompId → CompInfo) (w : WM) (t : Nat) (e : Handle) (p : Nat) (skip : Mask) : List Cb :=
  ((w.arch t).mask.filter (fun c => !(w.arch p).mask.contains c && (info c).callbacks && !skip.contains c)).map
    (Cb.assign · e)

theorem externalMove_self (info : CompId → CompInfo) (w : WM) (t : Nat) (e : Handle) (i : Nat) (skip : Mask) :
    w.externalMove info t e t i skip = none := by
  simp [WM.externalMove]

/-- `externalMove` to another archetype: remove from the source, then append to the target; the
assign callbacks of the new components come before the remove callbacks of the dropped ones -/
theorem externalMove_eq2 (info : CompId → CompInfo) (w : WM) (t : Nat) (e : Handle) (p i : Nat) (skip : Mask)
    (hne : t ≠ p) :
    w.externalMove info t e p i skip =
      some (insertRow (w.archRemove info p i (w.arch t).mask).1 t e (moveVals info w t p i skip),
        moveCbs info w t e p skip ++ (w.archRemove info p i (w.arch t).mask).2) := by
  unfold WM.externalMove
  rw [if_neg hne]
  simp only [archRemove_setArch_comm info w t p i _ _ hne]
  refine congrArg some (Prod.ext ?_ rfl)
  simp only
  unfold insertRow moveVals
  rw [archRemove_arch_ne info w p t i _ hne]
  rfl

theorem externalMove_isSome (info : CompId → CompInfo) (w : WM) (target : Nat) (e : Handle)
    (prev prevIdx : Nat) (skip : Mask) :
    (w.externalMove info target e prev prevIdx skip).isSome = true ↔ target ≠ prev := by
  by_cases h : target = prev
  · subst h; rw [externalMove_self]; exact ⟨nofun, fun h => absurd rfl h⟩
  · rw [externalMove_eq2 info w target e prev prevIdx skip h]; exact ⟨fun _ => h, fun _ => rfl⟩

/-! ## `getArchetype`

Projections of `getArch_post` and `Model.getArch_cases`, in the form the row proofs use. -/

theorem getArch_cases (w : WM) (m : Mask) (sh : Shared) :
    ((w.getArch m sh).1 = w ∧ (w.getArch m sh).2 < w.archs.length ∧
      (w.arch (w.getArch m sh).2).mask = closedMask w.deps m ∧
      (w.arch (w.getArch m sh).2).shared.data = sh.data) ∨
    ((w.getArch m sh).1 = { w with archs := w.archs ++ [⟨closedMask w.deps m, sh, []⟩] } ∧
      (w.getArch m sh).2 = w.archs.length ∧ w.findArch (closedMask w.deps m) sh = none) := by
  rcases Model.getArch_cases w m sh with ⟨i, hf, he⟩ | ⟨hf, he⟩ <;> rw [he]
  · obtain ⟨hlt, hm, hd, _⟩ := findArch_eq_some_iff.mp hf
    exact Or.inl ⟨rfl, hlt, hm, hd⟩
  · exact Or.inr ⟨rfl, rfl, hf⟩

theorem getArch_arch_lt (w : WM) (m : Mask) (sh : Shared) (aj : Nat) (h : aj < w.archs.length) :
    (w.getArch m sh).1.arch aj = w.arch aj :=
  (getArch_post w m sh).old aj h

theorem getArch_sameTable (w : WM) (m : Mask) (sh : Shared) : SameTable w (w.getArch m sh).1 := by
  rw [(getArch_post w m sh).frame]; exact sameTable_update w w.locs _

theorem getArch_locs (w : WM) (m : Mask) (sh : Shared) : (w.getArch m sh).1.locs = w.locs :=
  (congrArg WM.locs (getArch_post w m sh).frame :)

theorem getArch_length_le (w : WM) (m : Mask) (sh : Shared) :
    w.archs.length ≤ (w.getArch m sh).1.archs.length := by
  obtain ⟨tail, ht, _⟩ := (getArch_post w m sh).prefix_
  rw [ht, List.length_append]; exact Nat.le_add_right _ _

theorem getArch_idx_lt (w : WM) (m : Mask) (sh : Shared) :
    (w.getArch m sh).2 < (w.getArch m sh).1.archs.length :=
  (getArch_post w m sh).lt

theorem getArch_rows (w : WM) (m : Mask) (sh : Shared) (aj : Nat) :
    ((w.getArch m sh).1.arch aj).rows = (w.arch aj).rows := by
  rcases getArch_arch w m sh aj with h | ⟨h, h0⟩
  · rw [h]
  · rw [h, h0]

theorem getArch_key (w : WM) (m : Mask) (sh : Shared) :
    ((w.getArch m sh).1.arch (w.getArch m sh).2).mask = closedMask w.deps m ∧
    ((w.getArch m sh).1.arch (w.getArch m sh).2).shared.data = sh.data :=
  ⟨(getArch_post w m sh).mask, (getArch_post w m sh).data⟩

theorem rowsOK_getArch {w : WM} (hok : RowsOK w) (m : Mask) (sh : Shared) : RowsOK (w.getArch m sh).1 := by
  constructor
  · intro aj j r hr
    rw [getArch_rows] at hr
    rw [getArch_arch_lt w m sh aj (lt_of_row hr)]
    exact hok.vals aj j r hr
  · intro aj j r hr
    rw [getArch_rows] at hr
    rw [getArch_locs]
    exact hok.loc aj j r hr

theorem getArch_notInRow {w : WM} (m : Mask) (sh : Shared) {id : Nat} (h : NotInRow w id) :
    NotInRow (w.getArch m sh).1 id := by
  intro aj j r hr
  rw [getArch_rows] at hr
  exact h aj j r hr

theorem findArch_none {w : WM} {m : Mask} {sh : Shared} (h : w.findArch m sh = none) (ai : Nat)
    (hai : ai < w.archs.length) : ¬ ((w.arch ai).mask = m ∧ (w.arch ai).shared.data = sh.data) :=
  Model.findArch_none.mp h _ (arch_mem_archs hai)

/-- the keys stay pairwise distinct by `getArch_distinct`; the mask of the appended archetype is a closed mask -/
theorem keysOK_getArch {w : WM} (hk : KeysOK w) (m : Mask) (sh : Shared) (hm : MaskOk m) :
    KeysOK (w.getArch m sh).1 := by
  refine ⟨fun ai _ => ?_, archsDistinct_iff.mp (getArch_distinct (archsDistinct_iff.mpr hk.distinct) m sh)⟩
  rcases getArch_arch w m sh ai with h | ⟨h, _⟩ <;> rw [h]
  · exact hk.maskOk_arch ai
  · exact maskOk_closedMask _ hm

theorem same_key_same_arch {w : WM} (hk : KeysOK w) {ai aj : Nat} (hai : ai < w.archs.length)
    (haj : aj < w.archs.length) (hm : (w.arch ai).mask = (w.arch aj).mask)
    (hd : (w.arch ai).shared.data = (w.arch aj).shared.data) : ai = aj :=
  hk.distinct ai aj hai haj hm hd

-- `hmk` feeds only the `keys` clause of `Step` (itself conditional on `KeysOK w`); the callers that derive a mask from
-- an existing archetype's know it sorted only through `KeysOK.masks`, hence the implication
theorem getArch_step {w : WM} (hok : RowsOK w) (m : Mask) (sh : Shared) (id : Nat)
    (hmk : KeysOK w → MaskOk m) : Step w (w.getArch m sh).1 id := by
  refine ⟨rowsOK_getArch hok m sh, ⟨fun aj j r hr _ => ?_, fun h _ => (getArch_sameTable w m sh).isValid h⟩,
    by rw [getArch_locs]; exact Nat.le_refl _, fun _ _ h => getArch_notInRow m sh h,
    fun hk => keysOK_getArch hk m sh (hmk hk)⟩
  refine ⟨⟨j, by rw [getArch_rows]; exact hr, by rw [getArch_locs]; exact (hok.loc aj j r hr).2⟩, ?_⟩
  rw [getArch_arch_lt w m sh aj (lt_of_row hr)]; exact ⟨rfl, rfl⟩

end Mustache.Proofs.Rows
