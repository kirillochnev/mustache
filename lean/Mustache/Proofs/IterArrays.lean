import Mustache.Proofs.IterBlocks

/-! Proofs about `ArrayView`: the arrays handed out for a piece `(first filtered entity e, size)` of one
archetype are, concatenated, exactly `size` consecutive selected entities starting at the `e`-th one; every
array is non-empty, inside one block, inside one storage chunk, inside the population.

The loops are followed with a `Cursor`: a position in the block list together with the list of selected
entities still ahead of it. `seek`, `updateBlock` and the array loop each move the cursor and drop what they
pass from that list. -/
namespace Mustache.Iteration

/-- the blocks after `x` fit between `x.e` and the population -/
theorem BlocksOK.room {size : Nat} {rest : List Block} : ∀ {lo : Nat} {x : Block},
    BlocksOK size lo (x :: rest) → x.e + (flatRange rest).length ≤ size := by
  induction rest with
  | nil => exact fun h => h.2.2.1
  | cons y r ih =>
    intro _ x h
    have hy : BlocksOK size (x.e + 1) (y :: r) := h.2.2.2
    rw [flatRange_cons, List.length_append, Block.range, List.length_range', ← Nat.add_assoc]
    -- `x.e ≤ y.b`, so `x.e + (y.e - y.b) ≤ y.e`
    exact Nat.le_trans (Nat.add_le_add_right (Nat.le_trans (Nat.add_le_add_right (Nat.le_of_succ_le hy.1) _)
      (Nat.le_of_eq (Nat.add_sub_of_le (Nat.le_of_lt hy.2.1)))) _) (ih hy)

theorem updateBlock_zero (fa : FA) (v : AV) (h : v.distEnd = 0) : AV.updateBlock fa v = v := by
  simp [AV.updateBlock, h]

theorem updateBlock_stay (fa : FA) {bi : Nat} {blk : Block} (hg : fa.blocks.getD bi default = blk)
    (idx as dist bs : Nat) (hd : 0 < dist) (hlt : idx < blk.e) :
    AV.updateBlock fa ⟨bi, idx, as, dist, bs⟩ =
      ⟨bi, idx, min (blk.e - idx) (min (distToChunkEnd fa.size fa.cap idx) dist), dist, blk.e - idx⟩ := by
  have hne : blk.e - idx ≠ 0 := Nat.sub_ne_zero_of_lt hlt
  simp only [AV.updateBlock, hd, hg, hne, if_true, if_false]

theorem updateBlock_hop (fa : FA) {bi : Nat} {blk y : Block} (hg : fa.blocks.getD bi default = blk)
    (hg' : fa.blocks.getD (bi + 1) default = y) (as dist bs : Nat) (hd : 0 < dist) (hy : blk.e ≤ y.b) :
    AV.updateBlock fa ⟨bi, blk.e, as, dist, bs⟩ =
      ⟨bi + 1, y.b, min (y.e - y.b) (min (distToChunkEnd fa.size fa.cap y.b) dist), dist, y.e - y.b⟩ := by
  simp only [AV.updateBlock, hd, hg, hg', Nat.sub_self, Nat.add_sub_of_le hy, if_true]

/-- what the property demands of a single array `(first, len)` of archetype `fa` -/
def ArrOK (fa : FA) (p : Nat × Nat) : Prop :=
  1 ≤ p.2 ∧ p.1 + p.2 ≤ fa.size ∧ p.1 / fa.cap = (p.1 + p.2 - 1) / fa.cap ∧
    ∃ x ∈ fa.blocks, x.b ≤ p.1 ∧ p.1 + p.2 ≤ x.e

theorem same_chunk (idx k cap : Nat) (hcap : 1 ≤ cap) (hk : 1 ≤ k) (h : k ≤ cap - idx % cap) :
    idx / cap = (idx + k - 1) / cap := by
  refine (Nat.div_eq_of_lt_le (Nat.le_trans (Nat.div_mul_le_self idx cap)
    (Nat.le_sub_one_of_lt (Nat.lt_add_of_pos_right hk))) ?_).symm
  rw [Nat.add_mul, Nat.one_mul, Nat.mul_comm]
  refine Nat.lt_of_lt_of_le (Nat.sub_lt (Nat.add_pos_right _ hk) Nat.one_pos) ?_
  -- `idx + k ≤ cap * (idx / cap) + cap`, because `idx % cap + k ≤ cap`
  conv => lhs; rw [← Nat.div_add_mod idx cap, Nat.add_assoc]
  exact Nat.add_le_add_left (Nat.add_le_of_le_sub' (Nat.le_of_lt (Nat.mod_lt idx hcap)) h) _

theorem distToChunkEnd_pos (size cap idx : Nat) (hcap : 1 ≤ cap) (h : idx < size) :
    1 ≤ distToChunkEnd size cap idx :=
  Nat.le_min.mpr ⟨(if_pos h).symm ▸ Nat.sub_pos_of_lt h, Nat.sub_pos_of_lt (Nat.mod_lt idx hcap)⟩

/-- well-formedness of one filtered archetype (established by `applyFilter`, see `IterFilter`) -/
structure FA.WF (fa : FA) : Prop where
  cap : 1 ≤ fa.cap
  blocks : BlocksOK fa.size 0 fa.blocks
  count : fa.count = blocksCount fa.blocks
  pos : 0 < fa.count

/-- the selected entity indices of a filtered archetype, ascending -/
def FA.sel (fa : FA) : List Nat := flatRange fa.blocks

theorem FA.length_sel (fa : FA) (h : fa.WF) : fa.sel.length = fa.count := by
  rw [FA.sel, length_flatRange, h.count]

theorem range'_split (s : Nat) {k n : Nat} (h : k ≤ n) :
    List.range' s n = List.range' s k ++ List.range' (s + k) (n - k) := by
  rw [List.range'_append_1, Nat.add_sub_of_le h]

/-- `(bi, idx)` is a position of the array cursor: in block `blk = blocks[bi]` or at its end; `R` lists the
selected entities from `idx` on -/
structure Cursor (fa : FA) (bi : Nat) (blk : Block) (idx : Nat) (R : List Nat) : Prop where
  lo : blk.b ≤ idx
  hi : idx ≤ blk.e
  rest : ∃ post lo, fa.blocks.drop bi = blk :: post ∧ BlocksOK fa.size lo (blk :: post) ∧
    R = List.range' idx (blk.e - idx) ++ flatRange post

namespace Cursor
variable {fa : FA} {bi : Nat} {blk : Block} {idx : Nat} {R : List Nat}

theorem getD (hc : Cursor fa bi blk idx R) : fa.blocks.getD bi default = blk := by
  obtain ⟨_, _, h, _⟩ := hc.rest
  rw [List.getD_eq_getElem?_getD, ← List.head?_drop, h]; rfl

theorem mem (hc : Cursor fa bi blk idx R) : blk ∈ fa.blocks ∧ blk.b < blk.e ∧ blk.e ≤ fa.size :=
  let ⟨_, _, h, hok, _⟩ := hc.rest
  ⟨List.mem_of_mem_drop (h ▸ List.mem_cons_self), hok.2.1, hok.2.2.1⟩

theorem advance (hc : Cursor fa bi blk idx R) {k : Nat} (hk : k ≤ blk.e - idx) :
    Cursor fa bi blk (idx + k) (R.drop k) ∧ R.take k = List.range' idx k := by
  obtain ⟨post, lo, h, hok, rfl⟩ := hc.rest
  rw [range'_split idx hk, List.append_assoc, List.take_left' List.length_range',
    List.drop_left' List.length_range', Nat.sub_sub]
  exact ⟨⟨Nat.le_add_right_of_le hc.lo, Nat.add_le_of_le_sub' hc.hi hk, post, lo, h, hok, rfl⟩, rfl⟩

theorem hop (hc : Cursor fa bi blk blk.e R) (hR : R ≠ []) :
    ∃ y, Cursor fa (bi + 1) y y.b R ∧ blk.e ≤ y.b := by
  obtain ⟨post, lo, h, hok, rfl⟩ := hc.rest
  rw [Nat.sub_self] at hR ⊢
  cases post with
  | nil => exact absurd rfl hR
  | cons y post =>
    have hy : BlocksOK fa.size (blk.e + 1) (y :: post) := hok.2.2.2
    exact ⟨y, ⟨Nat.le_refl _, Nat.le_of_lt hy.2.1, post, _, List.tail_drop.symm.trans (congrArg List.tail h), hy,
      rfl⟩, Nat.le_of_succ_le hy.1⟩

theorem room (hc : Cursor fa bi blk idx R) : idx + R.length ≤ fa.size := by
  obtain ⟨post, lo, _, hok, rfl⟩ := hc.rest
  rw [List.length_append, List.length_range', ← Nat.add_assoc, Nat.add_sub_of_le hc.hi]
  exact hok.room

/-- what `updateBlock` does at a position with entities left: it stays, or hops from the end of a block to
the next one, and ends up strictly inside a block -/
theorem updateBlock (hc : Cursor fa bi blk idx R) (hR : R ≠ []) (as : Nat) {dist : Nat} (hd : 0 < dist)
    (bs : Nat) :
    ∃ bi' blk' idx', Cursor fa bi' blk' idx' R ∧ idx' < blk'.e ∧
      AV.updateBlock fa ⟨bi, idx, as, dist, bs⟩ =
        ⟨bi', idx', min (blk'.e - idx') (min (distToChunkEnd fa.size fa.cap idx') dist), dist, blk'.e - idx'⟩ := by
  by_cases hlt : idx < blk.e
  · exact ⟨bi, blk, idx, hc, hlt, updateBlock_stay fa hc.getD idx as dist bs hd hlt⟩
  · obtain rfl : idx = blk.e := Nat.le_antisymm hc.hi (Nat.le_of_not_lt hlt)
    obtain ⟨y, hy, hle⟩ := hc.hop hR
    exact ⟨bi + 1, y, y.b, hy, hy.mem.2.1, updateBlock_hop fa hc.getD hy.getD as dist bs hd hle⟩

/-- the array `updateBlock` cuts at a position strictly inside a block -/
theorem arrOK (hc : Cursor fa bi blk idx R) (hcap : 1 ≤ fa.cap) (hlt : idx < blk.e) {dist : Nat} (hd : 0 < dist) :
    ArrOK fa (idx, min (blk.e - idx) (min (distToChunkEnd fa.size fa.cap idx) dist)) := by
  have hp := distToChunkEnd_pos fa.size fa.cap idx hcap (Nat.lt_of_lt_of_le hlt hc.mem.2.2)
  have hk1 := Nat.le_min.mpr ⟨Nat.sub_pos_of_lt hlt, Nat.le_min.mpr ⟨hp, hd⟩⟩
  have hk2 := Nat.add_le_of_le_sub' (Nat.le_of_lt hlt)
    (Nat.min_le_left (blk.e - idx) (min (distToChunkEnd fa.size fa.cap idx) dist))
  have hk3 : min (blk.e - idx) (min (distToChunkEnd fa.size fa.cap idx) dist) ≤ fa.cap - idx % fa.cap :=
    Nat.le_trans (Nat.min_le_right _ _) (Nat.le_trans (Nat.min_le_left _ _) (Nat.min_le_right _ _))
  exact ⟨hk1, Nat.le_trans hk2 hc.mem.2.2, same_chunk _ _ _ hcap hk1 hk3, blk, hc.mem.1, hc.lo, hk2⟩

theorem seek : ∀ (fuel bi : Nat) (blk : Block) (R : List Nat) (c : Nat),
    Cursor fa bi blk blk.b R → c < R.length → c ≤ fuel →
    ∃ blk', Cursor fa (AV.seek fa.blocks fuel bi c).1 blk' (blk'.b + (AV.seek fa.blocks fuel bi c).2)
      (R.drop c) := by
  intro fuel
  induction fuel with
  | zero =>
    intro bi blk R c hc _ hf
    obtain rfl := Nat.le_zero.mp hf
    exact ⟨blk, hc⟩
  | succ f ih =>
    intro bi blk R c hc hlt hf
    rw [AV.seek, hc.getD]
    by_cases hgt : c > blk.e - blk.b
    · -- on to the end of the block, over to the next one, and on from there
      rw [if_pos (Nat.zero_lt_of_lt hgt), if_pos hgt]
      have hend := (hc.advance (Nat.le_refl _)).1
      rw [Nat.add_sub_of_le hc.hi] at hend
      have hlen := List.length_drop (i := blk.e - blk.b) (l := R)
      obtain ⟨y, hy, _⟩ := hend.hop (List.ne_nil_of_length_pos (hlen ▸ Nat.sub_pos_of_lt (Nat.lt_trans hgt hlt)))
      obtain ⟨blk', h⟩ := ih (bi + 1) y _ (c - (blk.e - blk.b)) hy
        (hlen ▸ Nat.sub_lt_sub_right (Nat.le_of_lt hgt) hlt)
        (Nat.sub_le_of_le_add (Nat.le_trans hf (Nat.add_le_add_left (Nat.sub_pos_of_lt hc.mem.2.1) f)))
      rw [List.drop_drop, Nat.add_sub_of_le (Nat.le_of_lt hgt)] at h
      exact ⟨blk', h⟩
    · rw [if_neg hgt, ite_self]
      exact ⟨blk, (hc.advance (Nat.le_of_not_lt hgt)).1⟩

theorem start (h : fa.WF) : ∃ blk, Cursor fa 0 blk blk.b fa.sel := by
  have hb := h.blocks
  have hl := fa.length_sel h
  unfold FA.sel at *
  cases hbl : fa.blocks with
  | nil => rw [hbl] at hl; exact absurd hl.symm (Nat.ne_of_gt h.pos)
  | cons x rest =>
    rw [hbl] at hb
    exact ⟨x, Nat.le_refl _, Nat.le_of_lt hb.2.1, rest, 0, hbl, hb, rfl⟩

end Cursor

theorem arrays_done (fa : FA) (fuel : Nat) (v : AV) (h : v.distEnd = 0) : AV.arrays fa fuel v = [] := by
  cases fuel <;> simp [AV.arrays, h]

theorem arrays_succ (fa : FA) (fuel : Nat) (v : AV) (h : v.distEnd ≠ 0) :
    AV.arrays fa (fuel + 1) v = (v.idx, v.arraySize) :: AV.arrays fa fuel (v.next fa) := by
  rw [AV.arrays, if_neg h]

/-- Started at any position, with `dist` entities to go, the loop hands out the next `dist` selected
entities, in arrays that are all well-formed. (The state is the one *before* `updateBlock`.) -/
theorem arrays_spec (fa : FA) (hcap : 1 ≤ fa.cap) : ∀ (fuel bi : Nat) (blk : Block) (idx as dist bs : Nat)
    (R : List Nat), Cursor fa bi blk idx R → dist ≤ R.length → dist ≤ fuel →
    let arrs := AV.arrays fa fuel (AV.updateBlock fa ⟨bi, idx, as, dist, bs⟩)
    arrs.flatMap (fun p => List.range' p.1 p.2) = R.take dist ∧ ∀ p ∈ arrs, ArrOK fa p := by
  intro fuel
  induction fuel with
  | zero =>
    intro bi blk idx as dist bs R _ _ hf
    obtain rfl := Nat.le_zero.mp hf
    exact ⟨rfl, List.forall_mem_nil _⟩
  | succ f ih =>
    intro bi blk idx as dist bs R hc hle hf
    by_cases hd : dist = 0
    · subst hd
      rw [arrays_done fa _ _ (by rw [updateBlock_zero fa _ rfl])]
      exact ⟨rfl, List.forall_mem_nil _⟩
    · have hR : R ≠ [] := List.ne_nil_of_length_pos (Nat.lt_of_lt_of_le (Nat.pos_of_ne_zero hd) hle)
      obtain ⟨bi', blk', idx', hc', hlt, heq⟩ := hc.updateBlock hR as (Nat.pos_of_ne_zero hd) bs
      have hA := hc'.arrOK hcap hlt (Nat.pos_of_ne_zero hd)
      have hk2 := Nat.min_le_left (blk'.e - idx') (min (distToChunkEnd fa.size fa.cap idx') dist)
      have hk3 : min (blk'.e - idx') (min (distToChunkEnd fa.size fa.cap idx') dist) ≤ dist :=
        Nat.le_trans (Nat.min_le_right _ _) (Nat.min_le_right _ _)
      rw [heq]
      generalize min (blk'.e - idx') (min (distToChunkEnd fa.size fa.cap idx') dist) = k at hA hk2 hk3 ⊢
      obtain ⟨hc'', htake⟩ := hc'.advance hk2
      have := ih bi' blk' (idx' + k) k (dist - k) (blk'.e - idx') (R.drop k) hc''
        (by rw [List.length_drop]; exact Nat.sub_le_sub_right hle k)
        (Nat.sub_le_of_le_add (Nat.le_trans hf (Nat.add_le_add_left hA.1 f)))
      rw [arrays_succ fa f _ hd]
      refine ⟨?_, List.forall_mem_cons.mpr ⟨hA, this.2⟩⟩
      rw [List.flatMap_cons, AV.next, this.1, ← htake, ← List.take_add, Nat.add_sub_of_le hk3]

theorem make_arrays (fa : FA) (h : fa.WF) (e size : Nat) (hs : 1 ≤ size) (hle : e + size ≤ fa.count) :
    let arrs := AV.arrays fa size (AV.make fa e size)
    arrs.flatMap (fun p => List.range' p.1 p.2) = (fa.sel.drop e).take size ∧ ∀ p ∈ arrs, ArrOK fa p := by
  obtain ⟨blk0, hc0⟩ := Cursor.start h
  have hlen := fa.length_sel h
  obtain ⟨blk, hc⟩ := hc0.seek e 0 blk0 _ e (hlen ▸ Nat.lt_of_lt_of_le (Nat.lt_add_of_pos_right hs) hle)
    (Nat.le_refl _)
  have hrest : size ≤ (fa.sel.drop e).length := by
    rw [List.length_drop, hlen]; exact Nat.le_sub_of_add_le' hle
  -- the bound `archetype size - first entity` of `ArrayView::make` does not bite
  rw [AV.make, hc.getD,
    Nat.min_eq_left (Nat.le_sub_of_add_le' (Nat.le_trans (Nat.add_le_add_left hrest _) hc.room))]
  exact arrays_spec fa h.cap size _ blk _ 0 size 0 _ hc hrest (Nat.le_refl _)

end Mustache.Iteration
