import Mustache.Proofs.RowsNew
/-!
# `applyCommandPack` decomposed (start / fold of commands / finish) and the fields it never touches

`isKill` (which command ends a pack) lives in `Mustache.Proofs.IdTable`, where the id-table automaton reads it;
it is defined here because `pst_dead` below is the first statement that needs it.
-/
namespace Mustache.Proofs.IdTable
open Mustache.Model

def isKill : Cmd → Bool
  | .destroyNow _ => true
  | _ => false

end Mustache.Proofs.IdTable

namespace Mustache.Proofs.Rows
open Mustache.Model
open IdTable (isKill)

def packStep (info : CompId → CompInfo) (e : Handle) (isCreate : Bool)
    (acc : WM × PackSt × List Cb) (c : Cmd) : WM × PackSt × List Cb :=
  let (w, p, cbs) := acc
  if p.dead then acc else
  match c with
  | .destroyNow _ =>
    if isCreate then (w.release e, { p with dead := true }, cbs)
    else let (w', cb) := w.destroyNowU info e; (w', { p with dead := true }, cbs ++ cb)
  | .create .. => acc
  | .destroy h => ({ w with marked := insertSorted w.marked h }, p, cbs)
  | .remove _ c =>
    if p.final.contains c then
      let next := closedMask w.deps (Mask.erase p.final c)
      if next.contains c then (w, { p with final := next }, cbs)
      else (w, { p with final := next, replaced := Mask.insert p.replaced c, src := p.src.filter (·.1 != c) }, cbs)
    else acc
  | .assign _ c v =>
    let src := p.src.filter (·.1 != c) ++ [(c, v)]
    if p.final.contains c then (w, { p with replaced := Mask.insert p.replaced c, src := src }, cbs)
    else (w, { p with final := closedMask w.deps (Mask.insert p.final c), src := src }, cbs)

def packStart (w : WM) (first : Cmd) : Option (WM × Mask × Shared) :=
  let e := first.entity
  match first with
  | .create _ m sh =>
    let w := w.ensureId e.id
    some ({ w with slots := w.slots.set e.id ⟨e.id, e.ver⟩ }, m, sh)
  | _ =>
    if !w.isValid e then none else
    match (w.locOf e).arch with
    | none => none
    | some ai => some (w, (w.arch ai).mask, (w.arch ai).shared)

def isCreateCmd (c : Cmd) : Bool := match c with | .create .. => true | _ => false

theorem packs_cons' (c : Cmd) (cs : List Cmd) :
    packs (c :: cs) =
      match packs cs with
      | [] => [[c]]
      | [] :: ps => [c] :: ps
      | (d :: ds) :: ps =>
        if c.entity = d.entity ∧ isCreateCmd d = false then (c :: d :: ds) :: ps
        else [c] :: (d :: ds) :: ps := by
  rw [packs]
  cases packs cs with
  | nil => rfl
  | cons p ps =>
    cases p with
    | nil => rfl
    | cons d ds =>
      simp only
      cases d <;> simp [isCreateCmd]

/-- the state in which a deferred creation's pack starts: slot installed, tables grown to cover the id -/
def startCreate (w : WM) (e : Handle) : WM :=
  { w.ensureId e.id with slots := (w.ensureId e.id).slots.set e.id ⟨e.id, e.ver⟩ }

/-- the component set a pack starts from: a creation looks its archetype up (closed set), an existing entity
    starts from the mask its archetype really has -/
def packInit (isCreate : Bool) (deps : List (CompId × Mask)) (m : Mask) : Mask :=
  if isCreate then closedMask deps m else m

theorem packInit_create (deps : List (CompId × Mask)) (m : Mask) : packInit true deps m = closedMask deps m := rfl
theorem packInit_existing (deps : List (CompId × Mask)) (m : Mask) : packInit false deps m = m := rfl

def packSetVal (ti idx : Nat) (w : WM) (c : CompId) (v : Val) : WM :=
  let ta := w.arch ti
  match ta.mask.indexOf? c with
  | none => w
  | some k =>
    let row := ta.rows.getD idx default
    w.setArch ti { ta with rows := ta.rows.set idx { row with vals := row.vals.set k v } }

/-- the archetype the pack ends in: an existing entity whose component set did not change stays in the archetype it
    is in (no lookup); otherwise `getArchetype` of the final set -/
def packTarget (e : Handle) (isCreate : Bool) (initial : Mask) (sh : Shared) (w : WM) (p : PackSt) : WM × Nat :=
  match (if isCreate || !(initial == p.final) then none else (w.locOf e).arch : Option Nat) with
  | some pi => (w, pi)
  | none => w.getArch p.final sh

/-- the state after `getArchetype` and the single move / insertion -/
def packMoved (info : CompId → CompInfo) (e : Handle) (isCreate : Bool) (initial : Mask) (sh : Shared)
    (w : WM) (p : PackSt) : WM × List Cb :=
  let g := packTarget e isCreate initial sh w p
  if isCreate then g.1.archInsert info g.2 e (Mask.ofList (p.src.map (·.1)))
  else
    match (g.1.locOf e).arch with
    | some pi => if pi = g.2 || initial == p.final then (g.1, []) else
        match g.1.externalMove info g.2 e pi (g.1.locOf e).idx (Mask.ofList (p.src.map (·.1))) with
        | some r => r
        | none => (g.1, [])
    | none => (g.1, [])

def packStale (isCreate : Bool) (initial : Mask) (p : PackSt) (supplied tmask : Mask) : List CompId :=
  (p.final.filter (fun c => p.replaced.contains c && initial.contains c)).filter
    (fun c => !(isCreate && supplied.contains c) && tmask.contains c)

/-- one step of the stale-instance loop: the carried-over instance of `c` goes (remove callback) and, unless a
value was supplied for it, a default-constructed one takes its place -/
def packStaleStep (info : CompId → CompInfo) (e : Handle) (supplied : Mask) (ti idx : Nat)
    (acc : WM × List Cb) (c : CompId) : WM × List Cb :=
  let cbR := if (info c).callbacks then [Cb.remove c e] else []
  if supplied.contains c then (acc.1, acc.2 ++ cbR)
  else (packSetVal ti idx acc.1 c (defaultVal info c),
        acc.2 ++ cbR ++ (if (info c).callbacks then [Cb.assign c e] else []))

/-- one step of the loop over the supplied values: the value is written when the target archetype has the component -/
def packSupplyStep (info : CompId → CompInfo) (e : Handle) (tmask : Mask) (ti idx : Nat)
    (acc : WM × List Cb) (cv : CompId × Val) : WM × List Cb :=
  if tmask.contains cv.1 then
    (packSetVal ti idx acc.1 cv.1 cv.2, acc.2 ++ (if (info cv.1).callbacks then [Cb.assign cv.1 e] else []))
  else acc

/-- what the finish does after the move to archetype `ti` (state `W1`, callbacks `cbs1`): the stale-instance loop and
the loop over the supplied values, both writing into the row of `e` -/
def packLoops (info : CompId → CompInfo) (e : Handle) (isCreate : Bool) (initial : Mask) (p : PackSt) (ti : Nat)
    (W1 : WM) (cbs1 cbs : List Cb) : WM × List Cb :=
  let sup := Mask.ofList (p.src.map (·.1))
  let r2 := (packStale isCreate initial p sup (W1.arch ti).mask).foldl
    (packStaleStep info e sup ti (W1.locOf e).idx) (W1, [])
  let r3 := p.src.foldl (packSupplyStep info e (r2.1.arch ti).mask ti (W1.locOf e).idx) (r2.1, [])
  (r3.1, cbs ++ cbs1 ++ r2.2 ++ r3.2)

/-- the finish of a pack whose entity is still alive: the target, the single move, the two loops -/
def packFinish (info : CompId → CompInfo) (e : Handle) (isCreate : Bool) (initial : Mask) (sh : Shared)
    (st : WM × PackSt × List Cb) : WM × List Cb :=
  if st.2.1.dead then (st.1, st.2.2) else
    packLoops info e isCreate initial st.2.1 (packTarget e isCreate initial sh st.1 st.2.1).2
      (packMoved info e isCreate initial sh st.1 st.2.1).1 (packMoved info e isCreate initial sh st.1 st.2.1).2 st.2.2

theorem applyPack_eq (info : CompId → CompInfo) (w : WM) (first : Cmd) (rest : List Cmd) :
    w.applyPack info (first :: rest) =
      match packStart w first with
      | none => (w, [])
      | some (w1, initial0, sh) =>
        packFinish info first.entity (isCreateCmd first) (packInit (isCreateCmd first) w1.deps initial0) sh
          ((if isCreateCmd first then rest else first :: rest).foldl
            (packStep info first.entity (isCreateCmd first))
            (w1, { final := packInit (isCreateCmd first) w1.deps initial0 }, [])) := by
  rfl

theorem packStart_create (w : WM) (e : Handle) (m : Mask) (sh : Shared) :
    packStart w (.create e m sh) = some (startCreate w e, m, sh) := rfl

theorem packStart_other (w : WM) (first : Cmd) (h : isCreateCmd first = false) :
    packStart w first =
      if !w.isValid first.entity then none else
      match (w.locOf first.entity).arch with
      | none => none
      | some ai => some (w, (w.arch ai).mask, (w.arch ai).shared) := by
  cases first with
  | create e m sh => cases h
  | _ => rfl

/-- a pack on an existing entity starts only when its target is alive and has an archetype, and then
from the state as it is -/
theorem packStart_other_some {w : WM} {first : Cmd} {r : WM × Mask × Shared} (hc : isCreateCmd first = false)
    (h : packStart w first = some r) :
    w.isValid first.entity = true ∧ ∃ ai, (w.locOf first.entity).arch = some ai ∧
      r = (w, (w.arch ai).mask, (w.arch ai).shared) := by
  rw [packStart_other w first hc] at h
  cases hv : w.isValid first.entity with
  | false => rw [hv] at h; cases h
  | true =>
    rw [hv] at h
    cases hla : (w.locOf first.entity).arch with
    | none => rw [hla] at h; cases h
    | some ai => rw [hla] at h; cases h; exact ⟨rfl, ai, rfl, rfl⟩

/-! ## one step: the pack state and the world

`packStep` does two independent things. It updates the pack state, which depends on the dependency table only (`pst`),
and, for `destroyNow` and `destroy` alone, it changes the world (`cmdWorld`). -/

def pst (deps : List (CompId × Mask)) (p : PackSt) (c : Cmd) : PackSt :=
  if p.dead then p else
  match c with
  | .destroyNow _ => { p with dead := true }
  | .create .. => p
  | .destroy _ => p
  | .remove _ c =>
    if p.final.contains c then
      if (closedMask deps (Mask.erase p.final c)).contains c then { p with final := closedMask deps (Mask.erase p.final c) }
      else { p with final := closedMask deps (Mask.erase p.final c), replaced := Mask.insert p.replaced c,
                    src := p.src.filter (·.1 != c) }
    else p
  | .assign _ c v =>
    if p.final.contains c then { p with replaced := Mask.insert p.replaced c, src := p.src.filter (·.1 != c) ++ [(c, v)] }
    else { p with final := closedMask deps (Mask.insert p.final c), src := p.src.filter (·.1 != c) ++ [(c, v)] }

theorem pst_dead (deps : List (CompId × Mask)) (p : PackSt) (c : Cmd) (hd : p.dead = true) : pst deps p c = p :=
  if_pos hd

theorem pst_dead_eq (deps : List (CompId × Mask)) (p : PackSt) (c : Cmd) :
    (pst deps p c).dead = (p.dead || isKill c) := by
  unfold pst
  cases hd : p.dead with
  | true => exact hd
  | false =>
    cases c with
    | create e m sh => exact hd
    | destroyNow e => rfl
    | destroy e => exact hd
    | remove e c =>
      simp only [Bool.false_eq_true, if_false, isKill, Bool.or_false]
      split
      · split <;> rfl
      · exact hd
    | assign e c v =>
      simp only [Bool.false_eq_true, if_false, isKill, Bool.or_false]
      split <;> rfl

def isDestroyCmd : Cmd → Bool
  | .destroy _ => true
  | _ => false

/-- whether some `destroy` came while the entity was alive: it is then marked (once: marking is idempotent) -/
def markedBy (deps : List (CompId × Mask)) (p : PackSt) : List Cmd → Bool
  | [] => false
  | c :: rest => (isDestroyCmd c && !p.dead) || markedBy deps (pst deps p c) rest

/-- the entity of the pack is destroyed: a reserved handle that was just installed is released again, an existing
entity goes through the unlocked `destroyNow` -/
def kill (info : CompId → CompInfo) (e : Handle) (isCreate : Bool) (w : WM) : WM × List Cb :=
  if isCreate then (w.release e, []) else w.destroyNowU info e

def cmdWorld (info : CompId → CompInfo) (e : Handle) (isCreate dead : Bool) (w : WM) : Cmd → WM × List Cb
  | .destroyNow _ => if dead then (w, []) else kill info e isCreate w
  | .destroy h => if dead then (w, []) else ({ w with marked := insertSorted w.marked h }, [])
  | _ => (w, [])

theorem cmdWorld_dead (info : CompId → CompInfo) (e : Handle) (isCreate : Bool) (w : WM) (c : Cmd) :
    cmdWorld info e isCreate true w c = (w, []) := by
  cases c <;> rfl

theorem packStep_eq (info : CompId → CompInfo) (e : Handle) (isCreate : Bool) (w : WM) (p : PackSt) (cbs : List Cb)
    (c : Cmd) :
    packStep info e isCreate (w, p, cbs) c =
      ((cmdWorld info e isCreate p.dead w c).1, pst w.deps p c, cbs ++ (cmdWorld info e isCreate p.dead w c).2) := by
  unfold packStep pst
  simp only
  cases p.dead with
  | true => cases c <;> simp [cmdWorld]
  | false =>
    simp only [Bool.false_eq_true, if_false]
    cases c with
    | create e' m sh => simp [cmdWorld]
    | destroyNow e' => cases isCreate <;> simp [cmdWorld, kill]
    | destroy h => simp [cmdWorld]
    | remove e' c' =>
      simp only [cmdWorld, List.append_nil]
      split
      · split <;> rfl
      · rfl
    | assign e' c' v =>
      simp only [cmdWorld, List.append_nil]
      split <;> rfl

/-- a pack whose target has been destroyed ignores the rest of its commands -/
theorem packStep_dead (info : CompId → CompInfo) (e : Handle) (isCreate : Bool) (w : WM) (p : PackSt)
    (cbs : List Cb) (c : Cmd) (hd : p.dead = true) :
    packStep info e isCreate (w, p, cbs) c = (w, p, cbs) := by
  rw [packStep_eq, pst_dead _ _ _ hd, hd, cmdWorld_dead, List.append_nil]

theorem packTarget_create (e : Handle) (initial : Mask) (sh : Shared) (w : WM) (p : PackSt) :
    packTarget e true initial sh w p = w.getArch p.final sh := rfl

theorem packTarget_ne (e : Handle) (isCreate : Bool) (initial : Mask) (sh : Shared) (w : WM) (p : PackSt)
    (h : initial ≠ p.final) : packTarget e isCreate initial sh w p = w.getArch p.final sh := by
  unfold packTarget
  have : (initial == p.final) = false := by simpa using h
  rw [this]; simp

theorem packTarget_stay (e : Handle) (initial : Mask) (sh : Shared) (w : WM) (p : PackSt) (pi : Nat)
    (h : initial = p.final) (hl : (w.locOf e).arch = some pi) : packTarget e false initial sh w p = (w, pi) := by
  unfold packTarget
  have : (initial == p.final) = true := by simpa using h
  rw [this, hl]; rfl

theorem packTarget_noarch (e : Handle) (isCreate : Bool) (initial : Mask) (sh : Shared) (w : WM) (p : PackSt)
    (hl : (w.locOf e).arch = none) : packTarget e isCreate initial sh w p = w.getArch p.final sh := by
  unfold packTarget
  split
  · rename_i pi hpi
    split at hpi
    · cases hpi
    · rw [hl] at hpi; cases hpi
  · rfl

/-- the archetype with the looked-up key exists and keys are unique: `getArchetype` returns it, state unchanged -/
theorem getArch_own {w : WM} (hk : KeysOK w) (m : Mask) (sh : Shared) (pi : Nat) (hpi : pi < w.archs.length)
    (hm : (w.arch pi).mask = closedMask w.deps m) (hs : (w.arch pi).shared.data = sh.data) :
    w.getArch m sh = (w, pi) := by
  rcases getArch_cases w m sh with ⟨h1, hlt, hm', hs'⟩ | ⟨_, _, hnone⟩
  · exact Prod.ext h1 (hk.distinct _ _ hlt hpi (by rw [hm', hm]) (by rw [hs', hs]))
  · exact absurd ⟨hm, hs⟩ (findArch_none hnone pi hpi)

theorem packTarget_cases (e : Handle) (isCreate : Bool) (initial : Mask) (sh : Shared) (w : WM) (p : PackSt) :
    (isCreate = false ∧ initial = p.final ∧ ∃ pi, (w.locOf e).arch = some pi ∧
      packTarget e isCreate initial sh w p = (w, pi)) ∨
    packTarget e isCreate initial sh w p = w.getArch p.final sh := by
  cases isCreate with
  | true => exact Or.inr rfl
  | false =>
    by_cases hne : initial = p.final
    · cases hl : (w.locOf e).arch with
      | none => exact Or.inr (packTarget_noarch e false initial sh w p hl)
      | some pi => exact Or.inl ⟨rfl, hne, pi, rfl, packTarget_stay e initial sh w p pi hne hl⟩
    · exact Or.inr (packTarget_ne e false initial sh w p hne)

/-- on an entity whose archetype mask is closed, staying and looking the unchanged set up are the same -/
theorem packTarget_closed {w : WM} (hk : KeysOK w) (e : Handle) (isCreate : Bool) (initial : Mask) (sh : Shared)
    (p : PackSt) (pi : Nat) (hl : (w.locOf e).arch = some pi) (hpi : pi < w.archs.length)
    (hm : (w.arch pi).mask = initial) (hsh : (w.arch pi).shared = sh)
    (hcl : closedMask w.deps initial = initial) :
    packTarget e isCreate initial sh w p = w.getArch p.final sh := by
  rcases packTarget_cases e isCreate initial sh w p with ⟨_, hfin, pi', hl', ht⟩ | h
  · rw [hl] at hl'; cases hl'
    rw [ht, getArch_own hk p.final sh pi hpi (by rw [← hfin, hcl, hm]) (by rw [hsh])]
  · exact h

theorem packMoved_stay (info : CompId → CompInfo) (e : Handle) (initial : Mask) (sh : Shared) (w : WM) (p : PackSt)
    (pi : Nat) (hl : (w.locOf e).arch = some pi) (ht : packTarget e false initial sh w p = (w, pi)) :
    packMoved info e false initial sh w p = (w, []) := by
  unfold packMoved
  simp only [ht, hl, Bool.false_eq_true, if_false, Bool.true_or, if_true, decide_true]

/-- an existing entity whose component set changed: one lookup, one `externalMove` (refused when the
lookup returns the archetype the entity is in) -/
theorem packMoved_changed (info : CompId → CompInfo) (e : Handle) (initial : Mask) (sh : Shared) (w : WM)
    (p : PackSt) (pi : Nat) (hne : initial ≠ p.final) (hla : (w.locOf e).arch = some pi) :
    packMoved info e false initial sh w p =
      match (w.getArch p.final sh).1.externalMove info (w.getArch p.final sh).2 e pi (w.locOf e).idx
          (Mask.ofList (p.src.map (·.1))) with
      | some r => r
      | none => ((w.getArch p.final sh).1, []) := by
  have hb : (initial == p.final) = false := by simpa using hne
  have hloc : (w.getArch p.final sh).1.locOf e = w.locOf e := by unfold WM.locOf; rw [getArch_locs]
  unfold packMoved
  rw [packTarget_ne e false initial sh w p hne]
  simp only [Bool.false_eq_true, if_false, hloc, hla, hb, Bool.or_false, decide_eq_true_eq]
  by_cases hti : pi = (w.getArch p.final sh).2
  · rw [if_pos hti, ← hti, externalMove_self]
  · rw [if_neg hti]

theorem packFinish_eq (info : CompId → CompInfo) (e : Handle) (isCreate : Bool) (initial : Mask)
    (sh : Shared) (w : WM) (p : PackSt) (cbs : List Cb) :
    packFinish info e isCreate initial sh (w, p, cbs) =
      if p.dead then (w, cbs) else
        packLoops info e isCreate initial p (packTarget e isCreate initial sh w p).2
          (packMoved info e isCreate initial sh w p).1 (packMoved info e isCreate initial sh w p).2 cbs := rfl

theorem packFinish_dead (info : CompId → CompInfo) (e : Handle) (isCreate : Bool) (initial : Mask) (sh : Shared)
    (w : WM) (p : PackSt) (cbs : List Cb) (hd : p.dead = true) :
    packFinish info e isCreate initial sh (w, p, cbs) = (w, cbs) := if_pos hd

theorem packFinish_alive (info : CompId → CompInfo) (e : Handle) (isCreate : Bool) (initial : Mask) (sh : Shared)
    (w : WM) (p : PackSt) (cbs : List Cb) (hd : p.dead = false) :
    packFinish info e isCreate initial sh (w, p, cbs) =
      packLoops info e isCreate initial p (packTarget e isCreate initial sh w p).2
        (packMoved info e isCreate initial sh w p).1 (packMoved info e isCreate initial sh w p).2 cbs :=
  if_neg (hd ▸ Bool.false_ne_true)

/-- no component of the final set was both there at the start and removed or re-assigned on the way:
there is no stale instance to replace -/
theorem packStale_eq_nil (isCreate : Bool) (initial : Mask) (p : PackSt) (supplied tm : Mask)
    (h : ∀ x ∈ p.final, x ∈ p.replaced → x ∉ initial) : packStale isCreate initial p supplied tm = [] := by
  have h1 : p.final.filter (fun c => p.replaced.contains c && initial.contains c) = [] := by
    rw [List.filter_eq_nil_iff]
    intro x hx hf
    simp only [Bool.and_eq_true, List.contains_iff_mem] at hf
    exact h x hx hf.1 hf.2
  unfold packStale
  rw [h1]; rfl

theorem packFinish_nostale (info : CompId → CompInfo) (e : Handle) (isCreate : Bool) (initial : Mask)
    (sh : Shared) (w : WM) (p : PackSt) (cbs : List Cb) (hd : p.dead = false)
    (hstale : ∀ x ∈ p.final, x ∈ p.replaced → x ∉ initial) :
    packFinish info e isCreate initial sh (w, p, cbs) =
      let ti := (packTarget e isCreate initial sh w p).2
      let m := packMoved info e isCreate initial sh w p
      let r3 := p.src.foldl (packSupplyStep info e (m.1.arch ti).mask ti (m.1.locOf e).idx) (m.1, [])
      (r3.1, cbs ++ m.2 ++ r3.2) := by
  rw [packFinish_alive _ _ _ _ _ _ _ _ hd]
  unfold packLoops
  simp only [packStale_eq_nil isCreate initial p _ _ hstale, List.foldl_nil, List.append_nil]

theorem foldl_fst_rel {β : Type} (R : WM → WM → Prop) (hrefl : ∀ a, R a a) (htrans : ∀ a b c, R a b → R b c → R a c)
    (f : WM × List Cb → β → WM × List Cb) (hf : ∀ a b, R a.1 (f a b).1) (l : List β) (a : WM × List Cb) :
    R a.1 (l.foldl f a).1 :=
  foldl_rel (fun a b : WM × List Cb => R a.1 b.1) (fun a => hrefl a.1) (fun _ _ _ h₁ h₂ => htrans _ _ _ h₁ h₂) f hf l a

theorem packLoops_rel (R : WM → WM → Prop) (hrefl : ∀ a, R a a) (htrans : ∀ a b c, R a b → R b c → R a c)
    (hset : ∀ ti idx a c v, R a (packSetVal ti idx a c v))
    (info : CompId → CompInfo) (e : Handle) (isCreate : Bool) (initial : Mask) (p : PackSt) (ti : Nat) (W1 : WM)
    (cbs1 cbs : List Cb) : R W1 (packLoops info e isCreate initial p ti W1 cbs1 cbs).1 := by
  refine htrans _ _ _ (foldl_fst_rel R hrefl htrans (packStaleStep info e _ ti _) (fun a c => ?_) _ (W1, []))
    (foldl_fst_rel R hrefl htrans (packSupplyStep info e _ ti _) (fun a cv => ?_) _ (_, []))
  · unfold packStaleStep
    simp only
    split
    · exact hrefl _
    · exact hset _ _ _ _ _
  · unfold packSupplyStep
    split
    · exact hset _ _ _ _ _
    · exact hrefl _

structure SameCtl (w w' : WM) : Prop where
  worldId : w'.worldId = w.worldId
  deps : w'.deps = w.deps
  pool : w'.pool = w.pool
  nextInst : w'.nextInst = w.nextInst
  lockDepth : w'.lockDepth = w.lockDepth
  nextEntityId : w'.nextEntityId = w.nextEntityId
  nthreads : w'.nthreads = w.nthreads
  buffers : w'.buffers = w.buffers
  temps : w'.temps = w.temps

theorem sameCtl_update (w : WM) (s : List Slot) (n k : Nat) (l : List Loc) (a : List Arch) (m : List Handle) :
    SameCtl w { w with slots := s, next := n, empty := k, locs := l, archs := a, marked := m } :=
  ⟨rfl, rfl, rfl, rfl, rfl, rfl, rfl, rfl, rfl⟩

theorem SameCtl.refl (w : WM) : SameCtl w w := sameCtl_update w w.slots w.next w.empty w.locs w.archs w.marked

theorem SameCtl.trans {a b c : WM} (h₁ : SameCtl a b) (h₂ : SameCtl b c) : SameCtl a c :=
  ⟨h₂.worldId.trans h₁.worldId, h₂.deps.trans h₁.deps, h₂.pool.trans h₁.pool,
   h₂.nextInst.trans h₁.nextInst, h₂.lockDepth.trans h₁.lockDepth,
   h₂.nextEntityId.trans h₁.nextEntityId, h₂.nthreads.trans h₁.nthreads,
   h₂.buffers.trans h₁.buffers, h₂.temps.trans h₁.temps⟩

theorem SameTable.ctl {w w' : WM} (h : SameTable w w') : SameCtl w w' :=
  ⟨h.worldId, h.deps, h.pool, h.nextInst, h.lockDepth, h.nextEntityId, h.nthreads, h.buffers, h.temps⟩

theorem release_ctl (w : WM) (h : Handle) : SameCtl w (w.release h) := by
  unfold WM.release
  simp only
  split
  · exact sameCtl_update w _ _ _ w.locs w.archs w.marked
  · exact sameCtl_update w _ _ _ _ w.archs w.marked

theorem ensureId_ctl (w : WM) (id : Nat) : SameCtl w (w.ensureId id) :=
  sameCtl_update w _ w.next w.empty _ w.archs w.marked

theorem destroyNowU_ctl (info : CompId → CompInfo) (w : WM) (h : Handle) :
    SameCtl w (w.destroyNowU info h).1 := by
  rw [destroyNowU_fst]
  split
  · cases (w.locOf h).arch with
    | none => exact release_ctl w h
    | some ai => exact (archRemove_sameTable info w ai _ []).ctl.trans (release_ctl _ h)
  · exact SameCtl.refl w

theorem archInsert_sameTable (info : CompId → CompInfo) (w : WM) (ai : Nat) (e : Handle) (skip : Mask) :
    SameTable w (w.archInsert info ai e skip).1 := by
  rcases archInsert_eq info w ai e skip with ⟨vals, heq, _⟩
  rw [heq]; exact insertRow_sameTable _ _ _ _

theorem externalMove_sameTable (info : CompId → CompInfo) (w : WM) (t : Nat) (e : Handle) (p i : Nat)
    (skip : Mask) (r : WM × List Cb) (h : w.externalMove info t e p i skip = some r) : SameTable w r.1 := by
  by_cases hne : t = p
  · subst hne; rw [externalMove_self] at h; cases h
  · rw [externalMove_eq2 info w t e p i skip hne] at h; cases h
    exact (archRemove_sameTable info w p i _).trans (insertRow_sameTable _ _ _ _)

theorem packSetVal_sameTable (ti idx : Nat) (w : WM) (c : CompId) (v : Val) :
    SameTable w (packSetVal ti idx w c v) := by
  unfold packSetVal
  simp only
  split
  · exact SameTable.refl w
  · exact sameTable_setArch _ _ _

theorem kill_ctl (info : CompId → CompInfo) (e : Handle) (isCreate : Bool) (w : WM) :
    SameCtl w (kill info e isCreate w).1 := by
  cases isCreate with
  | true => exact release_ctl w e
  | false => exact destroyNowU_ctl info w e

theorem cmdWorld_ctl (info : CompId → CompInfo) (e : Handle) (isCreate dead : Bool) (w : WM) (c : Cmd) :
    SameCtl w (cmdWorld info e isCreate dead w c).1 := by
  cases dead with
  | true => rw [cmdWorld_dead]; exact SameCtl.refl w
  | false =>
    cases c with
    | destroyNow _ => exact kill_ctl info e isCreate w
    | destroy h => exact sameCtl_update w w.slots w.next w.empty w.locs w.archs _
    | _ => exact SameCtl.refl w

theorem packStep_ctl (info : CompId → CompInfo) (e : Handle) (isCreate : Bool)
    (acc : WM × PackSt × List Cb) (c : Cmd) : SameCtl acc.1 (packStep info e isCreate acc c).1 := by
  rw [packStep_eq]
  exact cmdWorld_ctl info e isCreate _ acc.1 c

theorem packFold_ctl (info : CompId → CompInfo) (e : Handle) (isCreate : Bool) (l : List Cmd)
    (acc : WM × PackSt × List Cb) : SameCtl acc.1 (l.foldl (packStep info e isCreate) acc).1 :=
  foldl_rel (fun a b : WM × PackSt × List Cb => SameCtl a.1 b.1) (fun a => SameCtl.refl a.1)
    (fun _ _ _ h₁ h₂ => h₁.trans h₂) _ (packStep_ctl info e isCreate) l acc

theorem packTarget_sameTable (e : Handle) (isCreate : Bool) (initial : Mask) (sh : Shared) (w : WM) (p : PackSt) :
    SameTable w (packTarget e isCreate initial sh w p).1 := by
  unfold packTarget
  split
  · exact SameTable.refl w
  · exact getArch_sameTable w p.final sh

theorem packMoved_sameTable (info : CompId → CompInfo) (e : Handle) (isCreate : Bool) (initial : Mask)
    (sh : Shared) (w : WM) (p : PackSt) : SameTable w (packMoved info e isCreate initial sh w p).1 := by
  unfold packMoved
  simp only
  refine (packTarget_sameTable e isCreate initial sh w p).trans ?_
  split
  · exact archInsert_sameTable info _ _ _ _
  · split
    · split
      · exact SameTable.refl _
      · split
        · rename_i r hr; exact externalMove_sameTable info _ _ _ _ _ _ r hr
        · exact SameTable.refl _
    · exact SameTable.refl _

theorem packFinish_sameTable (info : CompId → CompInfo) (e : Handle) (isCreate : Bool) (initial : Mask)
    (sh : Shared) (st : WM × PackSt × List Cb) :
    SameTable st.1 (packFinish info e isCreate initial sh st).1 := by
  unfold packFinish
  split
  · exact SameTable.refl _
  · exact (packMoved_sameTable info e isCreate initial sh _ _).trans
      (packLoops_rel SameTable SameTable.refl (fun _ _ _ h₁ h₂ => h₁.trans h₂) packSetVal_sameTable ..)

theorem packFinish_ctl (info : CompId → CompInfo) (e : Handle) (isCreate : Bool) (initial : Mask)
    (sh : Shared) (st : WM × PackSt × List Cb) :
    SameCtl st.1 (packFinish info e isCreate initial sh st).1 :=
  (packFinish_sameTable info e isCreate initial sh st).ctl

theorem packStart_ctl (w : WM) (first : Cmd) (r : WM × Mask × Shared) (h : packStart w first = some r) :
    SameCtl w r.1 := by
  cases hc : isCreateCmd first with
  | false =>
    rcases packStart_other_some hc h with ⟨_, ai, _, rfl⟩
    exact SameCtl.refl w
  | true =>
    cases first with
    | create e m sh => cases h; exact sameCtl_update w _ w.next w.empty _ w.archs w.marked
    | _ => cases hc

theorem applyPack_ctl (info : CompId → CompInfo) (w : WM) (pack : List Cmd) :
    SameCtl w (w.applyPack info pack).1 := by
  cases pack with
  | nil => exact SameCtl.refl w
  | cons first rest =>
    rw [applyPack_eq]
    cases hs : packStart w first with
    | none => exact SameCtl.refl w
    | some r =>
      rcases r with ⟨w1, initial0, sh⟩
      simp only
      exact ((packStart_ctl w first _ hs).trans
        (packFold_ctl info first.entity (isCreateCmd first) _ (w1, { final := packInit (isCreateCmd first) w1.deps initial0 }, []))).trans
        (packFinish_ctl info _ _ _ _ _)

end Mustache.Proofs.Rows
