import Mustache.Model.CApi
import Mustache.Proofs.RowsPack
/-! # C18 helper: congruence of the world-model operations in the component description

`Agree I I'`: two component descriptions give every component the same default-construction value (`defaultVal`),
the same `fixed` value and the same `callbacks` / `counted` flags. Every operation of the world model (and of the C++
interface layer of `Model/CApi.lean`) is then the same function for both: the operations read the description
ONLY through those four projections. In particular `hasCtor` and `dflt` matter only through `defaultVal`, the value
of a freshly default-constructed component.

The lemmas are equations between functions (`WM.archRemove I = WM.archRemove I'`), so that a caller's lemma rewrites
the callee wherever it occurs in the caller's body, also under a binder. `WM.applyPack` is taken in the parts
`Proofs/RowsPack.lean` names (`Rows.applyPack_eq`, `Rows.packFinish`, `Rows.packLoops`). -/
namespace Mustache.Proofs.CApi
open Mustache.Model Mustache.Model.CApi

structure AgreeC (I I' : CompId → CompInfo) : Prop where
  dv : ∀ c, defaultVal I c = defaultVal I' c
  fx : ∀ c, (I c).fixed = (I' c).fixed
  cb : ∀ c, (I c).callbacks = (I' c).callbacks

structure Agree (I I' : CompId → CompInfo) : Prop where
  dv : ∀ c, defaultVal I c = defaultVal I' c
  fx : ∀ c, (I c).fixed = (I' c).fixed
  cb : ∀ c, (I c).callbacks = (I' c).callbacks
  ct : ∀ c, (I c).counted = (I' c).counted

theorem Agree.toC {I I' : CompId → CompInfo} (h : Agree I I') : AgreeC I I' := ⟨h.dv, h.fx, h.cb⟩

variable {I I' : CompId → CompInfo}

theorem archRemove_congr (h : AgreeC I I') : WM.archRemove I = WM.archRemove I' := by
  funext w ai idx skip
  unfold WM.archRemove
  simp only [h.cb]

theorem archInsert_congr (h : AgreeC I I') : WM.archInsert I = WM.archInsert I' := by
  funext w ai e skip
  unfold WM.archInsert
  simp only [h.cb, h.dv, h.fx]

theorem externalMove_congr (h : AgreeC I I') : WM.externalMove I = WM.externalMove I' := by
  funext w target e prev prevIdx skip
  unfold WM.externalMove
  simp only [h.cb, h.dv, h.fx, archRemove_congr h]

theorem destroyNowU_congr (h : AgreeC I I') : WM.destroyNowU I = WM.destroyNowU I' := by
  funext w e
  unfold WM.destroyNowU
  rw [archRemove_congr h]

theorem destroyNow_congr (h : AgreeC I I') : WM.destroyNow I = WM.destroyNow I' := by
  funext w t e
  unfold WM.destroyNow
  rw [destroyNowU_congr h]

theorem update_congr (h : AgreeC I I') : WM.update I = WM.update I' := by
  funext w
  unfold WM.update
  rw [destroyNowU_congr h]

theorem packStep_congr (h : AgreeC I I') : Rows.packStep I = Rows.packStep I' := by
  funext e isCreate acc c
  unfold Rows.packStep
  rw [destroyNowU_congr h]

theorem packMoved_congr (h : AgreeC I I') : Rows.packMoved I = Rows.packMoved I' := by
  funext e isCreate initial sh w p
  unfold Rows.packMoved
  rw [archInsert_congr h, externalMove_congr h]

theorem packStaleStep_congr (h : AgreeC I I') : Rows.packStaleStep I = Rows.packStaleStep I' := by
  funext e supplied ti idx acc c
  unfold Rows.packStaleStep
  rw [h.cb, h.dv]

theorem packSupplyStep_congr (h : AgreeC I I') : Rows.packSupplyStep I = Rows.packSupplyStep I' := by
  funext e tmask ti idx acc cv
  unfold Rows.packSupplyStep
  rw [h.cb]

theorem packFinish_congr (h : AgreeC I I') : Rows.packFinish I = Rows.packFinish I' := by
  funext e isCreate initial sh ⟨w, p, cbs⟩
  unfold Rows.packFinish Rows.packLoops
  rw [packMoved_congr h, packStaleStep_congr h, packSupplyStep_congr h]

theorem applyPack_congr (h : AgreeC I I') : WM.applyPack I = WM.applyPack I' := by
  funext w pack
  cases pack with
  | nil => rfl
  | cons first rest => rw [Rows.applyPack_eq, Rows.applyPack_eq, packStep_congr h, packFinish_congr h]

theorem flush_congr (h : AgreeC I I') : WM.flush I = WM.flush I' := by
  funext w
  unfold WM.flush
  rw [applyPack_congr h]

theorem unlock_congr (h : AgreeC I I') : WM.unlock I = WM.unlock I' := by
  funext w
  unfold WM.unlock
  rw [flush_congr h]

theorem createAt_congr (h : AgreeC I I') : createAt I = createAt I' := by
  funext w t ai
  unfold createAt
  rw [archInsert_congr h]

theorem rawVal_congr (hfx : ∀ c, (I c).fixed = (I' c).fixed) : rawVal I = rawVal I' := by
  funext c
  unfold rawVal
  rw [hfx]

theorem store_congr (hfx : ∀ c, (I c).fixed = (I' c).fixed) : store I = store I' := by
  funext w p tok
  cases p with
  | null => rfl
  | comp e c => dsimp only [store]; rw [hfx]
  | temp t k c => dsimp only [store]; rw [hfx]

theorem applyWrites_congr (hfx : ∀ c, (I c).fixed = (I' c).fixed) : applyWrites I = applyWrites I' := by
  funext w job call
  unfold applyWrites
  rw [store_congr hfx]

theorem removeUntyped_congr (h : AgreeC I I') : removeUntyped I = removeUntyped I' := by
  funext w t e c
  unfold removeUntyped
  rw [externalMove_congr h]

theorem clear_congr (h : AgreeC I I') : clear I = clear I' := by
  funext w
  unfold clear
  simp only [h.cb]

theorem runNt_congr (h : AgreeC I I') : runNt I = runNt I' := by
  funext w cap job
  unfold runNt
  rw [applyWrites_congr h.fx, unlock_congr h]

theorem assignId_congr (h : Agree I I') : assignId I = assignId I' := by
  funext w t e c skip
  unfold assignId
  rw [h.dv, h.ct, rawVal_congr h.fx, externalMove_congr h.toC]

/-- every call except the untyped assign reads nothing but `defaultVal`, `fixed`, `callbacks` -/
theorem xstep_congr_of (h : AgreeC I I') (cap t : Nat) (w : WM) (op : XOp)
    (hop : ∀ e c s, op = .assign e c s → assignId I w t e c s = assignId I' w t e c s) :
    xstep I cap t w op = xstep I' cap t w op := by
  unfold xstep
  rw [createAt_congr h, store_congr h.fx, removeUntyped_congr h, destroyNow_congr h, update_congr h, clear_congr h,
    runNt_congr h]
  cases op with
  | assign e c s => exact congrArg (fun r => (r.1, Out.ptr r.2.2.1 r.2.1, r.2.2.2)) (hop e c s rfl)
  | _ => rfl

theorem xstep_congr (h : Agree I I') : xstep I = xstep I' := by
  funext cap t w op
  exact xstep_congr_of h.toC cap t w op fun e c s _ => by rw [assignId_congr h]

theorem xrun_cons (cap t : Nat) (w : WM) (op : XOp) (rest : List XOp) :
    xrun I cap t w (op :: rest) =
      (let s := xstep I cap t w op
       let r := xrun I cap t s.1 rest
       (r.1, s.2.1 :: r.2.1, s.2.2 ++ r.2.2)) := rfl

theorem xrun_congr (h : Agree I I') : xrun I = xrun I' := by
  funext cap t w ops
  induction ops generalizing w with
  | nil => rfl
  | cons op rest ih => simp only [xrun_cons, xstep_congr h, ih]

/-- the untyped assign reads `counted` only to maintain `temps` -/
theorem assignId_modTemps (h : AgreeC I I') (w : WM) (t : Nat) (e : Handle) (c : CompId) (skip : Bool) :
    { (assignId I w t e c skip).1 with temps := [] } = { (assignId I' w t e c skip).1 with temps := [] } ∧
    (assignId I w t e c skip).2 = (assignId I' w t e c skip).2 := by
  unfold assignId
  rw [h.dv, rawVal_congr h.fx, externalMove_congr h]
  by_cases hl : w.isLocked = true
  · rw [if_pos hl, if_pos hl]
    cases (I c).counted <;> cases (I' c).counted <;> exact ⟨rfl, rfl⟩
  · rw [if_neg hl, if_neg hl]
    exact ⟨rfl, rfl⟩

end Mustache.Proofs.CApi
