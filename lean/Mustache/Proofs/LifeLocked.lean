import Mustache.Proofs.LifeTemps
/-!
# Calls recorded under lock (C03)

A recorded call writes its command buffer and nothing else: `assign` parks one temporary, every other command none
(`Recorded`). `lock` hands out empty buffers.
-/
namespace Mustache.Proofs.Life
open Mustache.Model Mustache.Proofs.Rows

structure SameLock (w w' : WM) : Prop where
  depth : w'.lockDepth = w.lockDepth
  nbuf : w'.buffers.length = w.buffers.length

theorem SameLock.refl (w : WM) : SameLock w w := ⟨rfl, rfl⟩
theorem SameLock.trans {a b c : WM} (h1 : SameLock a b) (h2 : SameLock b c) : SameLock a c :=
  ⟨h2.depth.trans h1.depth, h2.nbuf.trans h1.nbuf⟩

theorem sameLock_pushCmd (w : WM) (t : Nat) (cmd : Cmd) : SameLock w (w.pushCmd t cmd) :=
  ⟨rfl, by simp [WM.pushCmd]⟩

theorem SameLock.isLocked {w w' : WM} (h : SameLock w w') : w'.isLocked = w.isLocked := by
  unfold WM.isLocked; rw [h.depth]

/-- `CallOk` for calls recorded under lock, in a form that composes (`trans`): acceptance needs no hypothesis on the
masks, and the state stays locked with as many buffers, which is what the next recorded call asks for -/
structure Recorded (info : CompId → CompInfo) (w : WM) (evs : List Event) (w' : WM) : Prop where
  acc : accepts (slotsOf w) evs = some (slotsOf w')
  lock : SameLock w w'
  temps : TempsInv info w → TempsInv info w'

variable {info : CompId → CompInfo}

theorem Recorded.refl (w : WM) : Recorded info w [] w := ⟨rfl, SameLock.refl w, id⟩

theorem Recorded.trans {a b c : WM} {evs evs' : List Event} (h1 : Recorded info a evs b) (h2 : Recorded info b evs' c) :
    Recorded info a (evs ++ evs') c :=
  ⟨accepts_append_of h1.acc h2.acc, h1.lock.trans h2.lock, fun h => h2.temps (h1.temps h)⟩

theorem Recorded.silent {a b c : WM} {evs : List Event} (h1 : Recorded info a evs b) (h2 : Recorded info b [] c) :
    Recorded info a evs c := by
  have := h1.trans h2
  rwa [List.append_nil] at this

theorem Recorded.callOk {w w' : WM} {evs : List Event} (h : Recorded info w evs w') : CallOk info w evs w' :=
  ⟨h.temps, fun _ => h.acc⟩

variable (info)

theorem recorded_pushCmd (w : WM) (t : Nat) (cmd : Cmd) (h : ∀ c, isAssignOf c cmd = false) :
    Recorded info w [] (w.pushCmd t cmd) := by
  refine ⟨?_, sameLock_pushCmd w t cmd, fun hi c hc => ?_⟩
  · rw [slotsOf_eq_live, slotsOf_eq_live]
    exact congrArg (fun F => some (live w F)) (tempLive_push_other w.buffers t cmd h).symm
  · show tempCount w.temps c = nAssign (w.buffers.set t (w.buffers.getD t [] ++ [cmd])) c
    rw [nAssign_push, h c, hi c hc]
    simp

theorem removeComp_locked (w : WM) (t : Nat) (e : Handle) (c : CompId) (hl : w.isLocked = true) :
    (w.removeComp info t e c).1 = w.pushCmd t (.remove e c) := by
  unfold WM.removeComp; simp only [hl, if_true]

theorem assign_recorded (w : WM) (t : Nat) (e : Handle) (c : CompId) (v : Option Nat) (hl : w.isLocked = true)
    (ht : t < w.buffers.length) : Recorded info w (w.assignEvents t e c v) (w.assign info t e c v).1 := by
  rw [assign_locked info w t e c v hl]
  unfold WM.assignEvents
  rw [if_pos hl]
  -- whether or not the counter is bumped: the archetypes as before, one command more
  have key : ∀ w' : WM, w'.archs = w.archs →
      w'.buffers = w.buffers.set t (w.buffers.getD t [] ++ [Cmd.assign e c (storedOf info c v)]) →
      w'.lockDepth = w.lockDepth →
      (∀ c', (info c').counted = true → tempCount w'.temps c' = tempCount w.temps c' + (if c' = c then 1 else 0)) →
      Recorded info w [Event.construct (.temp t (w.buffers.getD t []).length c)] w' := by
    intro w' ha hb hd htc
    refine ⟨?_, ⟨hd, by rw [hb]; simp⟩, fun h c' hc' => ?_⟩
    · have hdead : slotsOf w (.temp t (w.buffers.getD t []).length c) = false := by
        apply Bool.eq_false_iff.mpr
        intro h
        rcases (tempLive_temp _ _ _ _).mp h with ⟨_, _, h'⟩
        rw [List.getElem?_eq_none_iff.mpr (Nat.le_refl _)] at h'; cases h'
      rw [accepts_cons, acceptStep_create rfl hdead (fun _ h => by cases h)]
      show some _ = some _
      rw [slotsOf_eq_live w', hb, tempLive_push_assign w.buffers t e c _ ht, live_set_true,
        (ShapeEq.of_archs ha).live, ← slotsOf_eq_live]
      rfl
    · rw [htc c' hc', hb, nAssign_push, h c' hc']
      simp only [isAssignOf, ht, true_and, beq_iff_eq, @eq_comm _ c c']
  by_cases hcnt : (info c).counted = true
  · rw [if_pos hcnt]
    exact key _ rfl rfl rfl (fun c' _ => tempCount_addTemp w.temps c c')
  · rw [if_neg hcnt]
    exact key _ rfl rfl rfl (fun c' hc' => by rw [if_neg (fun (hcc : c' = c) => hcnt (hcc ▸ hc'))]; rfl)

/-- a run of `assign` calls recorded under lock (builder arguments), after the calls that led from `w0` to `w` -/
theorem assignRun_recorded (t : Nat) (e : Handle) (adds : List (CompId × Option Nat)) (w0 w : WM)
    (evs0 : List Event) (cbs0 : List Cb) (h0 : Recorded info w0 evs0 w) (hl : w.isLocked = true)
    (ht : t < w.buffers.length) :
    Recorded info w0
      (adds.foldl (fun (acc : WM × List Event) p =>
        ((acc.1.assign info t e p.1 p.2).1, acc.2 ++ acc.1.assignEvents t e p.1 p.2)) (w, evs0)).2
      (adds.foldl (fun (acc : WM × List Cb) p =>
        let (w', _, c) := acc.1.assign info t e p.1 p.2
        (w', acc.2 ++ c)) (w, cbs0)).1 := by
  induction adds generalizing w evs0 cbs0 with
  | nil => exact h0
  | cons p ps ih =>
    rw [List.foldl_cons, List.foldl_cons]
    have ha := assign_recorded info w t e p.1 p.2 hl ht
    exact ih _ _ _ (h0.trans ha) (by rw [ha.lock.isLocked]; exact hl) (by rw [ha.lock.nbuf]; exact ht)

theorem removeRun_recorded (t : Nat) (e : Handle) (rems : List CompId) (w0 w : WM) (evs : List Event)
    (h0 : Recorded info w0 evs w) (hl : w.isLocked = true) :
    Recorded info w0 evs (rems.foldl (fun w c => (w.removeComp info t e c).1) w) := by
  induction rems generalizing w with
  | nil => exact h0
  | cons c cs ih =>
    rw [List.foldl_cons, removeComp_locked info w t e c hl]
    exact ih _ (h0.silent (recorded_pushCmd info w t _ (fun _ => rfl)))
      (by rw [(sameLock_pushCmd w t _).isLocked]; exact hl)

theorem createLocked_recorded (w : WM) (t : Nat) (m : Mask) (sh : Shared) :
    Recorded info w [] (w.createLocked t m sh).1 := by
  unfold WM.createLocked
  simp only
  have h0 : Recorded info w [] { w with nextEntityId := w.nextEntityId + 1 } :=
    ⟨congrArg some (Quiet.slotsOf ⟨.of_archs rfl, rfl, rfl⟩).symm, ⟨rfl, rfl⟩, fun h c hc => h c hc⟩
  exact h0.silent (recorded_pushCmd info _ t _ (fun _ => rfl))

/-- `lock`: command buffers are handed out empty -/
theorem lock_callOk (w : WM) : CallOk info w [] w.lock := by
  unfold WM.lock
  simp only
  split
  · refine ⟨fun h c hc => ?_, fun _ => ?_⟩
    · show tempCount w.temps c = nAssign (w.buffers ++ List.replicate (w.nthreads - w.buffers.length) []) c
      rw [nAssign_replicate]; exact h c hc
    · rw [slotsOf_eq_live, slotsOf_eq_live]
      refine congrArg (fun F => some (live w F)) (tempLive_congr (fun t => ?_)).symm
      simp only [List.getD_eq_getElem?_getD, List.getElem?_append]
      split
      · rfl
      · rename_i hlt
        rw [List.getElem?_replicate, List.getElem?_eq_none_iff.mpr (Nat.le_of_not_lt hlt)]
        split <;> rfl
  · exact ⟨fun h => h, fun _ => rfl⟩

end Mustache.Proofs.Life
