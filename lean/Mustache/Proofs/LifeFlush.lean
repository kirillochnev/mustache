import Mustache.Proofs.LifePack
import Mustache.Proofs.RowsPackInv
/-!
# A whole pack, the packs of a buffer, `onUnlock` on the live-slot set (C03)

The frame `F` of `live w F` is the set of temporaries still parked. While the buffer of thread `done` is flushed the
buffers before it are read as empty (`List.replicate done [] ++ rest`): every pack finds the temporaries of its
assign commands live (`pack_accepts`), and `tempDestroy_accepts` then removes exactly those of that one buffer.
-/
namespace Mustache.Proofs.Life
open Mustache.Model Mustache.Proofs.Rows

variable (info : CompId → CompInfo)

/-- what a pack needs from the state it is applied to: a deferred creation brings a sorted mask; a pack on an
existing (still valid) entity finds it at a row of its archetype (`TargetOK`) -/
def PackLifeOK (w : WM) : List Cmd → Prop
  | [] => True
  | (.create _ m _) :: _ => MaskOk m
  | first :: _ => w.isValid first.entity = true → ∀ pi, (w.locOf first.entity).arch = some pi →
      TargetOK w first.entity pi

theorem packEvents_eq (w : WM) (t off : Nat) (first : Cmd) (rest : List Cmd) :
    w.packEvents info t off (first :: rest) =
      match packStart w first with
      | none => []
      | some (w1, initial0, sh) =>
        packFinishEvents t first.entity (isCreateCmd first) (packInit (isCreateCmd first) w1.deps initial0) sh
          ((if isCreateCmd first then rest.zipIdx (off + 1) else (first :: rest).zipIdx off).foldl
            (packLifeStep info first.entity (isCreateCmd first))
            { w := w1, p := { final := packInit (isCreateCmd first) w1.deps initial0 } }) := by
  rfl

theorem mem_zipIdx_off {α : Type} (l : List α) (o : Nat) (ck : α × Nat) (h : ck ∈ l.zipIdx o) :
    ∃ j, ck.2 = o + j ∧ l[j]? = some ck.1 := by
  rw [List.mem_zipIdx_iff_le_and_getElem?_sub] at h
  exact ⟨ck.2 - o, (Nat.add_sub_cancel' h.1).symm, h.2⟩

theorem packLifeOK_other {w : WM} {first : Cmd} {rest : List Cmd} (hc : isCreateCmd first = false) :
    PackLifeOK w (first :: rest) ↔
      (w.isValid first.entity = true → ∀ pi, (w.locOf first.entity).arch = some pi → TargetOK w first.entity pi) := by
  cases first with
  | create _ _ _ => cases hc
  | _ => exact Iff.rfl

/-- a pack on an existing entity needs `LocIn` of it, and only while it is valid -/
theorem packLifeOK_of_locIn {w : WM} {first : Cmd} {rest : List Cmd} (hc : isCreateCmd first = false)
    (h : w.isValid first.entity = true → LocIn w first.entity) : PackLifeOK w (first :: rest) :=
  (packLifeOK_other hc).mpr fun hv pi hpi => ⟨h hv pi hpi⟩

theorem packStart_facts {w : WM} {first : Cmd} {rest : List Cmd} {w1 : WM} {initial0 : Mask} {sh : Shared}
    (h : packStart w first = some (w1, initial0, sh)) (hok : PackLifeOK w (first :: rest)) (hmk : MasksOk w) :
    w1.archs = w.archs ∧ MaskOk initial0 ∧
    (isCreateCmd first = false → ∃ pi, (w1.locOf first.entity).arch = some pi ∧ TargetOK w1 first.entity pi ∧
      initial0 = (w1.arch pi).mask) := by
  cases hc : isCreateCmd first with
  | false =>
    rcases packStart_other_some hc h with ⟨hv, ai, hla, heq⟩
    cases heq
    exact ⟨rfl, hmk ai, fun _ => ⟨ai, hla, (packLifeOK_other hc).mp hok hv ai hla, rfl⟩⟩
  | true =>
    cases first with
    | create e m s => cases h; exact ⟨rfl, hok, fun hc => by cases hc⟩
    | _ => cases hc

/-- one `applyCommandPack`, on the commands `off, off+1, …` of the buffer of thread `t`; the frame `F` holds the
temporaries of its assign commands -/
theorem pack_accepts (w : WM) (t off : Nat) (pack : List Cmd) (F : SlotState)
    (hF : TempOnly F) (hmk : MasksOk w) (hok : PackLifeOK w pack)
    (htemps : ∀ j e c v, pack[j]? = some (Cmd.assign e c v) → F (.temp t (off + j) c) = true) :
    accepts (live w F) (w.packEvents info t off pack) = some (live (w.applyPack info pack).1 F) ∧
    MasksOk (w.applyPack info pack).1 := by
  cases pack with
  | nil => exact ⟨rfl, hmk⟩
  | cons first rest =>
    rw [packEvents_eq, applyPack_eq]
    cases hs : packStart w first with
    | none => exact ⟨rfl, hmk⟩
    | some r =>
      obtain ⟨w1, initial0, sh⟩ := r
      simp only
      rcases packStart_facts hs hok hmk with ⟨ha, hm0, hnc0⟩
      have hsh : ShapeEq w w1 := .of_archs ha
      have hinit : MaskOk (packInit (isCreateCmd first) w1.deps initial0) := by
        unfold packInit; split
        · exact maskOk_closedMask _ hm0
        · exact hm0
      have hnc : isCreateCmd first = false → ∃ pi, (w1.locOf first.entity).arch = some pi ∧
          TargetOK w1 first.entity pi ∧ packInit (isCreateCmd first) w1.deps initial0 = (w1.arch pi).mask := fun hc => by
        rcases hnc0 hc with ⟨pi, h1, h2, h3⟩
        exact ⟨pi, h1, h2, by rw [hc, packInit_existing, h3]⟩
      generalize packInit (isCreateCmd first) w1.deps initial0 = initial at hinit hnc ⊢
      generalize isCreateCmd first = ic at hnc ⊢
      -- the fold over the commands `body`, numbered from `o`, then the second half
      have hfin : ∀ (body : List Cmd) (o : Nat),
          (∀ ck ∈ body.zipIdx o, ∀ e' c v, ck.1 = Cmd.assign e' c v → F (.temp t ck.2 c) = true) →
          accepts (live w F)
            (packFinishEvents t first.entity ic initial sh
              ((body.zipIdx o).foldl (packLifeStep info first.entity ic) { w := w1, p := { final := initial } })) =
            some (live (packFinish info first.entity ic initial sh
              (body.foldl (packStep info first.entity ic) (w1, { final := initial }, []))).1 F) ∧
          MasksOk (packFinish info first.entity ic initial sh
              (body.foldl (packStep info first.entity ic) (w1, { final := initial }, []))).1 := by
        intro body o hbody
        have inv0 : LifeFold t F (live w F) w1 initial { w := w1, p := { final := initial } } :=
          ⟨hsh.masksOk hmk, congrArg some (hsh.live F).symm, fun _ => ⟨rfl, rfl, rfl⟩, hinit, rfl,
           List.nodup_nil, (fun _ hc => absurd hc List.not_mem_nil),
           (fun _ hi hx => hx.elim (fun hc => absurd hc List.not_mem_nil) (absurd hi)),
           (fun _ hck => absurd hck List.not_mem_nil)⟩
        have inv := lifeFold_inv info t F hF (live w F) w1 initial first.entity ic (body.zipIdx o) _ inv0 hbody
        have proj := lifeFold_proj info first.entity ic body o { w := w1, p := { final := initial } } []
        have := packFinish_accepts info t F hF w w1 initial first.entity ic sh _
          (body.foldl (packStep info first.entity ic) (w1, { final := initial }, [])).2.2 inv (fun hc _ => hnc hc)
        rw [proj.1, proj.2] at this
        exact this
      cases ic with
      | true =>
        apply hfin rest (off + 1)
        intro ck hck e' c v hc
        rcases mem_zipIdx_off rest (off + 1) ck hck with ⟨j, hj, hl⟩
        rw [hj, Nat.add_assoc, Nat.add_comm 1 j]
        exact htemps (j + 1) e' c v (by rw [List.getElem?_cons_succ, hl, hc])
      | false =>
        apply hfin (first :: rest) off
        intro ck hck e' c v hc
        rcases mem_zipIdx_off (first :: rest) off ck hck with ⟨j, hj, hl⟩
        rw [hj]
        exact htemps j e' c v (by rw [hl, hc])

inductive PacksLifeOK (info : CompId → CompInfo) : WM → List (List Cmd) → Prop
  | nil (w : WM) : PacksLifeOK info w []
  | cons (w : WM) (p : List Cmd) (ps : List (List Cmd)) :
      PackLifeOK w p → PacksLifeOK info (w.applyPack info p).1 ps → PacksLifeOK info w (p :: ps)

theorem packsEvents_fst (ps : List (List Cmd)) (w : WM) (t off : Nat) (cbs : List Cb) :
    (w.packsEvents info t off ps).1 = (applyPacks info (w, cbs) ps).1 := by
  induction ps generalizing w off cbs with
  | nil => rfl
  | cons p ps ih =>
    rw [applyPacks_cons]
    simp only [WM.packsEvents]
    exact ih _ _ _

theorem packs_accepts (ps : List (List Cmd)) (w : WM) (t off : Nat) (F : SlotState)
    (hF : TempOnly F) (hmk : MasksOk w) (hok : PacksLifeOK info w ps)
    (htemps : ∀ j e c v, ps.flatten[j]? = some (Cmd.assign e c v) → F (.temp t (off + j) c) = true) :
    accepts (live w F) (w.packsEvents info t off ps).2 = some (live (w.packsEvents info t off ps).1 F) ∧
    MasksOk (w.packsEvents info t off ps).1 := by
  induction ps generalizing w off with
  | nil => exact ⟨rfl, hmk⟩
  | cons p ps ih =>
    cases hok with
    | cons _ _ _ h1 h2 =>
      simp only [WM.packsEvents]
      have hp := pack_accepts info w t off p F hF hmk h1 (by
        intro j e c v hj
        apply htemps j e c v
        rw [List.flatten_cons, List.getElem?_append_left (List.getElem?_eq_some_iff.mp hj).1]
        exact hj)
      have hr := ih (w.applyPack info p).1 (off + p.length) hp.2 h2 (by
        intro j e c v hj
        have := htemps (p.length + j) e c v (by
          rw [List.flatten_cons, List.getElem?_append_right (Nat.le_add_right _ _)]
          simpa using hj)
        rw [Nat.add_assoc]; exact this)
      exact ⟨accepts_append_of hp.1 hr.1, hr.2⟩

theorem packs_flatten (buf : List Cmd) : (packs buf).flatten = buf := by
  induction buf with
  | nil => rfl
  | cons c cs ih =>
    rw [packs_cons']
    cases hp : packs cs with
    | nil => rw [hp] at ih; rw [← ih]; rfl
    | cons p ps =>
      rw [hp] at ih
      cases p with
      | nil => rw [← ih]; rfl
      | cons d ds =>
        simp only
        split <;> rw [← ih] <;> rfl

def tempSlots (t : Nat) : Nat → List Cmd → List LSlot
  | _, [] => []
  | off, (.assign _ c _) :: cs => .temp t off c :: tempSlots t (off + 1) cs
  | off, _ :: cs => tempSlots t (off + 1) cs

theorem tempSlots_eq (t : Nat) (buf : List Cmd) (off : Nat) :
    tempSlots t off buf = (buf.zipIdx off).filterMap (fun ck => match ck.1 with
      | .assign _ c _ => some (.temp t ck.2 c)
      | _ => none) := by
  induction buf generalizing off with
  | nil => rfl
  | cons cmd cs ih =>
    rw [List.zipIdx_cons, List.filterMap_cons]
    cases cmd <;> simp only [tempSlots] <;> rw [ih]

theorem mem_tempSlots (t : Nat) (buf : List Cmd) (off : Nat) (y : LSlot) :
    y ∈ tempSlots t off buf ↔ ∃ j e c v, buf[j]? = some (Cmd.assign e c v) ∧ y = .temp t (off + j) c := by
  rw [tempSlots_eq, List.mem_filterMap]
  constructor
  · rintro ⟨⟨cmd, k⟩, hmem, hy⟩
    rcases mem_zipIdx_off buf off _ hmem with ⟨j, hj, hl⟩
    cases cmd with
    | assign e c v => cases hy; exact ⟨j, e, c, v, hl, by rw [hj]⟩
    | _ => cases hy
  · rintro ⟨j, e, c, v, hl, rfl⟩
    refine ⟨(Cmd.assign e c v, off + j), List.mem_zipIdx_iff_le_and_getElem?_sub.mpr ⟨Nat.le_add_right _ _, ?_⟩, rfl⟩
    rw [Nat.add_sub_cancel_left]; exact hl

theorem tempSlots_nodup (t : Nat) (buf : List Cmd) (off : Nat) : (tempSlots t off buf).Nodup := by
  induction buf generalizing off with
  | nil => exact List.nodup_nil
  | cons cmd cs ih =>
    cases cmd with
    | assign e c v =>
      simp only [tempSlots, List.nodup_cons]
      refine ⟨fun h => ?_, ih (off + 1)⟩
      rcases (mem_tempSlots t cs (off + 1) _).mp h with ⟨j, _, _, _, _, h2⟩
      have := (LSlot.temp.inj h2).2.1
      omega
    | _ => exact ih (off + 1)

theorem tempDestroyEvents_eq (t : Nat) (buf : List Cmd) :
    tempDestroyEvents t buf = (tempSlots t 0 buf).map Event.destroy := by
  unfold tempDestroyEvents
  rw [tempSlots_eq, List.map_filterMap]
  congr 1
  funext ck
  cases ck.1 <;> rfl

theorem packsLifeOK_append (a b : List (List Cmd)) (w : WM) (cbs : List Cb)
    (h : PacksLifeOK info w (a ++ b)) :
    PacksLifeOK info w a ∧ PacksLifeOK info (applyPacks info (w, cbs) a).1 b := by
  induction a generalizing w cbs with
  | nil => exact ⟨PacksLifeOK.nil w, h⟩
  | cons p ps ih =>
    cases h with
    | cons _ _ _ h1 h2 =>
      rw [applyPacks_cons]
      have := ih _ (cbs ++ (w.applyPack info p).2) h2
      exact ⟨PacksLifeOK.cons w p ps h1 this.1, this.2⟩

theorem getD_replicate_cons (n t : Nat) (b : List Cmd) (r : List (List Cmd)) :
    (List.replicate n ([] : List Cmd) ++ b :: r).getD t [] =
      if t = n then b else (List.replicate (n + 1) ([] : List Cmd) ++ r).getD t [] := by
  induction n generalizing t with
  | zero => cases t <;> rfl
  | succ n ih =>
    cases t with
    | zero => rfl
    | succ t =>
      have := ih t
      simp only [List.replicate_succ, List.cons_append, List.getD_cons_succ, Nat.add_right_cancel_iff] at this ⊢
      exact this

theorem getD_replicate_nil (n t : Nat) : (List.replicate n ([] : List Cmd)).getD t [] = [] := by
  simp only [List.getD_eq_getElem?_getD, List.getElem?_replicate]
  split <;> rfl

/-- the temporaries of buffer `done` are destroyed: the buffers `done+1, …` stay parked, and so does what is stored -/
theorem tempDestroy_accepts (m : Nat → Mask) (l : Nat → Nat) (done : Nat) (buf : List Cmd) (rest' : List (List Cmd)) :
    accepts (liveOf m l (tempLive (List.replicate done [] ++ buf :: rest'))) (tempDestroyEvents done buf) =
      some (liveOf m l (tempLive (List.replicate (done + 1) [] ++ rest'))) := by
  have hgetD : (List.replicate done ([] : List Cmd) ++ buf :: rest').getD done [] = buf := by
    rw [getD_replicate_cons, if_pos rfl]
  rw [tempDestroyEvents_eq, accepts_destroys _ _ (tempSlots_nodup _ _ _)]
  · congr 1
    apply slotState_ext
    intro y
    rw [removeAll_apply, mem_tempSlots]
    cases y with
    | stored a c i =>
      rw [liveOf_stored, liveOf_stored, tempOnly_tempLive _ a c i, tempOnly_tempLive _ a c i]
      exact ⟨fun h => h.1, fun h => ⟨h, fun ⟨_, _, _, _, _, h2⟩ => by cases h2⟩⟩
    | temp t' k c =>
      rw [liveOf_temp, liveOf_temp, tempLive_temp, tempLive_temp, getD_replicate_cons]
      by_cases ht : t' = done
      · subst ht
        have hnil : (List.replicate (t' + 1) ([] : List Cmd) ++ rest').getD t' [] = [] := by
          simp [List.getD_eq_getElem?_getD, List.getElem?_append]
        rw [if_pos rfl, hnil]
        constructor
        · rintro ⟨⟨e, v, h1⟩, h2⟩
          exact absurd ⟨k, e, c, v, h1, by rw [Nat.zero_add]⟩ h2
        · rintro ⟨_, _, h'⟩; cases h'
      · rw [if_neg ht]
        refine ⟨fun h => h.1, fun h => ⟨h, ?_⟩⟩
        rintro ⟨_, _, _, _, _, h2⟩
        cases h2; exact ht rfl
  · intro y hy
    rcases (mem_tempSlots _ _ _ _).mp hy with ⟨j, e, c, v, h1, rfl⟩
    rw [liveOf_temp, tempLive_temp, hgetD, Nat.zero_add]
    exact ⟨e, v, h1⟩

/-- the fold of `flushEvents` over the buffers `done, done+1, …`; the buffers before `done` are read as empty, so the
frame holds exactly the temporaries still parked -/
theorem flushFold_accepts (rest : List (List Cmd)) (done : Nat) (w : WM)
    (evs0 : List Event) (S0 : SlotState) (cbs : List Cb)
    (h0 : accepts S0 evs0 = some (live w (tempLive (List.replicate done [] ++ rest))))
    (hmk : MasksOk w) (hok : PacksLifeOK info w (rest.map packs).flatten) :
    accepts S0 ((rest.zipIdx done).foldl (fun (acc : WM × List Event) bt =>
        let r := acc.1.packsEvents info bt.2 0 (packs bt.1)
        (r.1, acc.2 ++ r.2 ++ tempDestroyEvents bt.2 bt.1)) (w, evs0)).2 =
      some (live (applyPacks info (w, cbs) (rest.map packs).flatten).1 SlotState.empty) ∧
    MasksOk (applyPacks info (w, cbs) (rest.map packs).flatten).1 := by
  induction rest generalizing done w evs0 cbs with
  | nil =>
    simp only [List.zipIdx_nil, List.foldl_nil, List.map_nil, List.flatten_nil, applyPacks, List.append_nil] at h0 ⊢
    rw [h0, tempLive_empty _ (getD_replicate_nil done)]
    exact ⟨rfl, hmk⟩
  | cons buf rest' ih =>
    rw [List.zipIdx_cons, List.foldl_cons, List.map_cons, List.flatten_cons]
    simp only
    have hsplit := packsLifeOK_append info (packs buf) (rest'.map packs).flatten w cbs
      (by rw [List.map_cons, List.flatten_cons] at hok; exact hok)
    have hgetD : (List.replicate done ([] : List Cmd) ++ buf :: rest').getD done [] = buf := by
      rw [getD_replicate_cons, if_pos rfl]
    have hp := packs_accepts info (packs buf) w done 0 _ (tempOnly_tempLive _) hmk hsplit.1 (by
      intro j e c v hj
      rw [packs_flatten] at hj
      rw [tempLive_temp, hgetD, Nat.zero_add]
      exact ⟨e, v, hj⟩)
    have hw1 : (w.packsEvents info done 0 (packs buf)).1 = (applyPacks info (w, cbs) (packs buf)).1 :=
      packsEvents_fst info _ _ _ _ _
    have hd : accepts (live (w.packsEvents info done 0 (packs buf)).1 _) _ = _ := tempDestroy_accepts _ _ done buf rest'
    have := ih (done + 1) (w.packsEvents info done 0 (packs buf)).1
      (evs0 ++ (w.packsEvents info done 0 (packs buf)).2 ++ tempDestroyEvents done buf)
      (applyPacks info (w, cbs) (packs buf)).2
      (accepts_append_of (accepts_append_of h0 hp.1) hd) hp.2 (by rw [hw1]; exact hsplit.2)
    have happ : applyPacks info (w, cbs) (packs buf ++ (rest'.map packs).flatten) =
        applyPacks info ((applyPacks info (w, cbs) (packs buf)).1, (applyPacks info (w, cbs) (packs buf)).2)
          (rest'.map packs).flatten := by
      unfold applyPacks
      rw [List.foldl_append]
    rw [happ, ← hw1]
    exact this

/-- `onUnlock`: every temporary is consumed or destroyed, the stored slots are those of the state after the flush -/
theorem flush_callOk (w : WM)
    (hok : PacksLifeOK info (detached w) (w.buffers.map packs).flatten) :
    CallOk info w (w.flushEvents info) (w.flush info).1 := by
  have hc := flush_ctl info w
  refine ⟨fun _ c _ => by rw [hc.1, hc.2.1, List.map_const', ← List.nil_append (List.replicate _ _), nAssign_replicate]; rfl,
    fun hmk => ?_⟩
  have h0 : accepts (slotsOf w) [] = some (live (detached w) (tempLive (List.replicate 0 [] ++ w.buffers))) := by
    rw [List.replicate_zero, List.nil_append, slotsOf_eq_live]; rfl
  have hf := flushFold_accepts info w.buffers 0 (detached w) [] (slotsOf w) [] h0 hmk hok
  have hfl : (w.flush info).1 = { (applyPacks info (detached w, []) (w.buffers.map packs).flatten).1 with temps := [] } := by
    rw [flush_eq]; rfl
  unfold WM.flushEvents
  simp only
  rw [show ({ w with buffers := w.buffers.map (fun _ => []) } : WM) = detached w from rfl, hf.1]
  congr 1
  rw [slotsOf_eq_live, hc.1, List.map_const', tempLive_empty _ (getD_replicate_nil _), hfl]
  rfl

end Mustache.Proofs.Life
