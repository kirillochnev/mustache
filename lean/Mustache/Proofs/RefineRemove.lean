import Mustache.Proofs.RefineEntity
/-!
# Refinement: unlocked `removeComponent`
-/
namespace Mustache.Proofs.Refine
open Mustache.Model Mustache.Spec
open Mustache.Proofs.IdTable (tabOf Ghost TInv)
open Mustache.Proofs.Rows

variable (info : CompId → CompInfo)

theorem remove_unlocked_refines {c : CW} {s : WS} (hi : Inv c) (hb : Bounds c) (hr : Rel c s)
    (hl : c.w.isLocked = false) (t : Nat) (e : Handle) (comp : CompId) :
    StepRefines info c s (.remove t e comp) := by
  obtain ⟨w, iss⟩ := c
  have hw0 : w.step info (.remove t e comp) = ((w.removeComp info t e comp).1, .ok, (w.removeComp info t e comp).2) := rfl
  have hs0 : ∀ o, s.step info (.remove t o comp) = (match o with
      | some k => ((s.doRemove info k comp).1, .ok, (s.doRemove info k comp).2)
      | none => (s, .ok, [])) := fun o => by
    show (if s.lockDepth > 0 then _ else _) = _
    rw [if_neg (unlocked_spec hr hl)]
    cases o <;> rfl
  cases hv : w.isValid e with
  | false =>
    -- invalid handle: nothing happens
    refine noop_refines (out := .ok) (sout := .ok) info hi hr rfl ?_ ?_ rfl trivial
    · rw [hw0, WM.removeComp, if_neg (by simp [hl]), if_pos (by simp [hv])]
    · show s.step info (.remove t (ordOf iss e) comp) = _
      rw [hs0]
      rcases isAlive_false (rel_dead (c := ⟨w, iss⟩) hr hv) with ho | ⟨k, ho, hal⟩ <;> rw [ho]
      simp only [WS.doRemove, hal]
  | true =>
  rcases rel_alive hi hb hr hv with ⟨k, pi, i, prow, ent, ha⟩
  have hal : s.alive k = some ent := ha.alive
  have hcs : compSet ent = (w.arch pi).mask := ha.compSet hi
  have hs1 : s.step info (.remove t (ordOf iss e) comp) = ((s.doRemove info k comp).1, .ok, (s.doRemove info k comp).2) := by
    rw [hs0, ha.ord]
  cases hcc : (w.arch pi).mask.contains comp with
  | false =>
    -- the entity lacks the component
    refine noop_refines (out := .ok) (sout := .ok) info hi hr rfl ?_ ?_ rfl trivial
    · rw [hw0, WM.removeComp, if_neg (by simp [hl]), if_neg (by simp [hv])]
      simp only [ha.locArch, hcc, Bool.not_false, if_true]
    · show s.step info (.remove t (ordOf iss e) comp) = _
      rw [hs1]
      simp only [WS.doRemove, hal, hcs, hcc, Bool.not_false, if_true]
  | true =>
  have hm : MaskOk (Mask.erase (w.arch pi).mask comp) := maskOk_erase (ha.maskOk hi) comp
  generalize hmdef : Mask.erase (w.arch pi).mask comp = m at hm
  generalize htm : closedMask w.deps m = tm
  have hmodel : w.removeComp info t e comp =
      (match (w.getArch m (w.arch pi).shared).1.externalMove info (w.getArch m (w.arch pi).shared).2 e pi i [] with
        | none => ((w.getArch m (w.arch pi).shared).1, [])
        | some (w, cbs) => (w, cbs)) := by
    rw [WM.removeComp, if_neg (by simp [hl]), if_neg (by simp [hv])]
    simp only [ha.locArch, hcc, ha.locIdx, hmdef, Bool.not_true, Bool.false_eq_true, if_false]
    rfl
  have hspec : s.doRemove info k comp = (if (tm == (w.arch pi).mask) = true then (s, []) else
      (s.setEnt k (some { ent with
          comps := rebuild info (if tm.contains comp then ent.comps else ent.comps.filter (·.1 != comp)) tm [] }),
        cbDiff info k (w.arch pi).mask tm)) := by
    simp only [WS.doRemove, hal, hcs, hcc, hr.deps, closed_eq, hmdef, htm, Bool.not_true, Bool.false_eq_true, if_false]
  rw [hmodel] at hw0
  rw [hspec] at hs1
  rcases getArch_move_cases info hi ha m hm (w.arch pi).shared (ha.sharedIn hi) [] with
    ⟨hg, hnone, heq, _⟩ | ⟨w2, cbs, hsome, hmv, hks, hne, hcbs⟩
  · -- the closure puts the component back: same archetype, nothing happens
    rw [hg] at hw0
    simp only [hnone] at hw0
    rw [← htm, heq, beq_self_eq_true, if_pos rfl] at hs1
    exact noop_refines info hi hr rfl hw0 hs1 rfl trivial
  · -- the entity moves
    simp only [hsome] at hw0
    have hbne : (tm == (w.arch pi).mask) = false := by rw [← htm]; simpa using hne rfl
    rw [hbne] at hs1
    have htmok : MaskOk tm := htm ▸ maskOk_closedMask w.deps hm
    have hmr := moved_refines hi hr ha.issued hv (ha.sharedIn hi) hmv hks
      { ent with comps := rebuild info (if tm.contains comp then ent.comps else ent.comps.filter (·.1 != comp)) tm [] }
      (by
        rw [htm]
        show rebuild info _ tm [] = _
        refine (zip_eq_rebuild info (maskOk_nodup htmok) (carry_length info _ _ _ _) _ _ fun x hx => ?_).symm
        rw [carry_getD info _ _ _ _ x hx, ha.rel.1]
        have hxc : tm.contains comp = false → x ≠ comp := fun h heq => by
          rw [heq] at hx; rw [List.contains_iff_mem.mpr hx] at h; cases h
        cases hct : tm.contains comp
        · rw [if_neg (by simp), rebuildEntry_zip_filter info _ _ (ha.vals hi) (· != comp)]
          by_cases hxp : x ∈ (w.arch pi).mask
          · rw [if_pos hxp, if_pos ⟨hxp, by simpa using hxc hct⟩]
          · rw [if_neg hxp, if_neg (fun h => hxp h.1)]; rfl
        · rw [if_pos rfl, rebuildEntry_zip info _ _ (ha.vals hi)]
          by_cases hxp : x ∈ (w.arch pi).mask
          · rw [if_pos hxp, if_pos hxp]
          · rw [if_neg hxp, if_neg hxp]; rfl)
      (fun sid => ha.rel.2 sid)
    refine StepRefines.intro info hw0 hs1 hmr.1 hmr.2 ⟨trivial, ?_⟩
    rw [hcbs, htm]
    exact cbsAgree_move info ha.ord _ tm (List.Perm.of_eq (List.filter_congr fun x _ => by
      cases (w.arch pi).mask.contains x <;> cases (info x).callbacks <;> rfl))

end Mustache.Proofs.Refine
