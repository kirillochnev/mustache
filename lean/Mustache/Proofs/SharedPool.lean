import Mustache.Proofs.ListLookup
/-! # the shared-value pool (`WM.poolGet`, `WM.freshInst`): one instance per (shared id, value) -/
namespace Mustache.Model

def poolEntries (pool : List (Nat × List (Nat × Nat))) (sid : Nat) : List (Nat × Nat) :=
  match pool.find? (·.1 == sid) with | some (_, l) => l | none => []

/-- per shared id: no two entries with the same value, no two with the same instance; every instance is
    below `nextInst`; and an instance id belongs to one shared id only -/
structure PoolInv (w : WM) : Prop where
  vals_nodup : ∀ sid, ((poolEntries w.pool sid).map (·.1)).Nodup
  insts_nodup : ∀ sid, ((poolEntries w.pool sid).map (·.2)).Nodup
  inst_lt : ∀ sid, ∀ p ∈ poolEntries w.pool sid, p.2 < w.nextInst
  inst_sid : ∀ sid sid', ∀ p ∈ poolEntries w.pool sid, ∀ q ∈ poolEntries w.pool sid', p.2 = q.2 → sid = sid'

theorem find?_fst_of_nodup {l : List (Nat × Nat)} {v i : Nat} (hn : (l.map (·.1)).Nodup)
    (hm : (v, i) ∈ l) : l.find? (·.1 == v) = some (v, i) := by
  induction l with
  | nil => cases hm
  | cons p t ih =>
    rw [List.map_cons, List.nodup_cons] at hn
    rcases List.mem_cons.1 hm with rfl | hm
    · simp only [List.find?_cons, beq_self_eq_true]
    · have hne : ¬ p.1 = v := fun e => hn.1 (e ▸ List.mem_map_of_mem (f := (·.1)) hm)
      rw [List.find?_cons, beq_false_of_ne hne]; exact ih hn.2 hm

theorem snd_inj_of_nodup {l : List (Nat × Nat)} {a b i : Nat} (hn : (l.map (·.2)).Nodup)
    (ha : (a, i) ∈ l) (hb : (b, i) ∈ l) : a = b := by
  induction l with
  | nil => cases ha
  | cons p t ih =>
    rw [List.map_cons, List.nodup_cons] at hn
    rcases List.mem_cons.1 ha with rfl | ha' <;> rcases List.mem_cons.1 hb with hb' | hb'
    · exact (Prod.mk.inj hb').1.symm
    · exact absurd (List.mem_map_of_mem (f := (·.2)) hb') hn.1
    · subst hb'; exact absurd (List.mem_map_of_mem (f := (·.2)) ha') hn.1
    · exact ih hn.2 ha' hb'

theorem nodup_map_concat {f : Nat × Nat → Nat} {l : List (Nat × Nat)} {x : Nat × Nat}
    (h : (l.map f).Nodup) (hx : f x ∉ l.map f) : ((l ++ [x]).map f).Nodup := by
  rw [List.map_append, List.nodup_append]
  exact ⟨h, List.nodup_cons.mpr ⟨List.not_mem_nil, List.nodup_nil⟩,
    fun a ha b hb e => hx (by rw [List.mem_singleton.mp hb] at e; exact e ▸ ha)⟩

/-- the pool update of `poolGet` replaces the entries of one shared type -/
theorem poolEntries_upsert (pool : List (Nat × List (Nat × Nat))) (sid : Nat) (es : List (Nat × Nat))
    (sid' : Nat) :
    poolEntries (if pool.any (·.1 == sid) then pool.map (fun p => if p.1 == sid then (sid, es) else p)
      else pool ++ [(sid, es)]) sid' = if sid' = sid then es else poolEntries pool sid' := by
  unfold poolEntries
  rw [find?_fst_upsert]
  by_cases hs : sid' = sid
  · rw [if_pos hs, if_pos hs]
  · rw [if_neg hs, if_neg hs]

theorem poolGet_eq (w : WM) (sid v : Nat) :
    w.poolGet sid v =
      match (poolEntries w.pool sid).find? (·.1 == v) with
      | some p => (w, p.2)
      | none =>
        ({ w with pool := if w.pool.any (·.1 == sid) then
                      w.pool.map (fun p => if p.1 == sid then (sid, poolEntries w.pool sid ++ [(v, w.nextInst)]) else p)
                    else w.pool ++ [(sid, poolEntries w.pool sid ++ [(v, w.nextInst)])],
                  nextInst := w.nextInst + 1 }, w.nextInst) := by
  show (match (poolEntries w.pool sid).find? (·.1 == v) with | some (_, inst) => (w, inst) | none => _) = _
  cases (poolEntries w.pool sid).find? (·.1 == v) <;> rfl

theorem poolGet_found {w : WM} {sid v : Nat} {p : Nat × Nat}
    (h : (poolEntries w.pool sid).find? (·.1 == v) = some p) : w.poolGet sid v = (w, p.2) := by
  rw [poolGet_eq, h]

theorem poolGet_fresh {w : WM} {sid v : Nat}
    (h : (poolEntries w.pool sid).find? (·.1 == v) = none) :
    w.poolGet sid v =
      ({ w with pool := if w.pool.any (·.1 == sid) then
                    w.pool.map (fun p => if p.1 == sid then (sid, poolEntries w.pool sid ++ [(v, w.nextInst)]) else p)
                  else w.pool ++ [(sid, poolEntries w.pool sid ++ [(v, w.nextInst)])],
                nextInst := w.nextInst + 1 }, w.nextInst) := by
  rw [poolGet_eq, h]

theorem any_fst_of_find?_some {l : List (Nat × Nat)} {v : Nat} {p : Nat × Nat}
    (h : l.find? (·.1 == v) = some p) : l.any (·.1 == v) = true :=
  List.any_eq_true.mpr ⟨p, (find?_fst_some h).1, beq_iff_eq.mpr (find?_fst_some h).2⟩

theorem any_fst_of_find?_none {l : List (Nat × Nat)} {v : Nat} (h : l.find? (·.1 == v) = none) :
    l.any (·.1 == v) = false :=
  List.any_eq_false.mpr (List.find?_eq_none.mp h)

theorem poolGet_entries (w : WM) (sid v sid' : Nat) :
    poolEntries (w.poolGet sid v).1.pool sid' =
      if sid' = sid then
        (if (poolEntries w.pool sid).any (·.1 == v) then poolEntries w.pool sid
         else poolEntries w.pool sid ++ [(v, w.nextInst)])
      else poolEntries w.pool sid' := by
  cases hf : (poolEntries w.pool sid).find? (·.1 == v) with
  | some p =>
    rw [poolGet_found hf, any_fst_of_find?_some hf, if_pos rfl]
    split
    · rename_i hs; rw [hs]
    · rfl
  | none =>
    rw [poolGet_fresh hf, any_fst_of_find?_none hf]
    exact poolEntries_upsert w.pool sid _ sid'

theorem poolGet_nextInst (w : WM) (sid v : Nat) :
    (w.poolGet sid v).1.nextInst =
      if (poolEntries w.pool sid).any (·.1 == v) then w.nextInst else w.nextInst + 1 := by
  cases hf : (poolEntries w.pool sid).find? (·.1 == v) with
  | some p => rw [poolGet_found hf, any_fst_of_find?_some hf]; rfl
  | none => rw [poolGet_fresh hf, any_fst_of_find?_none hf]; rfl

theorem mem_poolGet_entries (w : WM) (sid v sid' : Nat) (p : Nat × Nat) :
    p ∈ poolEntries (w.poolGet sid v).1.pool sid' ↔
      p ∈ poolEntries w.pool sid' ∨
        (sid' = sid ∧ p = (v, w.nextInst) ∧ (poolEntries w.pool sid).any (·.1 == v) = false) := by
  rw [poolGet_entries]
  by_cases hs : sid' = sid
  · subst hs
    rw [if_pos rfl]
    cases (poolEntries w.pool sid').any (·.1 == v)
    · rw [if_neg Bool.false_ne_true, List.mem_append, List.mem_singleton]
      exact or_congr_right ⟨fun h => ⟨rfl, h, rfl⟩, fun h => h.2.1⟩
    · rw [if_pos rfl]
      exact ⟨Or.inl, fun h => h.elim id (fun h => nomatch h.2.2)⟩
  · rw [if_neg hs]
    exact ⟨Or.inl, fun h => h.elim id (fun h => absurd h.1 hs)⟩

theorem poolGet_frame (w : WM) (sid v : Nat) :
    (w.poolGet sid v).1 =
      { w with pool := (w.poolGet sid v).1.pool, nextInst := (w.poolGet sid v).1.nextInst } := by
  rw [poolGet_eq]; split <;> rfl

section
variable (w : WM) (sid v : Nat)

@[simp] theorem poolGet_worldId : (w.poolGet sid v).1.worldId = w.worldId :=
  (congrArg WM.worldId (poolGet_frame w sid v) :)
@[simp] theorem poolGet_slots : (w.poolGet sid v).1.slots = w.slots :=
  (congrArg WM.slots (poolGet_frame w sid v) :)
@[simp] theorem poolGet_next : (w.poolGet sid v).1.next = w.next :=
  (congrArg WM.next (poolGet_frame w sid v) :)
@[simp] theorem poolGet_empty : (w.poolGet sid v).1.empty = w.empty :=
  (congrArg WM.empty (poolGet_frame w sid v) :)
@[simp] theorem poolGet_locs : (w.poolGet sid v).1.locs = w.locs :=
  (congrArg WM.locs (poolGet_frame w sid v) :)
@[simp] theorem poolGet_archs : (w.poolGet sid v).1.archs = w.archs :=
  (congrArg WM.archs (poolGet_frame w sid v) :)
@[simp] theorem poolGet_deps : (w.poolGet sid v).1.deps = w.deps :=
  (congrArg WM.deps (poolGet_frame w sid v) :)
@[simp] theorem poolGet_lockDepth : (w.poolGet sid v).1.lockDepth = w.lockDepth :=
  (congrArg WM.lockDepth (poolGet_frame w sid v) :)
@[simp] theorem poolGet_nextEntityId :
    (w.poolGet sid v).1.nextEntityId = w.nextEntityId :=
  (congrArg WM.nextEntityId (poolGet_frame w sid v) :)
@[simp] theorem poolGet_nthreads : (w.poolGet sid v).1.nthreads = w.nthreads :=
  (congrArg WM.nthreads (poolGet_frame w sid v) :)
@[simp] theorem poolGet_buffers : (w.poolGet sid v).1.buffers = w.buffers :=
  (congrArg WM.buffers (poolGet_frame w sid v) :)
@[simp] theorem poolGet_marked : (w.poolGet sid v).1.marked = w.marked :=
  (congrArg WM.marked (poolGet_frame w sid v) :)
@[simp] theorem poolGet_temps : (w.poolGet sid v).1.temps = w.temps :=
  (congrArg WM.temps (poolGet_frame w sid v) :)

theorem poolGet_nextInst_le : w.nextInst ≤ (w.poolGet sid v).1.nextInst := by
  rw [poolGet_nextInst]
  cases (poolEntries w.pool sid).any (·.1 == v)
  · exact Nat.le_succ _
  · exact Nat.le_refl _

end

@[simp] theorem freshInst_pool (w : WM) : w.freshInst.1.pool = w.pool := rfl
@[simp] theorem freshInst_nextInst (w : WM) : w.freshInst.1.nextInst = w.nextInst + 1 := rfl
@[simp] theorem freshInst_snd (w : WM) : w.freshInst.2 = w.nextInst := rfl

theorem PoolInv.of_eq {w w' : WM} (hp : PoolInv w) (h : w'.pool = w.pool)
    (hn : w'.nextInst = w.nextInst) : PoolInv w' := by
  constructor
  · rw [h]; exact hp.vals_nodup
  · rw [h]; exact hp.insts_nodup
  · rw [h, hn]; exact hp.inst_lt
  · rw [h]; exact hp.inst_sid

theorem poolInv_of_pool_nil {w : WM} (h : w.pool = []) : PoolInv w := by
  have he : ∀ sid, poolEntries w.pool sid = [] := fun sid => by rw [h]; rfl
  exact ⟨fun s => by rw [he]; exact List.nodup_nil, fun s => by rw [he]; exact List.nodup_nil,
    fun s p hp => (by rw [he] at hp; cases hp), fun s s' p hp => (by rw [he] at hp; cases hp)⟩

theorem poolInv_init : PoolInv {} := poolInv_of_pool_nil rfl

theorem freshInst_inv {w : WM} (h : PoolInv w) : PoolInv w.freshInst.1 where
  vals_nodup := h.vals_nodup
  insts_nodup := h.insts_nodup
  inst_lt := fun sid p hp => Nat.lt_succ_of_lt (h.inst_lt sid p hp)
  inst_sid := h.inst_sid

theorem poolGet_inv {w : WM} (sid v : Nat) (h : PoolInv w) : PoolInv (w.poolGet sid v).1 := by
  cases hf : (poolEntries w.pool sid).find? (·.1 == v) with
  | some p => rw [poolGet_found hf]; exact h
  | none =>
    -- the new entry `(v, w.nextInst)` of `sid`: `v` is not pooled under `sid`, and no pooled instance is `w.nextInst`
    have ha : (poolEntries w.pool sid).any (·.1 == v) = false := any_fst_of_find?_none hf
    have hv : v ∉ (poolEntries w.pool sid).map (·.1) := find?_fst_eq_none.mp hf
    have hi : ∀ s, ∀ p ∈ poolEntries w.pool s, p.2 ≠ w.nextInst :=
      fun s p hp => Nat.ne_of_lt (h.inst_lt s p hp)
    have hn : (w.poolGet sid v).1.nextInst = w.nextInst + 1 := by rw [poolGet_nextInst, ha]; rfl
    have hent : ∀ s, poolEntries (w.poolGet sid v).1.pool s =
        if s = sid then poolEntries w.pool sid ++ [(v, w.nextInst)] else poolEntries w.pool s := by
      intro s; rw [poolGet_entries, ha]; rfl
    have hmem : ∀ s p, p ∈ poolEntries (w.poolGet sid v).1.pool s →
        p ∈ poolEntries w.pool s ∨ (s = sid ∧ p = (v, w.nextInst)) :=
      fun s p hp => ((mem_poolGet_entries w sid v s p).1 hp).imp_right fun hr => ⟨hr.1, hr.2.1⟩
    constructor
    · intro s
      rw [hent]
      split
      · exact nodup_map_concat (h.vals_nodup sid) hv
      · exact h.vals_nodup s
    · intro s
      rw [hent]
      split
      · refine nodup_map_concat (h.insts_nodup sid) fun hm => ?_
        obtain ⟨p, hp, e⟩ := List.mem_map.1 hm
        exact hi sid p hp e
      · exact h.insts_nodup s
    · intro s p hp
      rw [hn]
      rcases hmem s p hp with hp | ⟨_, rfl⟩
      · exact Nat.lt_succ_of_lt (h.inst_lt s p hp)
      · exact Nat.lt_succ_self _
    · intro s s' p hp q hq e
      rcases hmem s p hp with hp' | ⟨hs, hpe⟩ <;> rcases hmem s' q hq with hq' | ⟨hs', hqe⟩
      · exact h.inst_sid s s' p hp' q hq' e
      · exact absurd (e.trans (congrArg Prod.snd hqe)) (hi s p hp')
      · exact absurd (e.symm.trans (congrArg Prod.snd hpe)) (hi s' q hq')
      · rw [hs, hs']

theorem poolGet_mem (w : WM) (sid v : Nat) :
    (v, (w.poolGet sid v).2) ∈ poolEntries (w.poolGet sid v).1.pool sid := by
  cases hf : (poolEntries w.pool sid).find? (·.1 == v) with
  | some p =>
    rw [poolGet_found hf]
    have h1 := (find?_fst_some hf).1
    have h2 : p.1 = v := (find?_fst_some hf).2
    show (v, p.2) ∈ poolEntries w.pool sid
    rw [← h2]; exact h1
  | none =>
    have ha : (poolEntries w.pool sid).any (·.1 == v) = false := any_fst_of_find?_none hf
    rw [mem_poolGet_entries]
    refine Or.inr ⟨rfl, ?_, ha⟩
    rw [poolGet_fresh hf]

theorem poolGet_stable {w : WM} {sid v i : Nat} (h : PoolInv w) (hm : (v, i) ∈ poolEntries w.pool sid) :
    w.poolGet sid v = (w, i) :=
  poolGet_found (find?_fst_of_nodup (h.vals_nodup sid) hm)

theorem poolGet_mono (w : WM) (sid v : Nat) {sid' : Nat} {p : Nat × Nat}
    (h : p ∈ poolEntries w.pool sid') : p ∈ poolEntries (w.poolGet sid v).1.pool sid' :=
  (mem_poolGet_entries w sid v sid' p).2 (Or.inl h)

theorem poolGet_eq_iff_of_mem {w : WM} {sid v i : Nat} (h : PoolInv w)
    (hm : (v, i) ∈ poolEntries w.pool sid) (v' : Nat) : (w.poolGet sid v').2 = i ↔ v' = v := by
  constructor
  · intro e
    have h1 := poolGet_mem w sid v'
    rw [e] at h1
    have h2 := poolGet_mono w sid v' hm
    exact snd_inj_of_nodup ((poolGet_inv sid v' h).insts_nodup sid) h1 h2
  · rintro rfl
    rw [poolGet_stable h hm]

theorem poolGet_same_iff {w : WM} (sid v v' : Nat) (h : PoolInv w) :
    ((w.poolGet sid v).1.poolGet sid v').2 = (w.poolGet sid v).2 ↔ v' = v :=
  poolGet_eq_iff_of_mem (poolGet_inv sid v h) (poolGet_mem w sid v) v'

/-- reflexive-transitive closure of the pool steps `poolGet` (any `sid`, `v`) and `freshInst` -/
inductive PoolReach : WM → WM → Prop
  | refl (w : WM) : PoolReach w w
  | get {w w' : WM} (sid v : Nat) : PoolReach w w' → PoolReach w (w'.poolGet sid v).1
  | fresh {w w' : WM} : PoolReach w w' → PoolReach w w'.freshInst.1

theorem PoolReach.trans {a b c : WM} (h₁ : PoolReach a b) (h₂ : PoolReach b c) : PoolReach a c := by
  induction h₂ with
  | refl => exact h₁
  | get sid v _ ih => exact .get sid v ih
  | fresh _ ih => exact .fresh ih

theorem PoolReach.inv {w w' : WM} (h : PoolInv w) (hr : PoolReach w w') : PoolInv w' := by
  induction hr with
  | refl => exact h
  | get sid v _ ih => exact poolGet_inv sid v ih
  | fresh _ ih => exact freshInst_inv ih

theorem PoolReach.mono {w w' : WM} (hr : PoolReach w w') {sid : Nat} {p : Nat × Nat}
    (hp : p ∈ poolEntries w.pool sid) : p ∈ poolEntries w'.pool sid := by
  induction hr with
  | refl => exact hp
  | get sid' v _ ih => exact poolGet_mono _ sid' v ih
  | fresh _ ih => exact ih

theorem PoolReach.nextInst_le {w w' : WM} (hr : PoolReach w w') : w.nextInst ≤ w'.nextInst := by
  induction hr with
  | refl => exact Nat.le_refl _
  | get sid v _ ih => exact Nat.le_trans ih (poolGet_nextInst_le _ sid v)
  | fresh _ ih => exact Nat.le_trans ih (Nat.le_succ _)

/-- one instance per (shared id, value), across any number of later pool operations:
    equal values ⇒ same instance, different values ⇒ different instances -/
theorem one_instance_core {w w' : WM} (sid v v' : Nat) (h : PoolInv w)
    (hr : PoolReach (w.poolGet sid v).1 w') : (w'.poolGet sid v').2 = (w.poolGet sid v).2 ↔ v' = v :=
  poolGet_eq_iff_of_mem (hr.inv (poolGet_inv sid v h)) (hr.mono (poolGet_mem w sid v)) v'

theorem freshInst_not_pooled {w : WM} (h : PoolInv w) (sid : Nat) :
    ∀ p ∈ poolEntries w.freshInst.1.pool sid, p.2 ≠ w.freshInst.2 :=
  fun p hp => Nat.ne_of_lt (h.inst_lt sid p hp)

end Mustache.Model
