import Mustache.Proofs.RefineCheck
/-!
# Refinement: initial states, joint runs of model and spec over a history
-/
namespace Mustache.Proofs.Refine
open Mustache.Model Mustache.Spec
open Mustache.Proofs.IdTable (tabOf Ghost TInv)
open Mustache.Proofs.Rows

variable (info : CompId → CompInfo)

theorem init_inv (wid n : Nat) : Inv (CW.init wid n) :=
  { tinv := ⟨Ghost.init, Mustache.Proofs.IdTable.init_inv wid, rfl, fun _ => Iff.rfl⟩
    pendNodup := List.nodup_nil
    rows := ⟨fun _ _ _ h => (nomatch h), fun _ _ _ h => (nomatch h)⟩
    keys := ⟨fun _ h => (nomatch h), fun _ _ h => (nomatch h)⟩
    live := ⟨fun e h => by simp [WM.isValid, CW.init] at h, fun _ _ _ h => (nomatch h)⟩
    pool := poolInv_of_pool_nil rfl
    shared := List.forall_mem_nil _
    depsB := List.forall_mem_nil _
    locsCover := Nat.le_refl _
    bufLe := Nat.zero_le _
    bufLen := fun h => (nomatch h)
    bufEmpty := fun _ => List.forall_mem_nil _
    bufKnown := List.forall_mem_nil _
    markedKnown := List.forall_mem_nil _
    markedRange := List.forall_mem_nil _
    markedSorted := List.Pairwise.nil }

theorem init_rel (wid n : Nat) : Rel (CW.init wid n) (specInit n) :=
  { len := rfl
    ents := fun _ _ ho => (nomatch ho)
    deps := rfl
    lockDepth := rfl
    nthreads := rfl
    buffers := .nil
    marked := fun _ => ⟨fun h => (nomatch h.1), fun ⟨_, hm, _⟩ => (nomatch hm)⟩
    markedLt := List.forall_mem_nil _
    markedOld := List.forall_mem_nil _
    markedNodup := List.nodup_nil }

theorem init_bounds (wid n : Nat) : Bounds (CW.init wid n) :=
  ⟨by show 0 < 2^30 - 1; decide, List.forall_mem_nil _⟩

/-- model and spec run side by side; the spec reads every handle through the ordinal map of the moment -/
def runBoth (c : CW) (s : WS) : List (Op Handle) → CW × WS
  | [] => (c, s)
  | op :: rest => runBoth (c.step info op).1 (s.step info (op.mapRef (ordOf c.issued))).1 rest

/-- the history keeps the contract and the range side conditions at every step -/
def WfRun (c : CW) : List (Op Handle) → Prop
  | [] => True
  | op :: rest => OpWf c op ∧ Bounds (c.step info op).1 ∧ WfRun (c.step info op).1 rest

/-- every observation (result and callbacks) of the run agrees -/
def AllAgree (c : CW) (s : WS) : List (Op Handle) → Prop
  | [] => True
  | op :: rest =>
    stepAgree (c.step info op).1 op (c.step info op).2.1 (c.step info op).2.2
      (s.step info (op.mapRef (ordOf c.issued))).2.1 (s.step info (op.mapRef (ordOf c.issued))).2.2 ∧
    AllAgree (c.step info op).1 (s.step info (op.mapRef (ordOf c.issued))).1 rest

def wfRunB (c : CW) : List (Op Handle) → Bool
  | [] => true
  | op :: rest => opWfB c op && wfRunB (c.step info op).1 rest

/-- the contract part of `WfRun` only (what `wfRunB` decides) -/
def OpWfRun (c : CW) : List (Op Handle) → Prop
  | [] => True
  | op :: rest => OpWf c op ∧ OpWfRun (c.step info op).1 rest

theorem opWfRun_of_check : ∀ (ops : List (Op Handle)) (c : CW), wfRunB info c ops = true → OpWfRun info c ops
  | [], _, _ => trivial
  | op :: rest, c, h => by
    simp only [wfRunB, Bool.and_eq_true] at h
    exact ⟨opWfB_sound h.1, opWfRun_of_check rest _ h.2⟩

theorem run_refines_of_steps
    (hstep : ∀ (c : CW) (s : WS) (op : Op Handle), Inv c → Bounds c → Rel c s → OpWf c op →
      Bounds (c.step info op).1 → StepRefines info c s op) :
    ∀ (ops : List (Op Handle)) (c : CW) (s : WS), Inv c → Bounds c → Rel c s → WfRun info c ops →
      Inv (runBoth info c s ops).1 ∧ Rel (runBoth info c s ops).1 (runBoth info c s ops).2 ∧ AllAgree info c s ops
  | [], _, _, hi, _, hr, _ => ⟨hi, hr, trivial⟩
  | op :: rest, c, s, hi, hb, hr, hwf => by
    have h1 := hstep c s op hi hb hr hwf.1 hwf.2.1
    have ih := run_refines_of_steps hstep rest _ _ h1.1 hwf.2.1 h1.2.1 hwf.2.2
    exact ⟨ih.1, ih.2.1, h1.2.2, ih.2.2⟩

def boundsB (c : CW) : Bool :=
  decide (c.w.slots.length < 2^30 - 1) && c.issued.all (fun h => decide (h.ver + 1 < 2^24))

theorem boundsB_sound {c : CW} (h : boundsB c = true) : Bounds c := by
  unfold boundsB at h
  simp only [Bool.and_eq_true, decide_eq_true_eq, List.all_eq_true] at h
  exact ⟨h.1, h.2⟩

def wfRunFullB (c : CW) : List (Op Handle) → Bool
  | [] => true
  | op :: rest => opWfB c op && boundsB (c.step info op).1 && wfRunFullB (c.step info op).1 rest

theorem wfRun_of_check : ∀ (ops : List (Op Handle)) (c : CW), wfRunFullB info c ops = true → WfRun info c ops
  | [], _, _ => trivial
  | op :: rest, c, h => by
    simp only [wfRunFullB, Bool.and_eq_true] at h
    exact ⟨opWfB_sound h.1.1, boundsB_sound h.1.2, wfRun_of_check rest _ h.2⟩

/-! ## a concrete history (non-vacuity of the hypotheses) -/

/-- five-field component descriptions: constructible with default `c + 100`, callbacks on the even ids -/
def exInfo : CompId → CompInfo := fun c => ⟨true, some (c + 100), none, c % 2 == 0, false⟩

def exH (i v : Nat) : Handle := ⟨i, v, 0⟩

/-- create, assign, lock, deferred create + assign from two threads, unlock (flush), destroyNow, a creation that
recycles the freed id, remove, clone -/
def exHistory : List (Op Handle) :=
  [ .create 0 [0, 1] [],
    .assign 0 (exH 0 0) 2 (some 5),
    .lock,
    .create 0 [0] [],
    .assign 0 (exH 1 0) 4 (some 7),
    .create 1 [2] [3],
    .assign 1 (exH 2 0) 0 none,
    .unlock,
    .destroyNow 0 (exH 0 0),
    .create 0 [2] [],
    .remove 0 (exH 1 0) 4,
    .clone (exH 2 0) ]

/-- a LATE dependency declaration on a held master: entity 0 holds component 0, then `0 → 1` is declared (its
archetype `[0]` is no longer closed); a deferred re-assignment of the held component (the entity stays in its
archetype), `assignShared` (archetype lookup: the entity gains component 1), a removal the closure undoes, reads -/
def exLateHistory : List (Op Handle) :=
  [ .create 0 [0] [],
    .dep 0 [1],
    .lock,
    .assign 0 (exH 0 0) 0 (some 5),
    .unlock,
    .get (exH 0 0) 0,
    .has (exH 0 0) 1,
    .sassign (exH 0 0) 7 3,
    .has (exH 0 0) 1,
    .remove 0 (exH 0 0) 1,
    .get (exH 0 0) 0 ]

end Mustache.Proofs.Refine
