import Mustache.Proofs.SharedArch
import Mustache.Proofs.SharedPool
import Mustache.Proofs.RowsObs
/-! # Shared edits (`assignShared`, `removeSharedComponent`) move the row and keep the ordinary components (C12)

Both edits look up the archetype of (same mask, edited descriptor) and move the entity's row there
(`WM.reshare`). What the component queries return is read off the entity's location (`LocAt`): its
archetype's mask and its row. The move itself is `Rows.externalMove_eq2`: a swap-remove and an `insertRow`. -/
namespace Mustache.Model
open Mustache.Proofs

variable (info : CompId → CompInfo)

structure LocAt (w : WM) (e : Handle) (ai i : Nat) (row : Row) : Prop where
  valid : w.isValid e = true
  idok : e.id ≠ 2^30 - 1
  loc : w.locOf e = ⟨some ai, i⟩
  rowAt : (w.arch ai).rows[i]? = some row
  ent : row.ent = e

def LocOK (w : WM) (e : Handle) : Prop := ∃ ai i row, LocAt w e ai i row ∧ row.vals.length = (w.arch ai).mask.length

@[simp] theorem setArch_slots (w : WM) (i : Nat) (a : Arch) : (w.setArch i a).slots = w.slots := rfl
@[simp] theorem setArch_worldId (w : WM) (i : Nat) (a : Arch) : (w.setArch i a).worldId = w.worldId := rfl
@[simp] theorem setArch_locs (w : WM) (i : Nat) (a : Arch) : (w.setArch i a).locs = w.locs := rfl

theorem locOf_lt {w : WM} {e : Handle} {ai i : Nat} (h : w.locOf e = ⟨some ai, i⟩) : e.id < w.locs.length :=
  lt_of_getD_ne (d := ⟨none, 0⟩) fun hn => nomatch hn.symm.trans h

theorem LocAt.transfer {w w' : WM} {e : Handle} {ai i : Nat} {row : Row} (h : LocAt w e ai i row)
    (hs : w'.slots = w.slots) (hw : w'.worldId = w.worldId) (hl : w'.locs = w.locs) (ha : w'.arch ai = w.arch ai) :
    LocAt w' e ai i row :=
  ⟨by unfold WM.isValid; rw [hs, hw]; exact h.valid, h.idok, by unfold WM.locOf; rw [hl]; exact h.loc,
   by rw [ha]; exact h.rowAt, h.ent⟩

theorem hasComp_of_locAt {w : WM} {e : Handle} {ai i : Nat} {row : Row} (h : LocAt w e ai i row) (c : CompId) :
    w.hasComp e c = (w.arch ai).mask.contains c := by
  rw [Rows.hasComp_of_loc h.loc, h.valid]; rfl

theorem getComp_of_locAt {w : WM} {e : Handle} {ai i : Nat} {row : Row} (h : LocAt w e ai i row) (c : CompId) :
    w.getComp e c = (idx? (w.arch ai).mask c).map (fun ci => row.vals.getD ci none) := by
  rw [Rows.getComp_of_loc h.loc h.rowAt, h.valid, if_pos rfl, Mask.indexOf?_eq]
  cases idx? (w.arch ai).mask c <;> rfl

structure ArFrame (w w' : WM) (ai : Nat) : Prop where
  slots : w'.slots = w.slots
  worldId : w'.worldId = w.worldId
  locsLen : w'.locs.length = w.locs.length
  archsLen : w'.archs.length = w.archs.length
  other : ∀ j, j ≠ ai → w'.arch j = w.arch j

theorem archRemove_frame (w : WM) (ai idx : Nat) (skip : Mask) : ArFrame w (w.archRemove info ai idx skip).1 ai :=
  have f := Rows.archRemove_frame info w ai idx skip
  ⟨f.1.slots, f.1.worldId, f.2.2.1, f.2.1, f.2.2.2.1⟩

theorem moveVals_getD {w : WM} {ti pi idx : Nat} {row : Row} (hrow : (w.arch pi).rows[idx]? = some row) (skip : Mask)
    {c ci i : Nat} (hci : idx? (w.arch ti).mask c = some ci) (hi : idx? (w.arch pi).mask c = some i) :
    (Rows.moveVals info w ti pi idx skip).getD ci none = row.vals.getD i none := by
  have hrowD : (w.arch pi).rows.getD idx default = row := by
    rw [List.getD_eq_getElem?_getD, hrow]; rfl
  unfold Rows.moveVals
  rw [List.getD_eq_getElem?_getD, List.getElem?_map, (idx?_eq_some hci).2]
  simp only [Option.map_some, Option.getD_some, Mask.indexOf?_eq, hi, hrowD]

theorem externalMove_post {w : WM} {e : Handle} {pi idx : Nat} {row : Row} (h : LocAt w e pi idx row)
    {ti : Nat} (hti : ti < w.archs.length) (hne : ti ≠ pi) (skip : Mask) :
    ∃ w' cbs, w.externalMove info ti e pi idx skip = some (w', cbs) ∧
      LocAt w' e ti (w.arch ti).rows.length ⟨e, Rows.moveVals info w ti pi idx skip⟩ ∧
      (w'.arch ti).mask = (w.arch ti).mask ∧ (w'.arch ti).shared = (w.arch ti).shared ∧ w'.deps = w.deps := by
  have heq := Rows.externalMove_eq2 info w ti e pi idx skip hne
  obtain ⟨hsame, halen, hllen, hother, _⟩ := Rows.archRemove_frame info w pi idx (w.arch ti).mask
  generalize (w.archRemove info pi idx (w.arch ti).mask).1 = w1 at heq hsame halen hllen hother
  have harch := Rows.insertRow_arch_same w1 ti e (Rows.moveVals info w ti pi idx skip) (halen ▸ hti)
  rw [hother ti hne] at harch
  have hs := hsame.trans (Rows.insertRow_sameTable w1 ti e (Rows.moveVals info w ti pi idx skip))
  refine ⟨_, _, heq, ⟨(hs.isValid e).trans h.valid, h.idok, ?_, ?_, rfl⟩, by rw [harch], by rw [harch], hs.deps⟩
  · rw [Rows.insertRow_locOf_self w1 ti e _ h.idok (hllen ▸ locOf_lt h.loc), hother ti hne]
  · rw [harch]; exact List.getElem?_concat_length

/-- the state after `getArch pa.mask sh` followed by `externalMove … []` (which refuses to move a row to its own
    archetype) -/
def WM.reshare (w : WM) (e : Handle) (pi idx : Nat) (sh : Shared) : WM :=
  match (w.getArch (w.arch pi).mask sh).1.externalMove info (w.getArch (w.arch pi).mask sh).2 e pi idx [] with
  | none => (w.getArch (w.arch pi).mask sh).1
  | some r => r.1

structure EditPost (w w' : WM) (e : Handle) (ai : Nat) : Prop where
  /-- still at a consistent location, in an archetype whose mask is the closure of the old mask -/
  loc : ∃ ai' i' row', LocAt w' e ai' i' row' ∧ (w'.arch ai').mask = closedMask w.deps (w.arch ai).mask ∧
    row'.vals.length = (w'.arch ai').mask.length
  /-- every component it had has the same value -/
  vals : ∀ c ∈ (w.arch ai).mask, w'.getComp e c = w.getComp e c
  deps : w'.deps = w.deps

theorem EditPost.has {w w' : WM} {e : Handle} {ai : Nat} (h : EditPost w w' e ai) (c : CompId) :
    w'.hasComp e c = (closedMask w.deps (w.arch ai).mask).contains c := by
  obtain ⟨ai', i', row', hl, hm, _⟩ := h.loc
  rw [hasComp_of_locAt hl, hm]

theorem EditPost.keep {w w' : WM} {e : Handle} {ai i : Nat} {row : Row} (hp : EditPost w w' e ai)
    (h : LocAt w e ai i row) (c : CompId) (hc : w.hasComp e c = true) :
    w'.hasComp e c = true ∧ w'.getComp e c = w.getComp e c := by
  have hm : c ∈ (w.arch ai).mask := by
    rw [hasComp_of_locAt h] at hc; exact List.contains_iff_mem.mp hc
  exact ⟨by rw [hp.has c]; exact List.contains_iff_mem.mpr (subset_closedMask hm), hp.vals c hm⟩

theorem EditPost.same {w w' : WM} {e : Handle} {ai i : Nat} {row : Row} (hp : EditPost w w' e ai)
    (h : LocAt w e ai i row) (hcl : closedMask w.deps (w.arch ai).mask = (w.arch ai).mask) (c : CompId) :
    w'.hasComp e c = w.hasComp e c := by
  rw [hp.has c, hcl, hasComp_of_locAt h]

theorem EditPost.locOK {w w' : WM} {e : Handle} {ai : Nat} (h : EditPost w w' e ai) : LocOK w' e := by
  obtain ⟨a, b, r, hl, _, hlen⟩ := h.loc
  exact ⟨a, b, r, hl, hlen⟩

/-- the move of `reshare`, for any state `w1` and target `ti` with what `getArch` guarantees of them: `w1` agrees
    with `w` on what `LocAt` reads, and `ti` is an archetype of `w1` with the closed mask -/
theorem move_editPost {w w1 : WM} {e : Handle} {pi idx : Nat} {row : Row} (h : LocAt w e pi idx row)
    (hlen : row.vals.length = (w.arch pi).mask.length)
    (hs : w1.slots = w.slots) (hw : w1.worldId = w.worldId) (hl : w1.locs = w.locs) (ha : w1.arch pi = w.arch pi)
    (hd : w1.deps = w.deps) {ti : Nat} (hti : ti < w1.archs.length)
    (hmask : (w1.arch ti).mask = closedMask w.deps (w.arch pi).mask) :
    EditPost w (match w1.externalMove info ti e pi idx [] with | none => w1 | some r => r.1) e pi := by
  have h1 : LocAt w1 e pi idx row := h.transfer hs hw hl ha
  by_cases hne : ti = pi
  · -- the lookup returned the entity's own archetype: nothing moves
    subst hne
    rw [Rows.externalMove_self]
    refine ⟨⟨ti, idx, row, h1, hmask, by rw [ha]; exact hlen⟩, fun c _ => ?_, hd⟩
    rw [getComp_of_locAt h1, getComp_of_locAt h, ha]
  · obtain ⟨w2, cbs, hmv, m1, m2, _, m4⟩ := externalMove_post info h1 hti hne []
    rw [hmv]
    refine ⟨⟨_, _, _, m1, m2.trans hmask, by rw [m2]; exact List.length_map _⟩, fun c hc => ?_, m4.trans hd⟩
    -- `c` has a column in both archetypes
    have hcp : c ∈ (w1.arch pi).mask := ha ▸ hc
    have hct : c ∈ (w1.arch ti).mask := hmask ▸ subset_closedMask hc
    rw [getComp_of_locAt m1, getComp_of_locAt h, m2, ← ha, idx?_of_mem hct, idx?_of_mem hcp]
    exact congrArg some (moveVals_getD info h1.rowAt [] (idx?_of_mem hct) (idx?_of_mem hcp))

theorem reshare_editPost {w : WM} {e : Handle} {pi idx : Nat} {row : Row} (h : LocAt w e pi idx row)
    (hlen : row.vals.length = (w.arch pi).mask.length) (sh : Shared) :
    EditPost w (w.reshare info e pi idx sh) e pi :=
  have post := getArch_post w (w.arch pi).mask sh
  have same := Rows.getArch_sameTable w (w.arch pi).mask sh
  move_editPost info h hlen same.slots same.worldId (Rows.getArch_locs w _ sh)
    (post.old pi (Rows.lt_of_row h.rowAt)) same.deps post.lt post.mask

theorem sassign_eq {w : WM} {e : Handle} {pi idx : Nat} (hloc : w.locOf e = ⟨some pi, idx⟩) (sid v : Nat) :
    (w.sassign info e sid v).1 =
      (w.poolGet sid v).1.reshare info e pi idx ((w.arch pi).shared.add sid (w.poolGet sid v).2) := by
  have ha : (w.poolGet sid v).1.arch pi = w.arch pi := by unfold WM.arch; rw [poolGet_archs]
  unfold WM.sassign WM.reshare
  simp only [hloc, ha]
  cases WM.externalMove info _ _ e pi idx [] <;> rfl

theorem sremove_eq {w : WM} {e : Handle} {pi idx : Nat} (hv : w.isValid e = true) (hloc : w.locOf e = ⟨some pi, idx⟩)
    (sid : Nat) (hhas : (w.arch pi).shared.has sid = true) :
    (w.sremove info e sid).1 = w.reshare info e pi idx ((w.arch pi).shared.remove sid) := by
  unfold WM.sremove WM.reshare
  simp only [hv, hloc, hhas, Bool.not_true, Bool.false_eq_true, if_false]
  cases WM.externalMove info _ _ e pi idx [] <;> rfl

theorem sremove_absent {w : WM} {e : Handle} {pi idx : Nat} (hloc : w.locOf e = ⟨some pi, idx⟩)
    (sid : Nat) (hhas : (w.arch pi).shared.has sid = false) : w.sremove info e sid = (w, false, []) := by
  unfold WM.sremove
  simp only [hloc, hhas, Bool.not_false, if_true, ite_self]

theorem sassign_post {w : WM} {e : Handle} {ai i : Nat} {row : Row} (h : LocAt w e ai i row)
    (hlen : row.vals.length = (w.arch ai).mask.length) (sid v : Nat) :
    EditPost w (w.sassign info e sid v).1 e ai := by
  -- `poolGet` only touches the pool
  have ha : (w.poolGet sid v).1.arch ai = w.arch ai := by unfold WM.arch; rw [poolGet_archs]
  have hd : (w.poolGet sid v).1.deps = w.deps := poolGet_deps w sid v
  have h0 : LocAt (w.poolGet sid v).1 e ai i row :=
    h.transfer (poolGet_slots ..) (poolGet_worldId ..) (poolGet_locs ..) ha
  have post := reshare_editPost info h0 (by rw [ha]; exact hlen) ((w.arch ai).shared.add sid (w.poolGet sid v).2)
  rw [sassign_eq info h.loc sid v]
  obtain ⟨hloc, hvals, hdeps⟩ := post
  rw [hd, ha] at hloc
  refine ⟨hloc, fun c hc => ?_, hdeps.trans hd⟩
  rw [hvals c (ha ▸ hc), getComp_of_locAt h0, getComp_of_locAt h, ha]

theorem sremove_post {w : WM} {e : Handle} {ai i : Nat} {row : Row} (h : LocAt w e ai i row)
    (hlen : row.vals.length = (w.arch ai).mask.length) (sid : Nat) :
    ((w.arch ai).shared.has sid = false ∧ w.sremove info e sid = (w, false, [])) ∨
    ((w.arch ai).shared.has sid = true ∧ EditPost w (w.sremove info e sid).1 e ai) := by
  cases hh : (w.arch ai).shared.has sid with
  | false => exact Or.inl ⟨rfl, sremove_absent info h.loc sid hh⟩
  | true =>
    refine Or.inr ⟨rfl, ?_⟩
    rw [sremove_eq info h.valid h.loc sid hh]
    exact reshare_editPost info h hlen _

end Mustache.Model
