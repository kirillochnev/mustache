import Mustache.Proofs.RefinePool
/-!
# Refinement: `lock`, inner `unlock`, and every structural call issued while locked

While `lockDepth > 0` both sides only append commands to buffer `t` (C05, `locked_isolation_*`): the model state
changes in `buffers`, `nextEntityId`, `temps` (and the pool, for the default-valued shared components of a
`create`), the spec state in `buffers` (and one `none` entry per reserved ordinal).
-/
namespace Mustache.Proofs.Refine
open Mustache.Model Mustache.Spec
open Mustache.Proofs.IdTable (tabOf Ghost TInv)
open Mustache.Proofs.Rows

variable (info : CompId → CompInfo) {c : CW} {s : WS}

structure StructEq (w w' : WM) : Prop where
  worldId : w'.worldId = w.worldId
  slots : w'.slots = w.slots
  next : w'.next = w.next
  empty : w'.empty = w.empty
  locs : w'.locs = w.locs
  archs : w'.archs = w.archs
  deps : w'.deps = w.deps
  pool : w'.pool = w.pool
  nextInst : w'.nextInst = w.nextInst
  nthreads : w'.nthreads = w.nthreads
  marked : w'.marked = w.marked

theorem StructEq.eq {w w' : WM} (h : StructEq w w') :
    w' = { w with lockDepth := w'.lockDepth, nextEntityId := w'.nextEntityId, buffers := w'.buffers, temps := w'.temps } := by
  cases w; cases w'
  rcases h with ⟨h1, h2, h3, h4, h5, h6, h7, h8, h9, h10, h11⟩
  simp only at h1 h2 h3 h4 h5 h6 h7 h8 h9 h10 h11
  subst h1 h2 h3 h4 h5 h6 h7 h8 h9 h10 h11
  rfl

/-- `lock` pads the buffers to one per thread; once they are (`Inv.bufLen`), a nested `lock` pads by nothing -/
theorem lock_eq {w : WM} (hlen : 0 < w.lockDepth → w.buffers.length = w.nthreads) :
    w.lock = { w with lockDepth := w.lockDepth + 1,
                      nextEntityId := if w.lockDepth = 0 then w.slots.length else w.nextEntityId,
                      buffers := w.buffers ++ List.replicate (w.nthreads - w.buffers.length) [] } := by
  unfold WM.lock
  by_cases hd : w.lockDepth = 0
  · simp [hd]
  · simp [hd, hlen (Nat.pos_of_ne_zero hd)]

theorem specLock_eq {s : WS} (hlen : 0 < s.lockDepth → s.buffers.length = s.nthreads) :
    s.lock = { s with lockDepth := s.lockDepth + 1,
                      buffers := s.buffers ++ List.replicate (s.nthreads - s.buffers.length) [] } := by
  unfold WS.lock
  by_cases hd : s.lockDepth = 0
  · simp [hd]
  · simp [hd, hlen (Nat.pos_of_ne_zero hd)]

theorem lock_refines (hi : Inv c) (hr : Rel c s) : StepRefines info c s .lock := by
  obtain ⟨w, iss⟩ := c
  have hlen : w.buffers.length = s.buffers.length := hr.buffers.length
  refine StepRefines.intro (w' := w.lock) (s' := s.lock) info rfl rfl ?_ ?_ (agree_ok_nil _ _ rfl)
  · have htab : tabOf w.lock = (tabOf w).lock := Mustache.Proofs.IdTable.lock_tab w
    rw [lock_eq hi.bufLen] at htab ⊢
    rcases hi.tinv with ⟨g, tinv, hiss, hpend⟩
    have htl : TInv (tabOf w).lock g :=
      Mustache.Proofs.IdTable.lock_inv tinv (fun hd => pending_nil_of_unlocked hi hd hpend)
    have hlen' : (w.buffers ++ List.replicate (w.nthreads - w.buffers.length) ([] : List Cmd)).length = w.nthreads := by
      rw [List.length_append, List.length_replicate]; exact Nat.add_sub_cancel' hi.bufLe
    refine inv_ctl_set hi _ _ _ w.temps ⟨g, htab ▸ htl, hiss, fun h => ?_⟩ ?_ (Nat.le_of_eq hlen') (fun _ => hlen')
      (fun h => absurd h (Nat.succ_ne_zero _)) (fun x hx cmd hc => ?_) (fun h hm => ?_)
    · rw [createHandles_pad]; exact hpend h
    · rw [createHandles_pad]; exact hi.pendNodup
    · rcases List.mem_append.mp hx with h | h
      · exact hi.bufKnown x h cmd hc
      · rw [(List.mem_replicate.mp h).2] at hc; cases hc
    · rw [createHandles_pad]; exact (hi.markedKnown h hm).2
  · rw [lock_eq hi.bufLen, specLock_eq fun h => by rw [← hlen, hr.nthreads]; exact hi.bufLen (hr.lockDepth ▸ h)]
    exact
    { hr with
      lockDepth := congrArg (· + 1) hr.lockDepth
      buffers := by
        show All2 _ (w.buffers ++ _) (s.buffers ++ _)
        rw [hr.nthreads, ← hlen]
        exact hr.buffers.append (All2.replicate .nil _)
      markedOld := fun o ho h hh => by
        show h ∉ createHandles (w.buffers ++ _)
        rw [createHandles_pad]; exact hr.markedOld o ho h hh }

theorem unlock_inner_refines (hi : Inv c) (hr : Rel c s) (hd : 2 ≤ c.w.lockDepth) :
    StepRefines info c s .unlock := by
  obtain ⟨w, iss⟩ := c
  have h1 : w.lockDepth > 0 := Nat.lt_of_lt_of_le Nat.zero_lt_two hd
  have h2 : ¬ (w.lockDepth - 1 = 0) := Nat.sub_ne_zero_of_lt hd
  have hw : w.step info .unlock = ({ w with lockDepth := w.lockDepth - 1 }, .ret false, []) := by
    show ((w.unlock info).1, Out.ret (w.unlock info).2.1, (w.unlock info).2.2) = _
    unfold WM.unlock
    rw [if_pos h1, if_neg h2]
  have hs : s.step info .unlock = ({ s with lockDepth := s.lockDepth - 1 }, .ret false, []) := by
    show ((s.unlock info).1, Out.ret (s.unlock info).2.1, (s.unlock info).2.2) = _
    unfold WS.unlock
    rw [hr.lockDepth, if_pos h1, if_neg h2]
  refine StepRefines.intro info hw hs ?_ { hr with lockDepth := congrArg (· - 1) hr.lockDepth }
    ⟨rfl, show cbsAgreeNet _ [] [] from ⟨fun _ h => (nomatch h), fun _ _ => ⟨rfl, Nat.le_refl _, Nat.le_refl _⟩⟩⟩
  rcases hi.tinv with ⟨g, tinv, hiss, hpend⟩
  have htab : tabOf { w with lockDepth := w.lockDepth - 1 } = (tabOf w).unlockDepth := by
    unfold Mustache.Model.Tab.unlockDepth
    rw [if_pos (show (tabOf w).lockDepth > 0 from h1)]
    rfl
  exact inv_ctl_set hi _ _ _ w.temps ⟨g, htab ▸ Mustache.Proofs.IdTable.unlockDepth_inv tinv, hiss, hpend⟩
    hi.pendNodup hi.bufLe (fun _ => hi.bufLen h1) (fun h => absurd h h2) hi.bufKnown (fun h hm => (hi.markedKnown h hm).2)

theorem update_locked_refines (hi : Inv c) (hr : Rel c s) (hl : c.w.isLocked = true) :
    StepRefines info c s .update := by
  have hw : c.w.step info .update = (c.w, .lockedUpdate, []) := by
    show ((c.w.update info).1, resOut (c.w.update info).2.1, (c.w.update info).2.2) = _
    rw [WM.update, if_pos hl]; rfl
  have hs : s.step info .update = (s, .lockedUpdate, []) := by
    show (if s.lockDepth > 0 then _ else _) = _
    rw [if_pos (by rw [hr.lockDepth]; exact (isLocked_iff _).mp hl)]
  exact noop_refines info hi hr rfl hw hs rfl trivial

/-- a structural call on an existing entity; while locked each only appends its commands to buffer `t` -/
inductive Edit where
  | assign (c : CompId) (v : Option Nat)
  | remove (c : CompId)
  | build (adds : List (CompId × Option Nat)) (rems : Mask)
  | destroy
  | destroyNow

def Edit.op {ρ : Type} (t : Nat) (e : ρ) : Edit → Op ρ
  | .assign c v => .assign t e c v
  | .remove c => .remove t e c
  | .build adds rems => .build t e adds rems
  | .destroy => .destroy t e
  | .destroyNow => .destroyNow t e

/-- what the call defers in the model: a builder edit is one `assign` per argument, then one `remove` per removed
component -/
def Edit.cmds (e : Handle) : Edit → List Cmd
  | .assign c v => [.assign e c (storedVal info c v)]
  | .remove c => [.remove e c]
  | .build adds rems => adds.map (fun p => .assign e p.1 (storedVal info p.1 p.2)) ++ rems.map (.remove e)
  | .destroy => [.destroy e]
  | .destroyNow => [.destroyNow e]

def Edit.scmds (o : Option Nat) : Edit → List SCmd
  | .assign c v => [.assign o c (storedVal info c v)]
  | .remove c => [.remove o c]
  | .build adds rems => adds.map (fun p => .assign o p.1 (storedVal info p.1 p.2)) ++ rems.map (.remove o)
  | .destroy => [.destroy o]
  | .destroyNow => [.destroyNow o]

def pushAll (t : Nat) (w : WM) (cmds : List Cmd) : WM := cmds.foldl (fun w c => w.pushCmd t c) w

def specPushAll (t : Nat) (s : WS) (cmds : List SCmd) : WS := cmds.foldl (fun s c => s.push t c) s

theorem Edit.cmds_entity (e : Handle) (ed : Edit) : ∀ c ∈ ed.cmds info e, crH c = none ∧ c.entity = e := by
  cases ed with
  | build adds rems =>
    intro c hc
    rcases List.mem_append.mp hc with h | h <;> rcases List.mem_map.mp h with ⟨_, _, rfl⟩ <;> exact ⟨rfl, rfl⟩
  | _ =>
    intro c hc
    rcases List.mem_singleton.mp hc with rfl
    exact ⟨rfl, rfl⟩

theorem Edit.cmds_rel (iss : List Handle) (p : Pool) (e : Handle) (ed : Edit) :
    All2 (cmdRel iss p) (ed.cmds info e) (ed.scmds info (ordOf iss e)) := by
  cases ed with
  | build adds rems =>
    exact (All2.of_map adds _ _ fun _ => ⟨rfl, rfl, rfl⟩).append (All2.of_map rems _ _ fun _ => ⟨rfl, rfl⟩)
  | _ => exact .cons (by simp [cmdRel]) .nil

theorem pushAll_temps (t : Nat) (tmp : List (CompId × Nat)) : ∀ (cmds : List Cmd) (w : WM),
    pushAll t { w with temps := tmp } cmds = { pushAll t w cmds with temps := tmp }
  | [], _ => rfl
  | c :: cs, w => pushAll_temps t tmp cs (w.pushCmd t c)

theorem pushAll_isLocked (t : Nat) : ∀ (cmds : List Cmd) (w : WM), (pushAll t w cmds).isLocked = w.isLocked
  | [], _ => rfl
  | c :: cs, w => pushAll_isLocked t cs (w.pushCmd t c)

/-- the model side of a locked `assign`: the command is pushed; a counted component leaves a temporary -/
theorem assign_locked_eq (w : WM) (hl : w.isLocked = true) (t : Nat) (e : Handle) (comp : CompId) (v : Option Nat) :
    ∃ tmp, w.assign info t e comp v =
      ({ w.pushCmd t (.assign e comp (storedVal info comp v)) with temps := tmp }, .ok, []) := by
  rw [assign_locked info w t e comp v hl]
  split
  · exact ⟨_, rfl⟩
  · exact ⟨w.temps, rfl⟩

theorem assignFold_locked_eq (t : Nat) (e : Handle) : ∀ (adds : List (CompId × Option Nat)) (w : WM) (cbs : List Cb),
    w.isLocked = true →
    ∃ tmp, adds.foldl (fun (acc : WM × List Cb) p =>
        let (w', _, c) := acc.1.assign info t e p.1 p.2
        (w', acc.2 ++ c)) (w, cbs) =
      ({ pushAll t w (adds.map (fun p => .assign e p.1 (storedVal info p.1 p.2))) with temps := tmp }, cbs)
  | [], w, cbs, _ => ⟨w.temps, rfl⟩
  | p :: ps, w, cbs, hl => by
    rcases assign_locked_eq info w hl t e p.1 p.2 with ⟨tmp, hw⟩
    rcases assignFold_locked_eq t e ps { w.pushCmd t (.assign e p.1 (storedVal info p.1 p.2)) with temps := tmp } cbs hl with
      ⟨tmp', ih⟩
    refine ⟨tmp', ?_⟩
    simp only [List.foldl_cons, hw, List.append_nil, ih, List.map_cons]
    rw [pushAll_temps]
    rfl

theorem removeFold_locked_eq (t : Nat) (e : Handle) : ∀ (rems : List CompId) (w : WM), w.isLocked = true →
    rems.foldl (fun w c => (w.removeComp info t e c).1) w = pushAll t w (rems.map (.remove e))
  | [], _, _ => rfl
  | x :: xs, w, hl => by
    have hw : (w.removeComp info t e x).1 = w.pushCmd t (.remove e x) := by rw [WM.removeComp, if_pos hl]
    rw [List.foldl_cons, hw]
    exact removeFold_locked_eq t e xs _ hl

theorem pushAll_append (t : Nat) (w : WM) (a b : List Cmd) : pushAll t w (a ++ b) = pushAll t (pushAll t w a) b :=
  List.foldl_append

theorem step_edit_locked (w : WM) (hl : w.isLocked = true) (t : Nat) (e : Handle) (ed : Edit) :
    ∃ tmp, w.step info (ed.op t e) = ({ pushAll t w (ed.cmds info e) with temps := tmp }, .ok, []) := by
  cases ed with
  | assign c v =>
    rcases assign_locked_eq info w hl t e c v with ⟨tmp, h⟩
    refine ⟨tmp, ?_⟩
    show ((w.assign info t e c v).1, resOut (w.assign info t e c v).2.1, (w.assign info t e c v).2.2) = _
    rw [h]; rfl
  | remove c =>
    refine ⟨w.temps, ?_⟩
    show ((w.removeComp info t e c).1, Out.ok, (w.removeComp info t e c).2) = _
    rw [WM.removeComp, if_pos hl]; rfl
  | build adds rems =>
    rcases assignFold_locked_eq info t e adds w [] hl with ⟨tmp, h⟩
    refine ⟨tmp, ?_⟩
    show (if w.isLocked = true then _ else _) = _
    rw [if_pos hl]
    have hl1 : WM.isLocked { pushAll t w (adds.map fun p => .assign e p.1 (storedVal info p.1 p.2)) with temps := tmp } = true :=
      (pushAll_isLocked t _ w).trans hl
    simp only [h]
    rw [removeFold_locked_eq info t e rems _ hl1, pushAll_temps, Edit.cmds, pushAll_append]
  | destroy =>
    refine ⟨w.temps, ?_⟩
    show (w.destroy t e, Out.ok, []) = _
    rw [WM.destroy, if_pos hl]; rfl
  | destroyNow =>
    refine ⟨w.temps, ?_⟩
    show ((w.destroyNow info t e).1, Out.ok, (w.destroyNow info t e).2) = _
    rw [WM.destroyNow, if_pos hl]; rfl

theorem specPushAll_append (t : Nat) (s : WS) (a b : List SCmd) :
    specPushAll t s (a ++ b) = specPushAll t (specPushAll t s a) b := List.foldl_append

theorem specStep_edit_locked (s : WS) (hl : s.lockDepth > 0) (t : Nat) (o : Option Nat) (ed : Edit) :
    s.step info (ed.op t o) = (specPushAll t s (ed.scmds info o), .ok, []) := by
  cases ed with
  | build adds rems =>
    show (if s.lockDepth > 0 then _ else _) = _
    rw [if_pos hl, Edit.scmds, specPushAll_append]
    simp only [specPushAll, List.foldl_map]
  | _ =>
    show (if s.lockDepth > 0 then _ else _) = _
    rw [if_pos hl]; rfl

theorem Edit.mapRef {ρ σ : Type} (f : ρ → σ) (t : Nat) (e : ρ) (ed : Edit) : (ed.op t e).mapRef f = ed.op t (f e) := by
  cases ed <;> rfl

theorem pushAll_refines {iss : List Handle} (t : Nat) {p : Pool} {cmds : List Cmd} {scmds : List SCmd}
    (hrel : All2 (cmdRel iss p) cmds scmds) {w : WM} {s : WS} (hp : w.pool = p) (hi : Inv ⟨w, iss⟩)
    (hr : Rel ⟨w, iss⟩ s) (hl : 0 < w.lockDepth) (hk : ∀ c ∈ cmds, crH c = none ∧ Known ⟨w, iss⟩ c.entity) :
    Inv ⟨pushAll t w cmds, iss⟩ ∧ Rel ⟨pushAll t w cmds, iss⟩ (specPushAll t s scmds) := by
  induction hrel generalizing w s with
  | nil => exact ⟨hi, hr⟩
  | @cons c sc cs scs hc _ ih =>
    have hkc := hk c (List.mem_cons_self ..)
    exact ih (w := w.pushCmd t c) hp (inv_push (c := ⟨w, iss⟩) hi t c hkc.1 hkc.2 hl)
      (rel_push (c := ⟨w, iss⟩) hr t c sc (hp ▸ hc) (fun e he => by rw [hkc.1] at he; cases he)) hl
      (fun c' hc' => hk c' (List.mem_cons_of_mem _ hc'))

theorem edit_locked_refines (hi : Inv c) (hr : Rel c s) (hl : c.w.isLocked = true)
    (t : Nat) (e : Handle) (ed : Edit) (hk : Known c e) : StepRefines info c s (ed.op t e) := by
  have hl' := (isLocked_iff c.w).mp hl
  rcases step_edit_locked info c.w hl t e ed with ⟨tmp, hw⟩
  have hs := specStep_edit_locked info s (by rw [hr.lockDepth]; exact hl') t (ordOf c.issued e) ed
  have hp := pushAll_refines t (Edit.cmds_rel info c.issued c.w.pool e ed) rfl hi hr hl'
    (fun x hx => ⟨(Edit.cmds_entity info e ed x hx).1, (Edit.cmds_entity info e ed x hx).2 ▸ hk⟩)
  have hf := temps_refines hp.1 hp.2 tmp
  rw [← Edit.mapRef] at hs
  exact StepRefines.intro info hw hs hf.1 hf.2 (agree_ok_nil _ _ (by cases ed <;> rfl))

theorem createLocked_core {w : WM} {iss : List Handle} {s : WS} (hi : Inv ⟨w, iss⟩) (hr : Rel ⟨w, iss⟩ s)
    (hl : 0 < w.lockDepth) (t : Nat) (ht : t < w.nthreads) (m : Mask) (hm : MaskOk m) (sh : Shared)
    (hsh : SharedIn w.pool sh) (ssh : List (Nat × Nat))
    (hv : ∀ sid, lookupS ssh sid = lookupS (absShared w.pool sh) sid) :
    Inv ⟨(w.createLocked t m sh).1, iss ++ [(w.createLocked t m sh).2]⟩ ∧
    Rel ⟨(w.createLocked t m sh).1, iss ++ [(w.createLocked t m sh).2]⟩
      (WS.push { s with ents := s.ents ++ [none] } t (.create s.ents.length m ssh)) ∧
    (w.createLocked t m sh).1.isLocked = true := by
  rcases hi.tinv with ⟨g, tinv, hiss, hpend⟩
  have hd : 0 < (tabOf w).lockDepth := hl
  have hres := Mustache.Proofs.IdTable.reserve_inv tinv hd
  have hreq := Mustache.Proofs.IdTable.reserve_eq tinv hd
  have htab := Mustache.Proofs.IdTable.createLocked_tab w t m sh
  generalize hh : (w.createLocked t m sh).2 = h at *
  have hh' : ((tabOf w).reserve).2 = h := htab.2.symm
  have hval : h = ⟨w.nextEntityId, 0, w.worldId⟩ := by rw [← hh', hreq]; rfl
  have hworld : h.world = w.worldId := by rw [hval]
  have hnn : h ≠ Handle.null := by
    rw [hval]; intro e
    have := congrArg Handle.ver e
    simp [Handle.null] at this
  have hnew : h ∉ iss := fun hin => by
    have : h ∈ g.issued := by rw [hiss]; exact List.mem_reverse.mpr hin
    rw [← hh'] at this
    exact hres.2.not_issued this
  have hw' : (w.createLocked t m sh).1 =
      { w with lockDepth := w.lockDepth, nextEntityId := w.nextEntityId + 1,
               buffers := w.buffers.set t (w.buffers.getD t [] ++ [.create h m sh]), temps := w.temps } := by
    rw [← hh]; rfl
  have hperm : (createHandles (w.buffers.set t (w.buffers.getD t [] ++ [.create h m sh]))).Perm
      (createHandles w.buffers ++ [h]) := by
    have := createHandles_push w.buffers t (.create h m sh)
    rwa [if_pos (by rw [hi.bufLen hl]; exact ht)] at this
  have hchm : ∀ x, x ∈ createHandles (w.buffers.set t (w.buffers.getD t [] ++ [.create h m sh])) ↔
      x = h ∨ x ∈ createHandles w.buffers := fun x => by rw [hperm.mem_iff]; simp [or_comm]
  have hnc : h ∉ createHandles w.buffers := fun hc => by
    have := tinv.pend_issued h ((hpend h).mpr hc)
    rw [hiss] at this
    exact hnew (List.mem_reverse.mp this)
  have hbne : ∀ b ∈ w.buffers, ∀ cmd ∈ b, cmd.entity ≠ h := fun b hb cmd hc =>
    (hi.bufKnown b hb cmd hc).1.ne_new hnew hworld hnn
  have hmne : ∀ e ∈ w.marked, e ≠ h := fun e he => (hi.markedKnown e he).1.ne_new hnew hworld hnn
  have hsub : ∀ x ∈ iss, x ∈ iss ++ [h] := fun x hx => List.mem_append_left _ hx
  have htinv' : TInv (tabOf (w.createLocked t m sh).1) (g.reserve h) := by
    rw [htab.1, ← hh']; exact hres.1
  rw [hw'] at htinv' ⊢
  refine ⟨?_, ?_, (isLocked_iff _).mpr hl⟩
  · refine inv_ctl hi (iss ++ [h]) hsub _ _ _ _ ⟨g.reserve h, htinv', ?_, fun x => ?_⟩
      (hperm.nodup_iff.mpr ?_) ?_ ?_ (fun h0 => absurd h0 (Nat.ne_of_gt hl)) ?_ ?_
    · show h :: g.issued = (iss ++ [h]).reverse
      rw [hiss]; simp
    · show x ∈ h :: g.pending ↔ _
      rw [hchm x, List.mem_cons, hpend x]
    · rw [List.nodup_append]
      exact ⟨hi.pendNodup, by simp, fun a ha b hb e => hnc (List.mem_singleton.mp hb ▸ e ▸ ha)⟩
    · rw [List.length_set]; exact hi.bufLe
    · intro _; rw [List.length_set]; exact hi.bufLen hl
    · intro b hb cmd hc
      rcases mem_push hb hc with ⟨b', hb', hc'⟩ | rfl
      · exact ⟨(hi.bufKnown b' hb' cmd hc').1.mono rfl hsub, (hi.bufKnown b' hb' cmd hc').2⟩
      · exact ⟨Or.inl (by simp [Cmd.entity]), hm, hsh⟩
    · intro e he hc
      rcases (hchm e).mp hc with rfl | hc'
      · exact hmne e he rfl
      · exact (hi.markedKnown e he).2 hc'
  · have hinv : w.isValid h = false :=
      Mustache.Proofs.IdTable.pending_invalid htinv' (show h ∈ h :: g.pending by simp)
    have hr1 := rel_issue hr h none (by rw [absEnt_invalid hinv]; trivial) hbne hmne
    have hr2 : Rel ⟨{ w with nextEntityId := w.nextEntityId + 1 }, iss ++ [h]⟩ { s with ents := s.ents ++ [none] } :=
      { hr1 with }
    refine rel_push hr2 t (.create h m sh) (.create s.ents.length m ssh)
      ⟨by rw [hr.len]; exact ordOf_snoc_self iss h, rfl, hv⟩ fun e he o ho hh => ?_
    cases he
    have hlt : o < iss.length := hr.len ▸ hr.markedLt o ho
    have hh' : (iss ++ [h])[o]? = some h := hh
    rw [List.getElem?_append_left hlt] at hh'
    exact hnew (List.mem_of_getElem? hh')

theorem create_locked_refines (hi : Inv c) (hr : Rel c s) (hl : c.w.isLocked = true)
    (t : Nat) (mask : Mask) (shared : List Nat) (ht : t < c.w.nthreads) (hm : MaskOk mask) :
    StepRefines info c s (.create t mask shared) := by
  obtain ⟨w, iss⟩ := c
  have hl' : 0 < w.lockDepth := (isLocked_iff w).mp hl
  cases hpf : poolFold w shared Shared.null with | mk w1 sh
  obtain ⟨hfr, hi1, hr1, hsh, hv⟩ := poolFold_refines hi hr hpf
  have hl1 : 0 < w1.lockDepth := by rw [hfr.lockDepth]; exact hl'
  obtain ⟨hi2, hr2, _⟩ := createLocked_core hi1 hr1 hl1 t (by rw [hfr.nthreads]; exact ht) mask hm sh hsh
    (shared.map (fun sid => (sid, 0))) hv
  have hw : w.step info (.create t mask shared) =
      ((w1.createLocked t mask sh).1, .created (w1.createLocked t mask sh).2, []) := by
    rw [step_create_eq, hpf, WM.create, if_pos ((isLocked_iff w1).mpr hl1)]
  have hs : s.step info (.create t mask shared) =
      (WS.push { s with ents := s.ents ++ [none] } t (.create s.ents.length mask (shared.map (fun sid => (sid, 0)))),
        .created s.ents.length, []) := by
    show (if s.lockDepth > 0 then _ else _) = _
    rw [if_pos (by rw [hr.lockDepth]; exact hl')]
  refine StepRefines.intro info hw hs hi2 hr2 ?_
  rw [hr.len]
  exact agree_created _ _ _ _ rfl

theorem buildNew_locked_refines (hi : Inv c) (hr : Rel c s) (hl : c.w.isLocked = true)
    (t : Nat) (adds : List (CompId × Option Nat)) (ht : t < c.w.nthreads) :
    StepRefines info c s (.buildNew t adds) := by
  obtain ⟨w, iss⟩ := c
  have hl' : 0 < w.lockDepth := (isLocked_iff w).mp hl
  have hcore := createLocked_core hi hr hl' t ht [] List.Pairwise.nil Shared.null (sharedIn_null _) [] (fun sid => rfl)
  have hw : w.step info (.buildNew t adds) =
      ((adds.foldl (fun (acc : WM × List Cb) p =>
          let (w', _, c) := acc.1.assign info t (w.createLocked t [] Shared.null).2 p.1 p.2
          (w', acc.2 ++ c)) ((w.createLocked t [] Shared.null).1, [])).1,
       .created (w.createLocked t [] Shared.null).2,
       (adds.foldl (fun (acc : WM × List Cb) p =>
          let (w', _, c) := acc.1.assign info t (w.createLocked t [] Shared.null).2 p.1 p.2
          (w', acc.2 ++ c)) ((w.createLocked t [] Shared.null).1, [])).2) := by
    show (if w.isLocked = true then _ else _) = _
    rw [if_pos hl]
    rfl
  generalize w.createLocked t [] Shared.null = cl at hcore hw
  obtain ⟨w2, h⟩ := cl
  obtain ⟨hi2, hr2, hl2⟩ := hcore
  rcases assignFold_locked_eq info t h adds w2 [] hl2 with ⟨tmp, ha⟩
  rw [ha] at hw
  have hp := pushAll_refines t (p := w2.pool) (All2.of_map adds (fun p => Cmd.assign h p.1 (storedVal info p.1 p.2))
    (fun p => SCmd.assign (ordOf (iss ++ [h]) h) p.1 (storedVal info p.1 p.2)) fun _ => ⟨rfl, rfl, rfl⟩)
    rfl hi2 hr2 ((isLocked_iff w2).mp hl2)
    (fun x hx => by rcases List.mem_map.mp hx with ⟨_, _, rfl⟩; exact ⟨rfl, Or.inl (by simp [Cmd.entity])⟩)
  have hf := temps_refines hp.1 hp.2 tmp
  have hord : ordOf (iss ++ [h]) h = some s.ents.length := by rw [hr.len]; exact ordOf_snoc_self iss h
  have hs : s.step info (.buildNew t adds) =
      (specPushAll t (WS.push { s with ents := s.ents ++ [none] } t (.create s.ents.length [] []))
        (adds.map fun p => .assign (ordOf (iss ++ [h]) h) p.1 (storedVal info p.1 p.2)), .created s.ents.length, []) := by
    show (if s.lockDepth > 0 then _ else _) = _
    rw [if_pos (by rw [hr.lockDepth]; exact hl'), hord]
    simp only [specPushAll, List.foldl_map]
  refine StepRefines.intro info hw hs hf.1 hf.2 ?_
  rw [hr.len]
  exact agree_created _ _ _ _ rfl

end Mustache.Proofs.Refine
