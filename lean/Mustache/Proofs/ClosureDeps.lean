import Mustache.Proofs.ClosureLoop
import Mustache.Proofs.WorldArch
/-! # `addDependency` stores the closure; `getArch` only hands out closed masks (C13) -/
namespace Mustache.Model

/-- the mask `addDependency` stores for the master: old ∪ extra ∪ closure(extra) -/
def storedDeps (deps : List (CompId × Mask)) (c : Nat) (extra : List Nat) : List Nat :=
  Mask.union (depsOf deps c) (Mask.union extra (extraComponents deps extra))

theorem addDependency_eq (deps : List (CompId × Mask)) (c : Nat) (extra : List Nat) :
    addDependency deps c extra =
      if deps.any (·.1 == c) then deps.map (fun p => if p.1 == c then (c, storedDeps deps c extra) else p)
      else deps ++ [(c, storedDeps deps c extra)] := rfl

theorem depsOf_addDependency (deps : List (CompId × Mask)) (c : Nat) (extra : List Nat) (k : Nat) :
    depsOf (addDependency deps c extra) k = if k = c then storedDeps deps c extra else depsOf deps k := by
  unfold depsOf
  rw [addDependency_eq, find?_fst_upsert]
  by_cases hk : k = c
  · rw [if_pos hk, if_pos hk]
  · rw [if_neg hk, if_neg hk]

theorem mem_storedDeps {deps : List (CompId × Mask)} {c : Nat} {extra : List Nat} {x : Nat} :
    x ∈ storedDeps deps c extra ↔ x ∈ depsOf deps c ∨ x ∈ extra ∨ x ∈ extraComponents deps extra := by
  simp only [storedDeps, Mask.mem_union]

theorem addDependency_bounded {deps : List (CompId × Mask)} (hb : DepsBounded deps) (c : Nat) {extra : List Nat}
    (he : ∀ x ∈ extra, x < 128) : DepsBounded (addDependency deps c extra) := by
  have hnw : ∀ x ∈ storedDeps deps c extra, x < 128 := by
    intro x hx
    rcases mem_storedDeps.mp hx with h | h | h
    · exact depsOf_bounded hb h
    · exact he x h
    · exact (extraComponents_post hb extra).bounded x h
  intro p hp x hx
  rw [addDependency_eq] at hp
  split at hp
  · obtain ⟨q, hq, rfl⟩ := List.mem_map.mp hp
    split at hx
    · exact hnw x hx
    · exact hb q hq x hx
  · rcases List.mem_append.mp hp with hp | hp
    · exact hb p hp x hx
    · have : p = (c, storedDeps deps c extra) := by simpa using hp
      subst this
      exact hnw x hx

theorem closedUnder_addDependency {deps : List (CompId × Mask)} {c : Nat} {extra S : List Nat} :
    ClosedUnder (addDependency deps c extra) S ↔
      (∀ k ∈ S, k ≠ c → ∀ d ∈ depsOf deps k, d ∈ S) ∧ (c ∈ S → ∀ d ∈ storedDeps deps c extra, d ∈ S) := by
  constructor
  · intro h
    refine ⟨fun k hk hne d hd => h k hk d (by rw [depsOf_addDependency, if_neg hne]; exact hd),
      fun hc d hd => h c hc d (by rw [depsOf_addDependency, if_pos rfl]; exact hd)⟩
  · rintro ⟨h1, h2⟩ k hk d hd
    rw [depsOf_addDependency] at hd
    split at hd
    · rename_i hkc; subst hkc; exact h2 hk d hd
    · rename_i hkc; exact h1 k hk hkc d hd

def ArchsClosed (deps : List (CompId × Mask)) (archs : List Arch) : Prop :=
  ∀ a ∈ archs, ClosedUnder deps a.mask

theorem getArch_archsClosed {w : WM} (hb : DepsBounded w.deps) (h : ArchsClosed w.deps w.archs)
    (m : List Nat) (sh : Shared) :
    ArchsClosed (w.getArch m sh).1.deps (w.getArch m sh).1.archs := by
  rw [show (w.getArch m sh).1.deps = w.deps from (congrArg WM.deps (getArch_post w m sh).frame :)]
  exact getArch_forall_archs (P := fun a => ClosedUnder w.deps a.mask) h m sh (closedMask_closed hb m)

end Mustache.Model
