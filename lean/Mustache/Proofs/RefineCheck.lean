import Mustache.Proofs.RefineAll
import Mustache.Proofs.RowsCheck
/-!
# Refinement: executable checkers of the relation and of the contract (`relB`, `opWfB`) with their soundness
-/
namespace Mustache.Proofs.Refine
open Mustache.Model Mustache.Spec
open Mustache.Proofs.Rows

variable (info : CompId → CompInfo)

def entRelB (a b : SEnt) : Bool :=
  a.comps == b.comps &&
  ((a.shared.map (·.1)) ++ (b.shared.map (·.1))).all (fun sid => lookupS a.shared sid == lookupS b.shared sid)

def optRelB : Option SEnt → Option SEnt → Bool
  | none, none => true
  | some a, some b => entRelB a b
  | _, _ => false

def cmdRelB (issued : List Handle) (pool : Pool) : Cmd → SCmd → Bool
  | .create e m sh, .create o m' sh' =>
    ordOf issued e == some o && m' == m &&
      ((sh'.map (·.1)) ++ ((absShared pool sh).map (·.1))).all
        (fun sid => lookupS sh' sid == lookupS (absShared pool sh) sid)
  | .destroyNow e, .destroyNow o => o == ordOf issued e
  | .destroy e, .destroy o => o == ordOf issued e
  | .remove e c, .remove o c' => o == ordOf issued e && c' == c
  | .assign e c v, .assign o c' v' => o == ordOf issued e && c' == c && v' == v
  | _, _ => false

def all2B {α β : Type} (r : α → β → Bool) : List α → List β → Bool
  | [], [] => true
  | a :: l, b :: m => r a b && all2B r l m
  | _, _ => false

def relB (c : CW) (s : WS) : Bool :=
  s.ents.length == c.issued.length &&
  (c.issued.zipIdx.all (fun p => optRelB (s.alive p.2) (absEnt c.w p.1))) &&
  s.deps == c.w.deps && s.lockDepth == c.w.lockDepth && s.nthreads == c.w.nthreads &&
  all2B (all2B (cmdRelB c.issued c.w.pool)) c.w.buffers s.buffers &&
  (List.range c.issued.length).all (fun o =>
    (s.marked.contains o && (s.alive o).isSome) ==
    c.w.marked.any (fun h => c.w.isValid h && ordOf c.issued h == some o)) &&
  s.marked.all (fun o => decide (o < s.ents.length)) && decide s.marked.Nodup &&
  s.marked.all (fun o => (c.issued[o]?).all (fun h => !(createHandles c.w.buffers).contains h))

theorem lookupS_none_of_not_mem {l : List (Nat × Nat)} {sid : Nat} (h : sid ∉ l.map (·.1)) : lookupS l sid = none := by
  unfold lookupS
  have : l.find? (·.1 == sid) = none := by
    rw [List.find?_eq_none]
    intro p hp hps
    exact h (List.mem_map.mpr ⟨p, hp, by simpa using hps⟩)
  rw [this]; rfl

theorem lookups_of_all {a b : List (Nat × Nat)}
    (h : ((a.map (·.1)) ++ (b.map (·.1))).all (fun sid => lookupS a sid == lookupS b sid) = true) (sid : Nat) :
    lookupS a sid = lookupS b sid := by
  by_cases hm : sid ∈ (a.map (·.1)) ++ (b.map (·.1))
  · have := List.all_eq_true.mp h sid hm
    simpa using this
  · rw [List.mem_append, not_or] at hm
    rw [lookupS_none_of_not_mem hm.1, lookupS_none_of_not_mem hm.2]

theorem entRelB_sound {a b : SEnt} (h : entRelB a b = true) : entRel a b := by
  unfold entRelB at h
  simp only [Bool.and_eq_true, beq_iff_eq] at h
  exact ⟨h.1, lookups_of_all h.2⟩

theorem optRelB_sound {a b : Option SEnt} (h : optRelB a b = true) : optRel a b := by
  cases a <;> cases b <;> simp only [optRelB, optRel] at h ⊢
  · cases h
  · cases h
  · exact entRelB_sound h

theorem cmdRelB_sound {iss : List Handle} {p : Pool} {c : Cmd} {sc : SCmd} (h : cmdRelB iss p c sc = true) :
    cmdRel iss p c sc := by
  unfold cmdRelB at h
  split at h <;> simp only [Bool.and_eq_true, beq_iff_eq, Bool.false_eq_true] at h
  · exact ⟨h.1.1, h.1.2, lookups_of_all h.2⟩
  · exact h
  · exact h
  · exact h
  · exact ⟨h.1.1, h.1.2, h.2⟩

theorem all2B_sound {α β : Type} {r : α → β → Bool} {R : α → β → Prop} (hr : ∀ a b, r a b = true → R a b) :
    ∀ {l : List α} {m : List β}, all2B r l m = true → All2 R l m
  | [], [], _ => .nil
  | [], _ :: _, h => by simp [all2B] at h
  | _ :: _, [], h => by simp [all2B] at h
  | a :: l, b :: m, h => by
    simp only [all2B, Bool.and_eq_true] at h
    exact .cons (hr a b h.1) (all2B_sound hr h.2)

theorem relB_sound {c : CW} {s : WS} (h : relB c s = true) : Rel c s := by
  unfold relB at h
  simp only [Bool.and_eq_true, beq_iff_eq, decide_eq_true_eq] at h
  obtain ⟨⟨⟨⟨⟨⟨⟨⟨⟨hlen, hents⟩, hdeps⟩, hld⟩, hnt⟩, hbuf⟩, hmk⟩, hlt⟩, hnd⟩, hold⟩ := h
  refine
  { len := hlen
    ents := ?_
    deps := hdeps
    lockDepth := hld
    nthreads := hnt
    buffers := all2B_sound (fun _ _ hh => all2B_sound (fun _ _ h2 => cmdRelB_sound h2) hh) hbuf
    marked := ?_
    markedLt := fun o ho => by simpa using List.all_eq_true.mp hlt o ho
    markedNodup := hnd
    markedOld := by
      intro o ho h hh
      have := List.all_eq_true.mp hold o ho
      rw [hh] at this
      simpa using this }
  · intro o h ho
    have hmem : (h, o) ∈ c.issued.zipIdx := by
      rw [List.mem_zipIdx_iff_getElem?]; simpa using ho
    exact optRelB_sound (List.all_eq_true.mp hents (h, o) hmem)
  · intro o
    by_cases hol : o < c.issued.length
    · have := beq_iff_eq.mp (List.all_eq_true.mp hmk o (List.mem_range.mpr hol))
      rw [Bool.eq_iff_iff] at this
      simpa using this
    · exact ⟨fun ⟨hm, _⟩ => absurd (hlen ▸ of_decide_eq_true (List.all_eq_true.mp hlt o hm)) hol,
        fun ⟨_, _, _, hox⟩ => absurd (ordOf_lt hox) hol⟩

def knownB (c : CW) (h : Handle) : Bool := c.issued.contains h || h.world != c.w.worldId || h == Handle.null

theorem knownB_sound {c : CW} {h : Handle} (hk : knownB c h = true) : Known c h := by
  unfold knownB at hk
  simp only [Bool.or_eq_true, List.contains_iff_mem, bne_iff_ne, ne_eq, beq_iff_eq] at hk
  rcases hk with (h1 | h1) | h1
  · exact Or.inl h1
  · exact Or.inr (Or.inl h1)
  · exact Or.inr (Or.inr h1)

/-- the shape `OpWf` gives the deferrable calls: inside a locked section the handle must be `Known` -/
theorem known_of_lockedB {c : CW} {e : Handle} (h : (!c.w.isLocked || knownB c e) = true) (hl : c.w.isLocked = true) :
    Known c e := by
  rw [hl] at h
  exact knownB_sound h

theorem ite_sound {b x y : Bool} {P Q : Prop} (hx : x = true → P) (hy : y = true → Q)
    (h : (if b then x else y) = true) : if b = true then P else Q := by
  cases b
  · exact hy h
  · exact hx h

def opWfB (c : CW) : Op Handle → Bool
  | .create t mask _ => decide (t < c.w.nthreads) && sortedb mask
  | .assign t e comp _ =>
    decide (t < c.w.nthreads) && (if c.w.isLocked then knownB c e else c.w.isValid e && !c.w.hasComp e comp)
  | .remove t e _ => decide (t < c.w.nthreads) && (!c.w.isLocked || knownB c e)
  | .buildNew t adds => decide (t < c.w.nthreads) && decide (adds.map (·.1)).Nodup
  | .build t e adds _ =>
    decide (t < c.w.nthreads) && decide (adds.map (·.1)).Nodup &&
    (if c.w.isLocked then knownB c e else c.w.isValid e && adds.all (fun p => !c.w.hasComp e p.1))
  | .destroy t e => decide (t < c.w.nthreads) && (!c.w.isLocked || knownB c e)
  | .destroyNow t e => decide (t < c.w.nthreads) && (!c.w.isLocked || knownB c e)
  | .clone _ => !c.w.isLocked
  | .sassign e _ _ => !c.w.isLocked && c.w.isValid e
  | .sremove _ _ => !c.w.isLocked
  | .clearArch mask => !c.w.isLocked && c.w.archs.all (fun a => a.mask != mask || a.shared.ids.isEmpty)
  | .dep _ extra => extra.all (fun x => decide (x < 128))
  | _ => true

theorem opWfB_sound {c : CW} {op : Op Handle} (h : opWfB c op = true) : OpWf c op := by
  cases op
  case update | lock | unlock | valid | has | hasShared | get | archOf => trivial
  all_goals simp only [opWfB, Bool.and_eq_true, decide_eq_true_eq, Bool.not_eq_true'] at h
  case create => exact ⟨h.1, maskOk_of_sortedb _ h.2⟩
  case assign => exact ⟨h.1, ite_sound knownB_sound (fun h2 => by simpa using h2) h.2⟩
  case remove => exact ⟨h.1, known_of_lockedB h.2⟩
  case buildNew => exact h
  case build => exact ⟨h.1.1, h.1.2, ite_sound knownB_sound (fun h2 => by simpa using h2) h.2⟩
  case destroy => exact ⟨h.1, known_of_lockedB h.2⟩
  case destroyNow => exact ⟨h.1, known_of_lockedB h.2⟩
  case clone => exact h
  case sassign => exact h
  case sremove => exact h
  case clearArch =>
    refine ⟨h.1, fun a ha hm => ?_⟩
    have := List.all_eq_true.mp h.2 a ha
    simp only [Bool.or_eq_true, bne_iff_ne, ne_eq, List.isEmpty_iff] at this
    exact this.resolve_left fun hne => hne hm
  case dep => exact fun x hx => of_decide_eq_true (List.all_eq_true.mp h x hx)

end Mustache.Proofs.Refine
