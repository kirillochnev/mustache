import Mustache.Proofs.DispatcherStep

/-! The invariant holds in every reachable state; the reachable states are the ends of the accepted schedules. -/
namespace Mustache.Dispatcher

theorem reachable_inv {n : Nat} {s : State} (h : Reachable n s) : Inv s := by
  induction h with
  | init => exact inv_init n
  | step a _ hs ih => exact inv_step ih hs

theorem reachable_runFrom {n : Nat} {s s' : State} (h : Reachable n s) {sch : List Action}
    (hr : runFrom s sch = some s') : Reachable n s' := by
  induction sch generalizing s with
  | nil => simp [runFrom] at hr; subst hr; exact h
  | cons a as ih =>
    simp only [runFrom] at hr
    split at hr
    · cases hr
    · rename_i s1 hs1
      exact ih (Reachable.step a h hs1) hr

theorem reachable_iff_run {n : Nat} {s : State} :
    Reachable n s ↔ ∃ sch : List Action, runFrom (init n) sch = some s := by
  constructor
  · intro h
    induction h with
    | init => exact ⟨[], rfl⟩
    | step a _ hs ih =>
      obtain ⟨sch, hsch⟩ := ih
      refine ⟨sch ++ [a], ?_⟩
      have aux : ∀ (l : List Action) (s0 s1 : State), runFrom s0 l = some s1 →
          runFrom s0 (l ++ [a]) = step s1 a := by
        intro l
        induction l with
        | nil => intro s0 s1 h0; simp [runFrom] at h0; subst h0; simp [runFrom]; cases step s0 a <;> rfl
        | cons b l ihl =>
          intro s0 s1 h0
          simp only [runFrom, List.cons_append] at h0 ⊢
          cases hb : step s0 b with
          | none => simp [hb] at h0
          | some s2 => simp only [hb] at h0 ⊢; exact ihl s2 s1 h0
      rw [aux sch _ _ hsch, hs]
  · rintro ⟨sch, hsch⟩
    exact reachable_runFrom Reachable.init hsch

theorem reachable_n {n : Nat} {s : State} (h : Reachable n s) : s.n = n := by
  induction h with
  | init => rfl
  | step a _ hs ih =>
    cases step_iff.mp hs
    case scan | rescan => rw [scanBody_frame]; exact ih
    all_goals exact ih

end Mustache.Dispatcher
