import Mustache.Proofs.RowsMove
/-!
# Observations (`getComp`, `hasComp`, …) in terms of rows; the steps `setCell`, `release`, `allocId`
-/
namespace Mustache.Proofs.Rows
open Mustache.Model

theorem locOf_of_locs {w : WM} {e : Handle} {l : Loc} (h : w.locs[e.id]? = some l) : w.locOf e = l := by
  unfold WM.locOf; rw [List.getD_eq_getElem?_getD, h]; rfl

theorem getComp_of_loc {w : WM} {e : Handle} {ai i : Nat} {r : Row}
    (hl : w.locOf e = ⟨some ai, i⟩) (hr : (w.arch ai).rows[i]? = some r) (c : CompId) :
    w.getComp e c = if w.isValid e then
      (match (w.arch ai).mask.indexOf? c with
       | none => none
       | some ci => some (r.vals.getD ci none)) else none := by
  unfold WM.getComp
  cases hv : w.isValid e with
  | false => simp
  | true =>
    simp only [Bool.not_true, Bool.false_eq_true, if_false, if_true, hl]
    rw [List.getD_eq_getElem?_getD, hr]; rfl

theorem hasComp_of_loc {w : WM} {e : Handle} {ai i : Nat} (hl : w.locOf e = ⟨some ai, i⟩) (c : CompId) :
    w.hasComp e c = (w.isValid e && (w.arch ai).mask.contains c) := by
  unfold WM.hasComp; rw [hl]

theorem hasShared_of_loc {w : WM} {e : Handle} {ai i : Nat} (hl : w.locOf e = ⟨some ai, i⟩) (s : Nat) :
    w.hasShared e s = (w.isValid e && (w.arch ai).shared.has s) := by
  unfold WM.hasShared; rw [hl]

theorem archOf_of_loc {w : WM} {e : Handle} {ai i : Nat} (hl : w.locOf e = ⟨some ai, i⟩) :
    w.archOf e = if w.isValid e then some ai else none := by
  unfold WM.archOf; rw [hl]; cases w.isValid e <;> rfl

theorem OpFrame.observations {w w' : WM} {id : Nat} (hf : OpFrame w w' id) (hok : RowsOK w)
    {aj j : Nat} {r : Row} (hr : (w.arch aj).rows[j]? = some r) (hne : r.ent.id ≠ id) :
    (∀ c, w'.getComp r.ent c = w.getComp r.ent c) ∧
    (∀ c, w'.hasComp r.ent c = w.hasComp r.ent c) ∧
    (∀ s, w'.hasShared r.ent s = w.hasShared r.ent s) ∧
    w'.archOf r.ent = w.archOf r.ent ∧ w'.isValid r.ent = w.isValid r.ent := by
  rcases hf.keeps aj j r hr hne with ⟨⟨j', hr', hl'⟩, hm, hs⟩
  have hl := hok.locOf hr
  have hl2 := locOf_of_locs hl'
  have hv := hf.valid r.ent hne
  refine ⟨fun c => ?_, fun c => ?_, fun s => ?_, ?_, hv⟩
  · rw [getComp_of_loc hl2 hr' c, getComp_of_loc hl hr c, hv, hm]
  · rw [hasComp_of_loc hl2 c, hasComp_of_loc hl c, hv, hm]
  · rw [hasShared_of_loc hl2 s, hasShared_of_loc hl s, hv, hs]
  · rw [archOf_of_loc hl2, archOf_of_loc hl, hv]

def setCell (w : WM) (ai idx ci : Nat) (v : Val) : WM :=
  let a := w.arch ai
  let row := a.rows.getD idx default
  w.setArch ai { a with rows := a.rows.set idx { row with vals := row.vals.set ci v } }

theorem setCell_sameTable (w : WM) (ai idx ci : Nat) (v : Val) : SameTable w (setCell w ai idx ci v) :=
  sameTable_setArch _ _ _

theorem setCell_locs (w : WM) (ai idx ci : Nat) (v : Val) : (setCell w ai idx ci v).locs = w.locs := rfl

theorem setCell_archs_length (w : WM) (ai idx ci : Nat) (v : Val) :
    (setCell w ai idx ci v).archs.length = w.archs.length := archs_length_setArch _ _ _

theorem setCell_mask (w : WM) (ai aj idx ci : Nat) (v : Val) :
    ((setCell w ai idx ci v).arch aj).mask = (w.arch aj).mask ∧
    ((setCell w ai idx ci v).arch aj).shared = (w.arch aj).shared :=
  setArch_rows_key w ai _ aj

theorem setCell_keysSame (w : WM) (ai idx ci : Nat) (v : Val) : KeysSame w (setCell w ai idx ci v) :=
  ⟨setCell_archs_length w ai idx ci v, fun aj => setCell_mask w ai aj idx ci v⟩

theorem setCell_rows (w : WM) (ai idx ci : Nat) (v : Val) (aj j : Nat) :
    ((setCell w ai idx ci v).arch aj).rows[j]? =
      if aj = ai ∧ j = idx then
        ((w.arch ai).rows[idx]?).map (fun r0 => { r0 with vals := r0.vals.set ci v })
      else (w.arch aj).rows[j]? := by
  by_cases hj : aj = ai
  · subst hj
    by_cases hlt : aj < w.archs.length
    · unfold setCell; rw [arch_setArch_same _ _ _ hlt]
      simp only [List.getElem?_set, true_and]
      by_cases hji : idx = j
      · subst hji
        by_cases hil : idx < (w.arch aj).rows.length
        · simp [hil, List.getD_eq_getElem?_getD]
        · simp [hil]
      · simp [hji, Ne.symm hji]
    · have h0 : (w.arch aj).rows = [] := by rw [arch_of_ge w aj (Nat.le_of_not_lt hlt)]
      have h1 : ((setCell w aj idx ci v).arch aj).rows = [] := by
        rw [arch_of_ge _ aj (by rw [setCell_archs_length]; exact Nat.le_of_not_lt hlt)]
      rw [h1, h0]; simp
  · rw [show (setCell w ai idx ci v).arch aj = w.arch aj from arch_setArch_ne _ _ _ _ hj,
      if_neg (fun hh => hj hh.1)]

theorem setCell_rows_back {w : WM} {ai idx ci : Nat} {v : Val} {aj j : Nat} {r : Row}
    (hr : ((setCell w ai idx ci v).arch aj).rows[j]? = some r) :
    ∃ r0, (w.arch aj).rows[j]? = some r0 ∧ r.ent = r0.ent ∧ r.vals.length = r0.vals.length := by
  rw [setCell_rows] at hr
  split at hr
  · rename_i hc
    rcases hc with ⟨rfl, rfl⟩
    cases h0 : (w.arch aj).rows[j]? with
    | none => rw [h0] at hr; cases hr
    | some r0 => rw [h0] at hr; cases hr; exact ⟨r0, rfl, rfl, List.length_set⟩
  · exact ⟨r, hr, rfl, rfl⟩

theorem rowsOK_setCell {w : WM} (hok : RowsOK w) (ai idx ci : Nat) (v : Val) :
    RowsOK (setCell w ai idx ci v) := by
  constructor
  · intro aj j r hr
    rcases setCell_rows_back hr with ⟨r0, h0, _, hl⟩
    rw [(setCell_mask w ai aj idx ci v).1, hl]; exact hok.vals aj j r0 h0
  · intro aj j r hr
    rcases setCell_rows_back hr with ⟨r0, h0, he, _⟩
    rw [setCell_locs, he]; exact hok.loc aj j r0 h0

theorem setCell_step {w : WM} (hok : RowsOK w) (ai idx ci : Nat) (v : Val) (id : Nat)
    (hown : ∀ r0, (w.arch ai).rows[idx]? = some r0 → r0.ent.id = id) :
    Step w (setCell w ai idx ci v) id := by
  refine ⟨rowsOK_setCell hok ai idx ci v, ⟨fun aj j r hr hne => ?_, fun h _ => (setCell_sameTable w ai idx ci v).isValid h⟩,
    Nat.le_refl _, fun x _ hn aj j r hr => ?_, (setCell_keysSame w ai idx ci v).keysOK⟩
  · refine ⟨⟨j, ?_, (hok.loc aj j r hr).2⟩, setCell_mask w ai aj idx ci v⟩
    rw [setCell_rows, if_neg]
    · exact hr
    · rintro ⟨rfl, rfl⟩; exact hne (hown r hr)
  · rcases setCell_rows_back hr with ⟨r0, h0, he, _⟩
    rw [he]; exact hn aj j r0 h0

theorem release_archs_locs (w : WM) (h : Handle) (hlt : h.id < w.slots.length) :
    (w.release h).archs = w.archs ∧ (w.release h).locs = w.locs ∧ (w.release h).worldId = w.worldId := by
  simp [WM.release, hlt]

theorem release_slots (w : WM) (h : Handle) (hlt : h.id < w.slots.length) (i : Nat) (hne : i ≠ h.id) :
    (w.release h).slots[i]? = w.slots[i]? := by
  simp [WM.release, hlt, List.getElem?_set_ne (Ne.symm hne)]

theorem release_isValid (w : WM) (h x : Handle) (hlt : h.id < w.slots.length) (hne : x.id ≠ h.id) :
    (w.release h).isValid x = w.isValid x := by
  unfold WM.isValid
  rw [release_slots w h hlt x.id hne, (release_archs_locs w h hlt).2.2]

theorem release_arch (w : WM) (h : Handle) (hlt : h.id < w.slots.length) (ai : Nat) :
    (w.release h).arch ai = w.arch ai :=
  arch_congr (release_archs_locs w h hlt).1 ai

theorem release_step {w : WM} (hok : RowsOK w) (h : Handle) (hlt : h.id < w.slots.length) :
    Step w (w.release h) h.id :=
  Step.of_tables hok h.id (release_archs_locs w h hlt).1 (release_archs_locs w h hlt).2.1
    (fun x hne => release_isValid w h x hlt hne)

theorem rowsOK_release {w : WM} (hok : RowsOK w) (h : Handle) (hlt : h.id < w.slots.length) :
    RowsOK (w.release h) :=
  (release_step hok h hlt).ok

theorem release_opFrame {w : WM} (hok : RowsOK w) (h : Handle) (hlt : h.id < w.slots.length) :
    OpFrame w (w.release h) h.id :=
  (release_step hok h hlt).frame

theorem isValid_id_lt {w : WM} {h : Handle} (hv : w.isValid h = true) : h.id < w.slots.length := by
  unfold WM.isValid at hv
  cases hs : w.slots[h.id]? with
  | none => rw [hs] at hv; simp at hv
  | some s => exact (List.getElem?_eq_some_iff.mp hs).1

/-- id-table facts about the next allocation (consequences of the C01 invariant: the free-list head
is a dead id inside the table, `locs` is as long as `slots`, the table is smaller than the null id) -/
structure AllocOK (w : WM) : Prop where
  /-- C01: an id handed out by `createWithOutInit` owns no archetype row -/
  fresh : NotInRow w (w.allocId).2.id
  /-- C01: the id space is not exhausted / the free chain stays inside the table -/
  notNull : (w.allocId).2.id ≠ nullId
  /-- C01: `locations_` covers every id of `entities_` -/
  inRange : (w.allocId).2.id < (w.allocId).1.locs.length

theorem allocId_grow (w : WM) (he : w.empty = 0) :
    w.allocId = ({ w with slots := w.slots ++ [⟨w.slots.length, 0⟩], locs := w.locs ++ [⟨none, 0⟩] },
      ⟨w.slots.length, 0, w.worldId⟩) := by
  unfold WM.allocId; rw [if_pos he]

theorem allocId_pop (w : WM) (he : w.empty ≠ 0) (s : Slot) (hs : w.slots[w.next]? = some s) :
    w.allocId =
      ({ w with slots := w.slots.set w.next ⟨w.next, s.ver⟩, locs := w.locs.set w.next ⟨none, 0⟩,
                next := s.idf, empty := w.empty - 1 }, ⟨w.next, s.ver, w.worldId⟩) := by
  unfold WM.allocId; rw [if_neg he]; simp only [hs]

theorem allocId_bad (w : WM) (he : w.empty ≠ 0) (hs : w.slots[w.next]? = none) :
    w.allocId = (w, Handle.null) := by
  unfold WM.allocId; rw [if_neg he]; simp only [hs]

/-- the three ways `createWithOutInit` ends: table grown, free-list head reused, or (never on a
reachable state) a free count without a head -/
theorem allocId_cases (w : WM) :
    w.allocId = ({ w with slots := w.slots ++ [⟨w.slots.length, 0⟩], locs := w.locs ++ [⟨none, 0⟩] },
      ⟨w.slots.length, 0, w.worldId⟩) ∨
    (∃ s, w.slots[w.next]? = some s ∧ w.allocId =
      ({ w with slots := w.slots.set w.next ⟨w.next, s.ver⟩, locs := w.locs.set w.next ⟨none, 0⟩,
                next := s.idf, empty := w.empty - 1 }, ⟨w.next, s.ver, w.worldId⟩)) ∨
    w.allocId = (w, Handle.null) := by
  by_cases he : w.empty = 0
  · exact Or.inl (allocId_grow w he)
  · cases hs : w.slots[w.next]? with
    | none => exact Or.inr (Or.inr (allocId_bad w he hs))
    | some s => exact Or.inr (Or.inl ⟨s, rfl, allocId_pop w he s hs⟩)

theorem allocId_archs (w : WM) : (w.allocId).1.archs = w.archs := by
  rcases allocId_cases w with h | ⟨s, _, h⟩ | h <;> rw [h]

theorem allocId_arch (w : WM) (ai : Nat) : (w.allocId).1.arch ai = w.arch ai :=
  arch_congr (allocId_archs w) ai

theorem allocId_locs (w : WM) (id : Nat) (hlt : id < w.locs.length) (hne : id ≠ (w.allocId).2.id) :
    (w.allocId).1.locs[id]? = w.locs[id]? := by
  rcases allocId_cases w with h | ⟨s, _, h⟩ | h <;> rw [h] at hne ⊢
  · exact List.getElem?_append_left hlt
  · exact List.getElem?_set_ne (Ne.symm hne)

theorem allocId_locs_length_le (w : WM) : w.locs.length ≤ (w.allocId).1.locs.length := by
  rcases allocId_cases w with h | ⟨s, _, h⟩ | h <;> rw [h]
  · rw [List.length_append]; exact Nat.le_add_right _ _
  · rw [List.length_set]; exact Nat.le_refl _
  · exact Nat.le_refl _

theorem rowsOK_allocId {w : WM} (hok : RowsOK w) (hfresh : NotInRow w (w.allocId).2.id) :
    RowsOK (w.allocId).1 := by
  constructor
  · intro ai i r hr
    rw [allocId_arch] at hr ⊢
    exact hok.vals ai i r hr
  · intro ai i r hr
    rw [allocId_arch] at hr
    rw [allocId_locs w r.ent.id (hok.id_lt hr) (hfresh ai i r hr)]
    exact hok.loc ai i r hr

theorem allocId_notInRow {w : WM} {id : Nat} (h : NotInRow w id) : NotInRow (w.allocId).1 id := by
  intro ai i r hr
  rw [allocId_arch] at hr
  exact h ai i r hr

theorem allocId_isValid (w : WM) (x : Handle) (hne : x.id ≠ (w.allocId).2.id) :
    (w.allocId).1.isValid x = w.isValid x := by
  rcases allocId_cases w with h | ⟨s, _, h⟩ | h <;> rw [h] at hne ⊢
  · -- the table grows by one slot, which is not `x`'s
    unfold WM.isValid
    have : (w.slots ++ [(⟨w.slots.length, 0⟩ : Slot)])[x.id]? = w.slots[x.id]? := by
      rcases Nat.lt_or_gt_of_ne hne with hlt | hgt
      · exact List.getElem?_append_left hlt
      · rw [List.getElem?_eq_none (Nat.le_of_lt hgt),
          List.getElem?_eq_none (by rw [List.length_append]; exact hgt)]
    rw [this]
  · unfold WM.isValid
    simp only
    rw [List.getElem?_set_ne (Ne.symm hne)]

theorem allocId_opFrame {w : WM} (hok : RowsOK w) :
    OpFrame w (w.allocId).1 (w.allocId).2.id := by
  refine ⟨?_, fun x hne => allocId_isValid w x hne⟩
  intro aj j r hr hne
  rw [allocId_arch]
  refine ⟨⟨j, hr, ?_⟩, rfl, rfl⟩
  rw [allocId_locs w r.ent.id (hok.id_lt hr) hne]
  exact (hok.loc aj j r hr).2

theorem allocId_step {w : WM} (hok : RowsOK w) (hfresh : NotInRow w (w.allocId).2.id) :
    Step w (w.allocId).1 (w.allocId).2.id :=
  ⟨rowsOK_allocId hok hfresh, allocId_opFrame hok, allocId_locs_length_le w, fun _ _ h => allocId_notInRow h,
   fun hk => (KeysSame.of_archs (allocId_archs w)).keysOK hk⟩

theorem allocId_congr {w w' : WM} (hs : SameTable w w') (hl : w'.locs.length = w.locs.length) :
    (w'.allocId).2 = (w.allocId).2 ∧ (w'.allocId).1.locs.length = (w.allocId).1.locs.length := by
  unfold WM.allocId
  rw [hs.empty, hs.slots, hs.next, hs.worldId]
  by_cases he : w.empty = 0
  · rw [if_pos he, if_pos he]; exact ⟨rfl, by rw [List.length_append, List.length_append, hl]⟩
  · rw [if_neg he, if_neg he]
    cases w.slots[w.next]? with
    | none => exact ⟨rfl, hl⟩
    | some s => exact ⟨rfl, by rw [List.length_set, List.length_set, hl]⟩

theorem AllocOK.congr {w w' : WM} (h : AllocOK w) (hs : SameTable w w') (hl : w'.locs.length = w.locs.length)
    (hrows : ∀ id, NotInRow w id → NotInRow w' id) : AllocOK w' := by
  have hc := allocId_congr hs hl
  exact ⟨hc.1 ▸ hrows _ h.fresh, hc.1 ▸ h.notNull, by rw [hc.1, hc.2]; exact h.inRange⟩

/-- the freshly allocated handle is valid afterwards (it is not the null pattern: `notNull`) -/
theorem allocId_valid (w : WM) (hn : (w.allocId).2.id ≠ nullId) :
    (w.allocId).1.isValid (w.allocId).2 = true := by
  have valid_of : ∀ (w' : WM) (h : Handle) (s : Slot), h.id ≠ nullId → h.world = w'.worldId →
      w'.slots[h.id]? = some s → s.ver = h.ver → s.idf = h.id → w'.isValid h = true := by
    intro w' h s hid hw hs hv hi
    have hne : h ≠ Handle.null := fun e => hid (congrArg Handle.id e)
    unfold WM.isValid Handle.isNull
    rw [hs]
    simp [hne, hw, hv, hi]
  rcases allocId_cases w with h | ⟨s, hs, h⟩ | h <;> rw [h] at hn ⊢
  · exact valid_of _ _ ⟨w.slots.length, 0⟩ hn rfl List.getElem?_concat_length rfl rfl
  · exact valid_of _ _ ⟨w.next, s.ver⟩ hn rfl
      (List.getElem?_set_self (List.getElem?_eq_some_iff.mp hs).1) rfl rfl
  · exact absurd rfl hn

end Mustache.Proofs.Rows
