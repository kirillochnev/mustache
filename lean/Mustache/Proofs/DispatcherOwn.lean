import Mustache.Model.DispatcherAccess
import Mustache.Proofs.DispatcherReach

/-! Lock discipline: consistency of the access table, ownership of plainly accessed data. -/
namespace Mustache.Dispatcher

theorem discipline_consistent (s : State) (a : Action) :
    ∀ x, x ∈ accesses s a → x.prot = discipline x.var := by
  intro x hx
  cases a <;> simp only [accesses] at hx
  case wScan th =>
    simp only [allQueues, List.mem_append, List.mem_cons, List.mem_map, List.not_mem_nil, or_false] at hx
    rcases hx with (rfl | rfl) | ⟨q, _, rfl⟩ <;> rfl
  case taskEnd th =>
    split at hx
    · simp only [bodyAccesses, List.mem_cons, List.not_mem_nil, or_false] at hx
      rcases hx with rfl | rfl | rfl | rfl | rfl <;> rfl
    · simp at hx
  case relock th =>
    split at hx
    · simp at hx; subst hx; rfl
    · simp at hx
  case spinRetry =>
    split at hx <;> (simp at hx; subst hx; rfl)
  case spinExit =>
    split at hx <;> (simp at hx; subst hx; rfl)
  case waitBegin | sdNotify | sdJoin | wake => cases hx
  case createQueue | setSingle | sdFlag | sdClear => simp at hx; subst hx; rfl
  case submitInline | waitPop | waitBlocked | waitEmpty => simp at hx; rcases hx with rfl | rfl <;> rfl
  case submit => simp at hx; rcases hx with rfl | rfl | rfl <;> rfl

/-- `synced` only ever contains finished tasks -/
def InvE (s : State) : Prop := ∀ t, t ∈ s.synced → t ∈ s.done

theorem invE_init (n : Nat) : InvE (init n) := by intro t ht; simp [init] at ht

theorem invE_step {s s' : State} {a : Action} (he : InvE s) (hs : step s a = some s') : InvE s' := by
  cases step_iff.mp hs
  case scan | rescan => rw [scanBody_frame]; exact he
  case spinExit q _ _ _ =>
    intro t ht
    have ht : t ∈ syncedAfter s q := ht
    unfold syncedAfter at ht
    split at ht
    · exact ht
    · exact he t ht
  case taskEnd => exact fun t ht => List.mem_append_left _ (he t ht)
  all_goals exact he

theorem reachable_invE {n : Nat} {s : State} (h : Reachable n s) : InvE s := by
  induction h with
  | init => exact invE_init n
  | step a _ hs ih => exact invE_step ih hs

theorem owner_unique_task {s : State} (hi : Inv s) {a b t : Nat} (ha : OwnsTask s a t) (hb : OwnsTask s b t) : a = b := by
  have hA := hi.a
  rcases ha with ⟨h1, rfl⟩ | ⟨q, h1⟩ | ⟨rfl, h1, _⟩ <;> rcases hb with ⟨h2, rfl⟩ | ⟨q', h2⟩ | ⟨rfl, h2, _⟩
  · rfl
  · exact absurd (hA.started_lt t (hA.run_started b t q' h2).1) (Nat.not_lt.mpr h1)
  · rfl
  · exact absurd (hA.started_lt t (hA.run_started a t q h1).1) (Nat.not_lt.mpr h2)
  · rw [← hA.run_runner a t q h1, ← hA.run_runner b t q' h2]
  · exact absurd h2 (hA.run_started a t q h1).2.1
  · rfl
  · exact absurd h1 (hA.run_started b t q' h2).2.1
  · rfl

theorem not_quiet_of_running {s : State} (hi : Inv s) {th t q : Nat} (h : s.pcs[th]? = some (Pc.running t q)) :
    ¬ExtQuiet s := by
  intro hq
  have hr := hi.a.run_started th t q h
  rcases hq.2 t (hi.a.started_lt t hr.1) with hd | hd
  · exact hr.2.1 hd
  · exact (hi.a.dropped_ok t hd).2.1 hr.1

theorem owner_unique_temp {s : State} (hi : Inv s) {a b th : Nat} (ha : OwnsTemp s a th) (hb : OwnsTemp s b th) :
    a = b := by
  rcases ha with ⟨rfl, t, q, h1⟩ | ⟨rfl, rfl⟩ | ⟨rfl, hq, _⟩ <;> rcases hb with ⟨rfl, t', q', h2⟩ | ⟨rfl, h2⟩ | ⟨rfl, hq', _⟩
  · rfl
  · exact h2
  · exact absurd hq' (not_quiet_of_running hi h1)
  · rfl
  · rfl
  · rfl
  · exact absurd hq (not_quiet_of_running hi h2)
  · rfl
  · rfl

theorem nobody_owns_pending {s : State} (hA : InvA s) {q t : Nat} (hp : t ∈ s.jobs q) : ∀ x, ¬OwnsTask s x t := by
  intro x hx
  rcases hx with ⟨h1, _⟩ | ⟨q', h1⟩ | ⟨_, h1, _⟩
  · exact Nat.not_lt.mpr h1 (hA.jobs_lt q t hp)
  · exact hA.pending_fresh q t hp (hA.run_started x t q' h1).1
  · exact hA.pending_fresh q t hp (hA.done_sub t h1)

theorem ownsTask_doPop {s : State} (hA : InvA s) {th q t : Nat} {r : List Nat} (hj : s.jobs q = t :: r)
    {o t' : Nat} (h : OwnsTask (doPop s th q t r) o t') : OwnsTask s o t' ∨ (t' = t ∧ o = th) := by
  rcases h with ⟨h1, rfl⟩ | ⟨q', h1⟩ | ⟨rfl, h1, h2⟩
  · exact Or.inl (Or.inl ⟨h1, rfl⟩)
  · rcases getElem?_set_cases h1 with ⟨rfl, e⟩ | ⟨_, h1⟩
    · exact Or.inr ⟨(Pc.running.inj e).1, rfl⟩
    · exact Or.inl (Or.inr (Or.inl ⟨q', h1⟩))
  · have h1 : t' ∈ s.done := h1
    refine Or.inl (Or.inr (Or.inr ⟨rfl, h1, h2.imp_left fun h2 => ?_⟩))
    -- a finished task is not the one popped, which was pending
    have hne : t' ≠ t := fun e =>
      hA.pending_fresh q t (by rw [hj]; exact List.mem_cons_self) (e ▸ hA.done_sub t' h1)
    exact (upd_ne _ _ hne).symm.trans h2

theorem ownsTask_frame {s s' : State} {o t : Nat} (h : OwnsTask s' o t)
    (hn : s.nextId ≤ s'.nextId) (hd : s'.done = s.done) (hsy : s'.synced = s.synced)
    (hr : s'.runner = s.runner)
    (hp : ∀ o t q : Nat, s'.pcs[o]? = some (Pc.running t q) → s.pcs[o]? = some (Pc.running t q)) :
    OwnsTask s o t := by
  rcases h with ⟨h1, rfl⟩ | ⟨q, h1⟩ | ⟨rfl, h1, h2⟩
  · exact Or.inl ⟨Nat.le_trans hn h1, rfl⟩
  · exact Or.inr (Or.inl ⟨q, hp o t q h1⟩)
  · refine Or.inr (Or.inr ⟨rfl, by rw [← hd]; exact h1, ?_⟩)
    unfold Synced at h2 ⊢
    rw [hr, hsy] at h2
    exact h2

theorem ownsTask_scanBody {s : State} (hA : InvA s) {th o t : Nat} (h : OwnsTask (scanBody s th) o t) :
    OwnsTask s o t ∨ ((∀ x, ¬OwnsTask s x t) ∧ o = th ∧ ∃ q, t ∈ s.jobs q) := by
  rcases scanBody_cases s th with ⟨_, he⟩ | ⟨_, _, he⟩ | ⟨_, q, t0, r, _, hj, _, _, he⟩
  · rw [he] at h
    exact Or.inl (ownsTask_frame (s := s) h (Nat.le_refl _) rfl rfl rfl (fun o t q hh => getElem?_of_set_ne_new hh nofun))
  · rw [he] at h
    exact Or.inl (ownsTask_frame (s := s) h (Nat.le_refl _) rfl rfl rfl (fun o t q hh => getElem?_of_set_ne_new hh nofun))
  · rw [he] at h
    have ht0 : t0 ∈ s.jobs q := by rw [hj]; exact List.mem_cons_self
    rcases ownsTask_doPop hA hj h with h' | ⟨rfl, rfl⟩
    · exact Or.inl h'
    · exact Or.inr ⟨nobody_owns_pending hA ht0, rfl, q, ht0⟩

/-- Ownership of a task's data is never taken over silently: if `o` owns `t` after a step and did not
before, then nobody owned it before and the step is one of the three acquiring actions — a pop under
the mutex by `o`, or the external thread leaving the parallel barrier. -/
theorem acquire_points {s s' : State} {a : Action} (hi : Inv s) (he : InvE s) (hs : step s a = some s')
    {o t : Nat} (h : OwnsTask s' o t) :
    OwnsTask s o t ∨ ((∀ x, ¬OwnsTask s x t) ∧
      ((a = .wScan o ∧ o ≠ 0 ∧ ∃ q, t ∈ s.jobs q) ∨ (a = .waitPop ∧ o = 0 ∧ ∃ q, t ∈ s.jobs q) ∨
       (a = .spinExit ∧ o = 0 ∧ s.mode = .spin 0 ∧ t ∈ s.done))) := by
  have hA := hi.a
  cases step_iff.mp hs
  case scan hth hpc =>
    rcases ownsTask_scanBody hA h with h' | ⟨h', rfl, hq⟩
    · exact Or.inl h'
    · exact Or.inr ⟨h', Or.inl ⟨rfl, hth, hq⟩⟩
  case rescan hth hpc =>
    rcases ownsTask_scanBody (s := { s with tw := s.tw - 1 }) { hA with } h with h' | ⟨h', rfl, hq⟩
    · exact Or.inl h'
    · exact Or.inr ⟨h', Or.inl ⟨rfl, hth, hq⟩⟩
  case waitPop q0 t0 r hm h0 _ _ hj =>
    have ht0 : t0 ∈ s.jobs q0 := by rw [hj]; exact List.mem_cons_self
    rcases ownsTask_doPop hA hj h with h' | ⟨rfl, rfl⟩
    · exact Or.inl h'
    · exact Or.inr ⟨nobody_owns_pending hA ht0, Or.inr (Or.inl ⟨rfl, rfl, q0, ht0⟩)⟩
  case spinExit q hm _ _ =>
    rcases h with ⟨h1, rfl⟩ | ⟨q', h1⟩ | ⟨rfl, h1, h2⟩
    · exact Or.inl (Or.inl ⟨h1, rfl⟩)
    · exact Or.inl (Or.inr (Or.inl ⟨q', h1⟩))
    · have h1 : t ∈ s.done := h1
      by_cases hsy : Synced s t
      · exact Or.inl (Or.inr (Or.inr ⟨rfl, h1, hsy⟩))
      · right
        -- only the parallel barrier hands over anything
        have hq0 : q = 0 := by
          apply Classical.byContradiction
          intro hq
          apply hsy
          rcases h2 with h2 | h2
          · exact Or.inl h2
          · exact Or.inr (by simpa only [syncedAfter, hq, if_false] using h2)
        subst hq0
        refine ⟨?_, Or.inr (Or.inr ⟨rfl, rfl, hm, h1⟩)⟩
        intro x hx
        rcases hx with ⟨hx, _⟩ | ⟨q', hx⟩ | ⟨_, _, hx⟩
        · exact Nat.not_lt.mpr hx (hA.started_lt t (hA.done_sub t h1))
        · exact (hA.run_started x t q' hx).2.1 h1
        · exact hsy hx
  case taskEnd th t0 q0 hpc =>
    left
    rcases h with ⟨h1, rfl⟩ | ⟨q', h1⟩ | ⟨rfl, h1, h2⟩
    · exact Or.inl ⟨h1, rfl⟩
    · exact Or.inr (Or.inl ⟨q', getElem?_of_set_ne_new h1 nofun⟩)
    · rcases List.mem_append.mp h1 with h1 | h1
      · exact Or.inr (Or.inr ⟨rfl, h1, h2⟩)
      · -- the task that just ended: the external thread owns it only if it ran it itself
        rw [List.mem_singleton.mp h1] at h2 ⊢
        rcases h2 with h2 | h2
        · have hr := hA.run_runner th t0 q0 hpc
          rw [show s.runner t0 = 0 from h2] at hr
          exact Or.inr (Or.inl ⟨q0, hr ▸ hpc⟩)
        · exact absurd (he t0 h2) (hA.run_started th t0 q0 hpc).2.1
  case submitInline =>
    left
    rcases h with ⟨h1, rfl⟩ | ⟨q', h1⟩ | ⟨rfl, h1, h2⟩
    · exact Or.inl ⟨Nat.le_of_succ_le h1, rfl⟩
    · rcases getElem?_set_cases h1 with ⟨rfl, e⟩ | ⟨_, h1⟩
      · cases e; exact Or.inl ⟨Nat.le_refl _, rfl⟩
      · exact Or.inr (Or.inl ⟨q', h1⟩)
    · have h1 : t ∈ s.done := h1
      refine Or.inr (Or.inr ⟨rfl, h1, h2.imp_left fun h2 => ?_⟩)
      exact (upd_ne _ _ (Nat.ne_of_lt (hA.started_lt t (hA.done_sub t h1)))).symm.trans h2
  case submit =>
    exact Or.inl (ownsTask_frame (s := s) h (Nat.le_succ _) rfl rfl rfl (fun o t q hh => hh))
  case sdNotify =>
    exact Or.inl (ownsTask_frame (s := s) h (Nat.le_refl _) rfl rfl rfl (fun o t q hh => (wakeAll_getElem?_eq rfl).mp hh))
  case wake | relock =>
    exact Or.inl (ownsTask_frame (s := s) h (Nat.le_refl _) rfl rfl rfl (fun o t q hh => getElem?_of_set_ne_new hh nofun))
  all_goals exact Or.inl (ownsTask_frame (s := s) h (Nat.le_refl _) rfl rfl rfl (fun o t q hh => hh))

end Mustache.Dispatcher
