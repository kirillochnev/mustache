import Mustache.Proofs.IterTasks

/-! Proofs about the world filter: `applyFilter` yields well-formed filtered archetypes, in ascending
archetype order, each with the population, capacity and blocks of the matching archetype it comes from, and
their selected sequence is the reference `selected`. -/
namespace Mustache.Iteration

/-- `fa` is what `filterOne` makes of the matching archetype `a` -/
structure FromArch (req reqS : List Nat) (a : ArchCfg) (fa : FA) : Prop where
  isMatch : matchArch req reqS a = true
  size : fa.size = a.size
  cap : fa.cap = a.cap
  blocks : fa.blocks = blocks a.size a.cs a.changed

theorem filterOne_spec (req reqS : List Nat) (i : Nat) (a : ArchCfg) (hcs : 1 ≤ a.cs) (hcap : 1 ≤ a.cap) :
    gsel (filterOne req reqS i a) =
      (if matchArch req reqS a then (selectedOf a).map (fun j => (i, j)) else []) ∧
    (filterOne req reqS i a = [] ∨
      ∃ fa, filterOne req reqS i a = [fa] ∧ fa.WF ∧ fa.arch = i ∧ FromArch req reqS a fa) := by
  have hflat : flatRange (blocks a.size a.cs a.changed) = selectedOf a := blocks_flat_eq a.size a.changed hcs
  unfold filterOne
  by_cases hm : matchArch req reqS a = true
  · rw [if_pos hm, if_pos hm, ← hflat]
    by_cases hc : blocksCount (blocks a.size a.cs a.changed) > 0
    · rw [if_pos hc]
      exact ⟨List.append_nil _,
        Or.inr ⟨_, rfl, ⟨hcap, (blocks_spec a.size a.changed hcs).1, rfl, hc⟩, rfl, hm, rfl, rfl, rfl⟩⟩
    · rw [if_neg hc, List.eq_nil_of_length_eq_zero ((length_flatRange _).trans (Nat.eq_zero_of_not_pos hc))]
      exact ⟨rfl, Or.inl rfl⟩
  · rw [if_neg hm, if_neg hm]
    exact ⟨rfl, Or.inl rfl⟩

theorem applyFilter_spec (req reqS : List Nat) (archs : List ArchCfg) : ∀ (i : Nat),
    (∀ a ∈ archs, 1 ≤ a.cs ∧ 1 ≤ a.cap) →
    gsel (applyFilter req reqS archs i) = selected req reqS archs i ∧
    (∀ fa ∈ applyFilter req reqS archs i, fa.WF ∧
      ∃ j a, fa.arch = i + j ∧ archs[j]? = some a ∧ FromArch req reqS a fa) ∧
    (applyFilter req reqS archs i).Pairwise (fun a b => a.arch < b.arch) := by
  induction archs with
  | nil => exact fun _ _ => ⟨rfl, List.forall_mem_nil _, List.Pairwise.nil⟩
  | cons a rest ih =>
    intro i h
    have ha := h a List.mem_cons_self
    obtain ⟨h1, h2⟩ := filterOne_spec req reqS i a ha.1 ha.2
    obtain ⟨r1, r2, r3⟩ := ih (i + 1) (fun x hx => h x (List.mem_cons_of_mem _ hx))
    -- the filtered archetypes of the rest, seen from index `i`
    have r2' : ∀ fa ∈ applyFilter req reqS rest (i + 1), fa.WF ∧
        ∃ j a', fa.arch = i + j ∧ (a :: rest)[j]? = some a' ∧ FromArch req reqS a' fa := fun fa hfa =>
      let ⟨hw, j, a', hj, ha', hf⟩ := r2 fa hfa
      ⟨hw, j + 1, a', hj.trans (Nat.succ_add_eq_add_succ i j), ha', hf⟩
    rw [applyFilter, selected, gsel_append, h1, r1]
    refine ⟨rfl, ?_⟩
    rcases h2 with h0 | ⟨fa, h0, hw, rfl, hf⟩ <;> rw [h0]
    · exact ⟨r2', r3⟩
    · refine ⟨List.forall_mem_cons.mpr ⟨⟨hw, 0, a, rfl, rfl, hf⟩, r2'⟩,
        List.pairwise_cons.mpr ⟨fun y hy => ?_, r3⟩⟩
      obtain ⟨_, j, _, hj, _⟩ := r2 y hy
      exact hj ▸ Nat.lt_of_lt_of_le (Nat.lt_succ_self _) (Nat.le_add_right _ j)

theorem applyFilter_wf (req reqS : List Nat) (archs : List ArchCfg) (h : ∀ a ∈ archs, 1 ≤ a.cs ∧ 1 ≤ a.cap) :
    ∀ fa ∈ applyFilter req reqS archs 0, fa.WF :=
  fun fa hfa => ((applyFilter_spec req reqS archs 0 h).2.1 fa hfa).1

/-- distinct archetypes, and ascending entity indices inside each -/
theorem gsel_nodup (fr : List FA) (hwf : ∀ fa ∈ fr, fa.WF) (harchs : fr.Pairwise (fun a b => a.arch < b.arch)) :
    (gsel fr).Nodup := by
  rw [List.nodup_iff_pairwise_ne, gsel, List.pairwise_flatMap]
  constructor
  · intro fa hfa
    rw [FA.gsel, FA.sel, List.pairwise_map]
    exact (hwf fa hfa).blocks.pairwise.imp fun hlt heq => Nat.ne_of_lt hlt (congrArg Prod.snd heq)
  · refine harchs.imp fun hlt x hx y hy heq => ?_
    obtain ⟨_, _, rfl⟩ := List.mem_map.mp hx
    obtain ⟨_, _, rfl⟩ := List.mem_map.mp hy
    exact Nat.ne_of_lt hlt (congrArg Prod.fst heq)

end Mustache.Iteration
