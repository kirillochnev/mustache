import Mustache.Proofs.RowsStep
import Mustache.Proofs.SharedPool
/-!
# The operations on an existing entity: `destroyNow`, `removeComponent`, `assign`, shared
assign / remove, the builder's `begin(e)…end()`

Each is `getArchetype` + `externalMove` (+ `setCell`s), or `Archetype::remove` + `release`. For each
operation: ONE description of every branch it can take (`destroyNowU_fst`, `removeComp_unlocked`,
`assign_unlocked`, `*_result`, `*_outcome`), from which the step / frame / liveness / read-back statements follow
without unfolding the operation again.
-/
namespace Mustache.Proofs.Rows
open Mustache.Model

theorem destroyNowU_fst (info : CompId → CompInfo) (w : WM) (h : Handle) :
    (w.destroyNowU info h).1 =
      if w.isValid h then
        (match (w.locOf h).arch with
         | some ai => (w.archRemove info ai (w.locOf h).idx []).1
         | none => w).release h
      else w := by
  unfold WM.destroyNowU
  cases w.isValid h with
  | false => rfl
  | true =>
    simp only [Bool.not_true, Bool.false_eq_true, if_false, if_true]
    cases (w.locOf h).arch <;> rfl

/-- `destroyNow` of ANY handle (no hypothesis): the row invariant and the archetype keys survive, and
the validity of handles with another id is not touched -/
theorem destroyNowU_frame (info : CompId → CompInfo) (w : WM) (h : Handle) :
    (RowsOK w → RowsOK (w.destroyNowU info h).1) ∧ KeysSame w (w.destroyNowU info h).1 ∧
    ∀ x : Handle, x.id ≠ h.id → (w.destroyNowU info h).1.isValid x = w.isValid x := by
  rw [destroyNowU_fst]
  by_cases hv : w.isValid h = true
  · rw [if_pos hv]
    have hlt := isValid_id_lt hv
    -- the state before the release: `w`, or `w` with the row swap-removed
    have key : ∀ w1 : WM, (RowsOK w → RowsOK w1) → KeysSame w w1 → SameTable w w1 →
        (RowsOK w → RowsOK (w1.release h)) ∧ KeysSame w (w1.release h) ∧
        ∀ x : Handle, x.id ≠ h.id → (w1.release h).isValid x = w.isValid x := by
      intro w1 hok1 hk1 hs1
      have hlt1 : h.id < w1.slots.length := by rw [hs1.slots]; exact hlt
      exact ⟨fun hok => rowsOK_release (hok1 hok) h hlt1,
        hk1.trans (KeysSame.of_archs (release_archs_locs w1 h hlt1).1),
        fun x hne => (release_isValid w1 h x hlt1 hne).trans (hs1.isValid x)⟩
    cases (w.locOf h).arch with
    | none => exact key w id (KeysSame.refl w) (SameTable.refl w)
    | some ai =>
      exact key _ (fun hok => rowsOK_archRemove info hok _ _ _) (archRemove_keysSame info w ai _ [])
        (archRemove_sameTable info w ai _ [])
  · rw [if_neg hv]; exact ⟨id, KeysSame.refl w, fun _ _ => rfl⟩

theorem rowsOK_destroyNowU (info : CompId → CompInfo) {w : WM} (hok : RowsOK w) (h : Handle) :
    RowsOK (w.destroyNowU info h).1 := (destroyNowU_frame info w h).1 hok

theorem keysSame_destroyNowU (info : CompId → CompInfo) (w : WM) (h : Handle) :
    KeysSame w (w.destroyNowU info h).1 := (destroyNowU_frame info w h).2.1

theorem destroyNowU_step (info : CompId → CompInfo) {w : WM} (hok : RowsOK w) (h : Handle)
    (hloc : Located w h) : Step w (w.destroyNowU info h).1 h.id := by
  rw [destroyNowU_fst]
  by_cases hv : w.isValid h = true
  · rw [if_pos hv]
    have hlt := isValid_id_lt hv
    cases hla : (w.locOf h).arch with
    | none => exact release_step hok h hlt
    | some ai =>
      simp only
      rcases hloc ai hla with ⟨row, hr, rfl⟩
      have hs := (archRemove_step info hok ai (w.locOf row.ent).idx [] row hr).1
      exact hs.trans (release_step hs.ok _ (by rw [(archRemove_sameTable info w ai _ []).slots]; exact hlt))
  · rw [if_neg hv]; exact Step.refl hok h.id

/-- C01 fact used by `destroyNow`: the head of the free list is not the id of a live entity -/
def FreeHeadNot (w : WM) (id : Nat) : Prop := w.empty ≠ 0 → w.next ≠ id

theorem release_invalidates (w : WM) (h x : Handle) (hlt : h.id < w.slots.length)
    (hfree : FreeHeadNot w h.id) (hid : x.id = h.id) : (w.release h).isValid x = false := by
  unfold WM.isValid
  have hs : (w.release h).slots[x.id]? =
      some ⟨if w.empty ≠ 0 then w.next else h.id + 1, (h.ver + 1) % 2^24⟩ := by
    rw [hid]; simp [WM.release, hlt]
  rw [hs]
  have hne : ((if w.empty ≠ 0 then w.next else h.id + 1) == x.id) = false := by
    rw [hid, beq_eq_false_iff_ne]
    by_cases he : w.empty ≠ 0
    · rw [if_pos he]; exact hfree he
    · rw [if_neg he]; exact Nat.succ_ne_self _
  simp only [hne, Bool.and_false]

theorem destroyNowU_gone (info : CompId → CompInfo) {w : WM} (hok : RowsOK w) (h : Handle)
    (hv : w.isValid h = true) {ai i : Nat} (hrow : InRowAt w h ai i) (hfree : FreeHeadNot w h.id) :
    NotInRow (w.destroyNowU info h).1 h.id ∧
    ∀ x : Handle, x.id = h.id → (w.destroyNowU info h).1.isValid x = false := by
  rcases hrow with ⟨row, hr, rfl⟩
  rw [destroyNowU_fst, if_pos hv, hok.locOf hr]
  simp only
  have hgone := (archRemove_step info hok ai i [] row hr).2
  have hsame := archRemove_sameTable info w ai i []
  generalize (w.archRemove info ai i []).1 = w1 at hgone hsame
  have hlt1 : row.ent.id < w1.slots.length := by rw [hsame.slots]; exact isValid_id_lt hv
  refine ⟨fun aj j r hr' => ?_, fun x hid => release_invalidates w1 row.ent x hlt1 ?_ hid⟩
  · rw [release_arch _ _ hlt1] at hr'
    exact hgone aj j r hr'
  · intro he; rw [hsame.empty] at he; rw [hsame.next]; exact hfree he

theorem liveInv_destroyNowU (info : CompId → CompInfo) {w : WM} (hok : RowsOK w) (hl : LiveInv w)
    (h : Handle) (hfree : FreeHeadNot w h.id) : LiveInv (w.destroyNowU info h).1 := by
  by_cases hv : w.isValid h = true
  · rcases hl.live_in h hv with ⟨ai, i, hrow⟩
    have hg := destroyNowU_gone info hok h hv hrow hfree
    refine liveInv_step (destroyNowU_step info hok h (located_of_row hok hrow)) hl
      (fun x hid hx => ?_) (fun aj j r hr hid => absurd hid (hg.1 aj j r hr))
    rw [hg.2 x hid] at hx; cases hx
  · have : (w.destroyNowU info h).1 = w := by rw [destroyNowU_fst, if_neg hv]
    rw [this]; exact hl

/-- the unlocked `removeComponent<C>` on the valid owner of row `(pi, idx)`: nothing at all when `C` is
absent; else the lookup of the reduced set returns the entity's own archetype (`C` is a dependent of a
component that stays; the state is the one after the lookup), or the entity moves -/
theorem removeComp_unlocked (info : CompId → CompInfo) {w : WM} (hok : RowsOK w) (t : Nat) (e : Handle)
    (c : CompId) (hl : w.isLocked = false) (hv : w.isValid e = true) {pi idx : Nat} {prow : Row}
    (hr : (w.arch pi).rows[idx]? = some prow) (he : prow.ent = e)
    (m : Mask) (hmdef : m = Mask.erase (w.arch pi).mask c) :
    (c ∉ (w.arch pi).mask ∧ w.removeComp info t e c = (w, [])) ∨
    (c ∈ (w.arch pi).mask ∧
      (((w.getArch m (w.arch pi).shared).2 = pi ∧
        (w.removeComp info t e c).1 = (w.getArch m (w.arch pi).shared).1) ∨
      ∃ ti, Moved w (w.removeComp info t e c).1 e ti
          (carry info (closedMask w.deps m) (w.arch pi).mask prow []) ∧
        ((w.removeComp info t e c).1.arch ti).mask = closedMask w.deps m)) := by
  subst hmdef
  have hloc : w.locOf e = ⟨some pi, idx⟩ := he ▸ hok.locOf hr
  unfold WM.removeComp
  simp only [hl, Bool.false_eq_true, if_false, hv, Bool.not_true, hloc]
  by_cases hc : c ∈ (w.arch pi).mask
  · have hcc : (w.arch pi).mask.contains c = true := List.contains_iff_mem.mpr hc
    simp only [hcc, Bool.not_true, Bool.false_eq_true, if_false]
    refine Or.inr ⟨hc, ?_⟩
    rcases getArch_move info hok (Mask.erase (w.arch pi).mask c) (w.arch pi).shared e pi idx [] prow hr he
      (fun hk => maskOk_erase (hk.masks pi (lt_of_row hr)) c) with ⟨hti, hnone⟩ | ⟨_, w2, cbs, hsome, hm, hmask, _⟩
    · rw [hnone]; exact Or.inl ⟨hti, rfl⟩
    · rw [hsome]; exact Or.inr ⟨_, hm, hmask⟩
  · have hcc : (w.arch pi).mask.contains c = false := by
      rw [← Bool.not_eq_true]; exact mt List.contains_iff_mem.mp hc
    rw [hcc]
    exact Or.inl ⟨hc, rfl⟩

/-- `removeComponent<C>` in all its branches (it checks the handle itself) -/
theorem removeComp_outcome (info : CompId → CompInfo) {w : WM} (hok : RowsOK w) (t : Nat) (e : Handle)
    (c : CompId) (hloc : w.isValid e = true → Located w e) : Outcome w (w.removeComp info t e c).1 e := by
  by_cases hl : w.isLocked = true
  · unfold WM.removeComp; rw [if_pos hl]; exact Outcome.of_same hok e rfl rfl (fun _ => rfl)
  · have hl' : w.isLocked = false := by simpa using hl
    by_cases hv : w.isValid e = true
    · cases hla : (w.locOf e).arch with
      | none =>
        unfold WM.removeComp
        simp only [hl', Bool.false_eq_true, if_false, hv, Bool.not_true, hla]
        exact outcome_same hok e
      | some pi =>
        rcases hloc hv pi hla with ⟨prow, hr, he⟩
        rcases removeComp_unlocked info hok t e c hl' hv hr he _ rfl with ⟨_, heq⟩ | ⟨_, ⟨_, heq⟩ | ⟨ti, hm, _⟩⟩
        · rw [heq]; exact outcome_same hok e
        · rw [heq]; exact getArch_outcome hok _ _ e (fun hk => maskOk_erase (hk.masks pi (lt_of_row hr)) c)
        · exact hm.outcome hv
    · unfold WM.removeComp
      simp only [hl', Bool.false_eq_true, if_false, hv, Bool.not_false, if_true]
      exact outcome_same hok e

/-- the value `assign<C>(e, v)` stores: the constant of an empty type, else the token, else the default -/
def storedOf (info : CompId → CompInfo) (c : CompId) (v : Option Nat) : Val :=
  match (info c).fixed with
  | some f => some f
  | none => match v with
    | some tok => some tok
    | none => defaultVal info c

theorem storedOf_tok (info : CompId → CompInfo) (c : CompId) (tok : Nat) (h : (info c).fixed = none) :
    storedOf info c (some tok) = some tok := by
  unfold storedOf; rw [h]

/-- `assign` while locked: the command is recorded with the value it will store, and a counted
component's temporary is counted -/
theorem assign_locked (info : CompId → CompInfo) (w : WM) (t : Nat) (e : Handle) (c : CompId)
    (v : Option Nat) (hl : w.isLocked = true) :
    w.assign info t e c v =
      (if (info c).counted then
          { w.pushCmd t (.assign e c (storedOf info c v)) with temps := addTemp w.temps c }
        else w.pushCmd t (.assign e c (storedOf info c v)), .ok, []) := by
  unfold WM.assign
  simp only [hl, if_true]
  rfl

/-- the unlocked `assign` on the owner of row `(pi, idx)`: either the "to itself" error (the lookup of
the widened set returned `pi`; the state is the one after the lookup), or `ok`: the entity sits in the
archetype found, with the carried-over values and, when a token was given, the stored value in `C`'s
place -/
theorem assign_unlocked (info : CompId → CompInfo) {w : WM} (hok : RowsOK w) (t : Nat) (e : Handle)
    (c : CompId) (v : Option Nat) (hl : w.isLocked = false) {pi idx : Nat} {prow : Row}
    (hr : (w.arch pi).rows[idx]? = some prow) (he : prow.ent = e)
    (m : Mask) (hmdef : m = Mask.insert (w.arch pi).mask c) :
    ((w.getArch m (w.arch pi).shared).2 = pi ∧
      w.assign info t e c v = ((w.getArch m (w.arch pi).shared).1, .selfMove, [])) ∨
    ((w.assign info t e c v).2.1 = .ok ∧ ∃ ti,
      Moved w (w.assign info t e c v).1 e ti
        (match v with
          | some _ => (carry info (closedMask w.deps m) (w.arch pi).mask prow m).set
              ((closedMask w.deps m).idxOf c) (storedOf info c v)
          | none => carry info (closedMask w.deps m) (w.arch pi).mask prow []) ∧
      ((w.assign info t e c v).1.arch ti).mask = closedMask w.deps m) := by
  subst hmdef
  have hloc : w.locOf e = ⟨some pi, idx⟩ := he ▸ hok.locOf hr
  have hmove := getArch_move info hok (Mask.insert (w.arch pi).mask c) (w.arch pi).shared e pi idx
    (if v.isSome then Mask.insert (w.arch pi).mask c else []) prow hr he
    (fun hk => maskOk_insert (hk.masks pi (lt_of_row hr)) c)
  unfold WM.assign
  simp only [hl, Bool.false_eq_true, if_false, hloc]
  generalize w.getArch (Mask.insert (w.arch pi).mask c) (w.arch pi).shared = g at hmove ⊢
  rcases hmove with ⟨hti, hnone⟩ | ⟨_, w2, cbs, hsome, hm, hmask, _⟩
  · rw [hnone]; exact Or.inl ⟨hti, rfl⟩
  · rw [hsome]
    refine Or.inr ⟨rfl, g.2, ?_⟩
    cases v with
    | none => exact ⟨hm, hmask⟩
    | some tok =>
      -- `C` is in the closed set, so its cell exists and is overwritten
      have hci : (w2.arch g.2).mask.indexOf? c =
          some ((closedMask w.deps (Mask.insert (w.arch pi).mask c)).idxOf c) := by
        rw [hmask]
        exact (indexOf?_of_mem (mem_closedMask_of_mem _ _ c ((mem_insert _ c c).mpr (Or.inl rfl)))).1
      simp only [hci]
      exact ⟨hm.setCell _ _, (setCell_mask w2 g.2 g.2 _ _ _).1.trans hmask⟩

/-- `assign` in all its branches: the step, and (the contract: `e` valid) the outcome -/
theorem assign_result (info : CompId → CompInfo) {w : WM} (hok : RowsOK w) (t : Nat) (e : Handle)
    (c : CompId) (v : Option Nat) (hloc : Located w e) :
    Step w (w.assign info t e c v).1 e.id ∧
    (w.isValid e = true → Outcome w (w.assign info t e c v).1 e) := by
  by_cases hl : w.isLocked = true
  · rw [assign_locked info w t e c v hl]
    have h : Outcome w (if (info c).counted then
          { w.pushCmd t (.assign e c (storedOf info c v)) with temps := addTemp w.temps c }
        else w.pushCmd t (.assign e c (storedOf info c v))) e := by
      split <;> exact Outcome.of_same hok e rfl rfl (fun _ => rfl)
    exact ⟨h.1, fun _ => h⟩
  · have hl' : w.isLocked = false := by simpa using hl
    cases hla : (w.locOf e).arch with
    | none =>
      have : w.assign info t e c v = (w, .ok, []) := by
        unfold WM.assign
        simp only [hl', Bool.false_eq_true, if_false, hla]
      rw [this]; exact ⟨Step.refl hok _, fun _ => outcome_same hok e⟩
    | some pi =>
      rcases hloc pi hla with ⟨prow, hr, he⟩
      rcases assign_unlocked info hok t e c v hl' hr he _ rfl with ⟨_, heq⟩ | ⟨_, ti, hm, _⟩
      · rw [heq]
        have h := getArch_outcome hok (Mask.insert (w.arch pi).mask c) (w.arch pi).shared e
          (fun hk => maskOk_insert (hk.masks pi (lt_of_row hr)) c)
        exact ⟨h.1, fun _ => h⟩
      · exact ⟨hm.step, hm.outcome⟩

/-- `assignShared` in all its branches (contract: `e` valid) -/
theorem sassign_result (info : CompId → CompInfo) {w : WM} (hok : RowsOK w) (e : Handle) (sid value : Nat)
    (hloc : Located w e) :
    Step w (w.sassign info e sid value).1 e.id ∧
    (w.isValid e = true → Outcome w (w.sassign info e sid value).1 e) := by
  unfold WM.sassign
  cases hla : (w.locOf e).arch with
  | none => simp only [hla]; exact ⟨Step.refl hok _, fun _ => outcome_same hok e⟩
  | some pi =>
    simp only [hla]
    rcases hloc pi hla with ⟨prow, hr, he⟩
    -- the pooled instance first: rows, locations and validity are as before
    have hval : ∀ h, (w.poolGet sid value).1.isValid h = w.isValid h := fun h => by
      unfold WM.isValid; rw [poolGet_slots, poolGet_worldId]
    have h0 : Outcome w (w.poolGet sid value).1 e :=
      Outcome.of_same hok e (poolGet_archs w sid value) (poolGet_locs w sid value) hval
    have harch : ∀ aj, (w.poolGet sid value).1.arch aj = w.arch aj := arch_congr (poolGet_archs w sid value)
    generalize (w.poolGet sid value).2 = inst
    generalize (w.poolGet sid value).1 = w1 at *
    have hsame : (∀ ai, (w1.arch ai).rows = (w.arch ai).rows) ∧ ∀ h, w1.isValid h = w.isValid h :=
      ⟨fun ai => by rw [harch], hval⟩
    have hr1 : (w1.arch pi).rows[(w.locOf e).idx]? = some prow := by rw [harch]; exact hr
    have hmk : KeysOK w1 → MaskOk (w1.arch pi).mask := fun hk => hk.masks pi (lt_of_row hr1)
    rcases getArch_move info h0.1.ok (w1.arch pi).mask ((w1.arch pi).shared.add sid inst) e pi
      (w.locOf e).idx [] prow hr1 he hmk with ⟨_, hnone⟩ | ⟨_, w2, cbs, hsome, hm, _, _⟩
    · rw [hnone]
      have h := h0.trans_same hsame
        (getArch_outcome h0.1.ok (w1.arch pi).mask ((w1.arch pi).shared.add sid inst) e hmk)
      exact ⟨h.1, fun _ => h⟩
    · rw [hsome]
      exact ⟨h0.1.trans hm.step, fun hv => h0.trans_same hsame (hm.outcome (by rw [hval]; exact hv))⟩

/-- `removeSharedComponent` in all its branches (it checks the handle itself) -/
theorem sremove_outcome (info : CompId → CompInfo) {w : WM} (hok : RowsOK w) (e : Handle) (sid : Nat)
    (hloc : w.isValid e = true → Located w e) : Outcome w (w.sremove info e sid).1 e := by
  unfold WM.sremove
  by_cases hv : w.isValid e = true
  · simp only [hv, Bool.not_true, Bool.false_eq_true, if_false]
    cases hla : (w.locOf e).arch with
    | none => exact outcome_same hok e
    | some pi =>
      simp only
      by_cases hc : (w.arch pi).shared.has sid = true
      · simp only [hc, Bool.not_true, Bool.false_eq_true, if_false]
        rcases hloc hv pi hla with ⟨prow, hr, he⟩
        have hmk : KeysOK w → MaskOk (w.arch pi).mask := fun hk => hk.masks pi (lt_of_row hr)
        rcases getArch_move info hok (w.arch pi).mask ((w.arch pi).shared.remove sid) e pi
          (w.locOf e).idx [] prow hr he hmk with ⟨_, hnone⟩ | ⟨_, w2, cbs, hsome, hm, _, _⟩
        · rw [hnone]; exact getArch_outcome hok _ _ e hmk
        · rw [hsome]; exact hm.outcome hv
      · simp only [hc, Bool.not_false, if_true]; exact outcome_same hok e
  · have hv' : w.isValid e = false := by simpa using hv
    simp only [hv', Bool.not_false, if_true]; exact outcome_same hok e

/-- one `initComponent` of the builder: the argument's value goes into row `(ti, n)` if the archetype
has the component -/
def initStep (info : CompId → CompInfo) (e : Handle) (ti n : Nat) (acc : WM × List Cb)
    (p : CompId × Option Nat) : WM × List Cb :=
  match (acc.1.arch ti).mask.indexOf? p.1 with
  | none => acc
  | some ci => (setCell acc.1 ti n ci (storedOf info p.1 p.2),
      acc.2 ++ (if (info p.1).callbacks then [Cb.assign p.1 e] else []))

/-- the `initComponent` loop of `buildUpdateU` / `buildNewU` on row `(ti, n)` -/
def builderLoop (info : CompId → CompInfo) (ti n : Nat) (e : Handle) (adds : List (CompId × Option Nat))
    (acc : WM × List Cb) : WM × List Cb :=
  adds.foldl (initStep info e ti n) acc

theorem builderLoop_cons (info : CompId → CompInfo) (ti n : Nat) (e : Handle) (p : CompId × Option Nat)
    (rest : List (CompId × Option Nat)) (acc : WM × List Cb) :
    builderLoop info ti n e (p :: rest) acc = builderLoop info ti n e rest (initStep info e ti n acc p) := rfl

def addsVals (info : CompId → CompInfo) (tm : Mask) (adds : List (CompId × Option Nat)) (vals : List Val) : List Val :=
  adds.foldl (fun vs p => match tm.indexOf? p.1 with
    | none => vs
    | some ci => vs.set ci (storedOf info p.1 p.2)) vals

def addsCbs (info : CompId → CompInfo) (tm : Mask) (e : Handle) (adds : List (CompId × Option Nat)) : List Cb :=
  (adds.filter (fun p => tm.contains p.1 && (info p.1).callbacks)).map (fun p => Cb.assign p.1 e)

theorem addsVals_cons (info : CompId → CompInfo) (tm : Mask) (p : CompId × Option Nat)
    (rest : List (CompId × Option Nat)) (vals : List Val) :
    addsVals info tm (p :: rest) vals = addsVals info tm rest
      (match tm.indexOf? p.1 with
        | none => vals
        | some ci => vals.set ci (storedOf info p.1 p.2)) := rfl

theorem addsCbs_cons (info : CompId → CompInfo) (tm : Mask) (e : Handle) (p : CompId × Option Nat)
    (rest : List (CompId × Option Nat)) :
    addsCbs info tm e (p :: rest) =
      (if tm.contains p.1 && (info p.1).callbacks then [Cb.assign p.1 e] else []) ++ addsCbs info tm e rest := by
  unfold addsCbs
  rw [List.filter_cons]
  split <;> rfl

/-- every step of the loop is a `setCell` on the operand's row: the operand stays `Moved`, with the values
`addsVals`; the callbacks are `addsCbs`; no archetype key changes -/
theorem builderLoop_explicit (info : CompId → CompInfo) {w : WM} {e : Handle} {ti : Nat} (tm : Mask) :
    ∀ (adds : List (CompId × Option Nat)) (w2 : WM) (vals : List Val) (cbs0 : List Cb),
      Moved w w2 e ti vals → (w2.arch ti).mask = tm →
      Moved w (builderLoop info ti (w2.locOf e).idx e adds (w2, cbs0)).1 e ti (addsVals info tm adds vals) ∧
      (builderLoop info ti (w2.locOf e).idx e adds (w2, cbs0)).2 = cbs0 ++ addsCbs info tm e adds ∧
      KeysSame w2 (builderLoop info ti (w2.locOf e).idx e adds (w2, cbs0)).1
  | [], w2, vals, cbs0, hm, _ => ⟨hm, (List.append_nil _).symm, KeysSame.refl _⟩
  | p :: rest, w2, vals, cbs0, hm, htm => by
    rw [builderLoop_cons, initStep, addsVals_cons, addsCbs_cons, htm]
    cases hidx : tm.indexOf? p.1 with
    | none =>
      rw [Bool.eq_false_iff.mpr fun hc => nomatch (indexOf?_of_mem (List.contains_iff_mem.mp hc)).1.symm.trans hidx]
      exact builderLoop_explicit info tm rest w2 vals cbs0 hm htm
    | some ci =>
      have hloc' : ((setCell w2 ti (w2.locOf e).idx ci (storedOf info p.1 p.2)).locOf e).idx = (w2.locOf e).idx := rfl
      have ih := builderLoop_explicit info tm rest _ _ (cbs0 ++ (if (info p.1).callbacks then [Cb.assign p.1 e] else []))
        (hm.setCell ci (storedOf info p.1 p.2)) (((setCell_mask w2 ti ti _ ci _).1).trans htm)
      rw [hloc'] at ih
      rw [List.contains_iff_mem.mpr (indexOf?_some hidx).1, Bool.true_and, ← List.append_assoc]
      exact ⟨ih.1, ih.2.1, (setCell_keysSame w2 ti _ ci _).trans ih.2.2⟩

/-- `begin(e)….end()` in all its branches (contract: `e` valid) -/
theorem buildUpdateU_result (info : CompId → CompInfo) {w : WM} (hok : RowsOK w) (e : Handle)
    (adds : List (CompId × Option Nat)) (rems : Mask) (hloc : Located w e) :
    Step w (w.buildUpdateU info e adds rems).1 e.id ∧
    (w.isValid e = true → Outcome w (w.buildUpdateU info e adds rems).1 e) := by
  unfold WM.buildUpdateU
  cases hla : (w.locOf e).arch with
  | none => simp only [hla]; exact ⟨Step.refl hok _, fun _ => outcome_same hok e⟩
  | some pi =>
    simp only [hla]
    rcases hloc pi hla with ⟨prow, hr, he⟩
    have hmk : MaskOk (Mask.diff (Mask.union (Mask.ofList (adds.map (·.1))) (w.arch pi).mask) rems) :=
      Mask.sorted_diff (Mask.sorted_union (Mask.sorted_ofList _))
    generalize Mask.diff (Mask.union (Mask.ofList (adds.map (·.1))) (w.arch pi).mask) rems = m at hmk ⊢
    generalize Shared.null.merge (w.arch pi).shared = sh
    rcases getArch_move info hok m sh e pi (w.locOf e).idx (Mask.ofList (adds.map (·.1)))
      prow hr he (fun _ => hmk) with ⟨_, hnone⟩ | ⟨_, w2, cbs, hsome, hm, _, _⟩
    · rw [hnone]
      have h := getArch_outcome hok m sh e (fun _ => hmk)
      exact ⟨h.1, fun _ => h⟩
    · rw [hsome]
      simp only
      have h' := (builderLoop_explicit info _ adds w2 _ [] hm rfl).1
      exact ⟨h'.step, h'.outcome⟩

end Mustache.Proofs.Rows
