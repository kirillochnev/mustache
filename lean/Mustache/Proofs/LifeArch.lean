import Mustache.Proofs.LifeSlots
/-!
# `getArchetype`, `Archetype::insert / remove / externalMove`, `clear` on world states (C03)

For each primitive: the events the model lists for it lead from the slot set of the state before to the slot
set of the state after. With a skip mask, `insert` and `externalMove` leave the new row with "raw" slots
(constructor skipped): `NewRow` says that the state reached is the slot set of the new state minus those, and the
caller closes the gap by constructing exactly them (`accepts_fillRow`).
-/
namespace Mustache.Proofs.Life
open Mustache.Model Mustache.Proofs.Rows

variable (info : CompId → CompInfo)

theorem lt_archs_of_rows {w : WM} {pi idx : Nat} (h : idx < (w.arch pi).rows.length) : pi < w.archs.length :=
  lt_of_row (List.getElem?_eq_getElem h)

/-- what the callers use of `getArchetype(m, sh)` on `w`, which answered archetype `ti` of `w1` -/
structure GotArch (w : WM) (m : Mask) (sh : Shared) (w1 : WM) (ti : Nat) : Prop extends GetArchPost w m sh w1 ti where
  rows : ∀ a, (w1.arch a).rows = (w.arch a).rows
  masksOk : MasksOk w → MaskOk m → MasksOk w1

theorem gotArch {w w1 : WM} {m : Mask} {sh : Shared} {ti : Nat} (hg : w.getArch m sh = (w1, ti)) :
    GotArch w m sh w1 ti := by
  have h1 : w1 = (w.getArch m sh).1 := by rw [hg]
  have h2 : ti = (w.getArch m sh).2 := by rw [hg]
  rw [h1, h2]
  refine ⟨getArch_post w m sh, getArch_rows w m sh, fun h hm a => ?_⟩
  rcases getArch_arch w m sh a with ha | ⟨ha, _⟩ <;> rw [ha]
  · exact h a
  · exact maskOk_closedMask _ hm

theorem GotArch.table {w w1 : WM} {m : Mask} {sh : Shared} {ti : Nat} (h : GotArch w m sh w1 ti) : SameTable w w1 := by
  rw [h.frame]; exact sameTable_update w w.locs _

/-- `getArchetype` adds at most an archetype without rows: no slot changes -/
theorem GotArch.live {w w1 : WM} {m : Mask} {sh : Shared} {ti : Nat} (h : GotArch w m sh w1 ti) (F : SlotState) :
    live w1 F = live w F :=
  live_congr' F (fun a => ⟨by rw [h.rows], fun h0 => by
    rw [h.old a (Classical.byContradiction fun hn => h0 (by rw [arch_of_ge w a (Nat.le_of_not_lt hn)]; rfl))]⟩)

theorem GotArch.locOf {w w1 : WM} {m : Mask} {sh : Shared} {ti : Nat} (h : GotArch w m sh w1 ti) (e : Handle) :
    w1.locOf e = w.locOf e := by
  unfold WM.locOf; rw [h.frame]

/-- `evs` lead from the slots of `w` to those of `w2` minus the slots `raw` of row `n`, the new last row of archetype
`ti` (mask `tm`) of `w2` -/
structure NewRow (F : SlotState) (w w2 : WM) (evs : List Event) (ti n : Nat) (tm raw : Mask) : Prop where
  acc : accepts (live w F) evs = some (removeAll (live w2 F) (colSlots ti raw n))
  mask : (w2.arch ti).mask = tm
  len : (w2.arch ti).rows.length = n + 1
  masksOk : MasksOk w2

section
variable {F : SlotState} {w w2 : WM} {evs : List Event} {ti n : Nat} {tm raw : Mask} (h : NewRow F w w2 evs ti n tm raw)
include h

theorem NewRow.pre {w0 : WM} (hl : live w F = live w0 F) : NewRow F w0 w2 evs ti n tm raw :=
  ⟨hl ▸ h.acc, h.mask, h.len, h.masksOk⟩

theorem NewRow.done (hraw : raw = []) : accepts (live w F) evs = some (live w2 F) := by
  have := h.acc
  rwa [hraw, colSlots, List.map_nil, removeAll_nil] at this

theorem NewRow.row_live {c : CompId} (hc : c ∈ tm) : live w2 F (.stored ti c n) = true :=
  live_of_row w2 F (by rw [h.mask]; exact hc) (by rw [h.len]; exact Nat.lt_succ_self n)

/-- the caller constructs exactly the raw slots (`cs`: `raw` in the order of the events) -/
theorem NewRow.fill (cs : List CompId) (evs2 : List Event)
    (hdst : evs2.map Event.dst = colSlots ti cs n)
    (hc : ∀ e ∈ evs2, Event.isCreate e = true ∧ Event.src? e = none)
    (hcs : cs.Nodup) (hmem : ∀ c, c ∈ cs ↔ c ∈ raw) (hsub : ∀ c ∈ raw, c ∈ tm) :
    accepts (live w F) (evs ++ evs2) = some (live w2 F) := by
  refine accepts_append_of h.acc (accepts_fillRow _ ti n raw cs evs2 hdst (fun e he => (hc e he).1) hcs hmem
    (fun c hc' => h.row_live (hsub c hc')) ?_)
  intro e he x hx
  rw [(hc e he).2] at hx; cases hx

end

theorem filter_contains_nil (m : Mask) : m.filter (fun c => ([] : Mask).contains c) = [] := by
  rw [List.filter_eq_nil_iff]; intro c _; simp

theorem filter_and_contains_nil (m pm : Mask) :
    m.filter (fun c => !pm.contains c && ([] : Mask).contains c) = [] := by
  rw [List.filter_eq_nil_iff]; intro c _; simp

theorem addAll_split (s : SlotState) (ai n : Nat) (mask : List CompId) (keep raw : CompId → Bool)
    (h : ∀ c, keep c = !raw c) (hdead : ∀ c, s (.stored ai c n) = false) :
    addAll s (colSlots ai (mask.filter keep) n) =
      removeAll (addAll s (colSlots ai mask n)) (colSlots ai (mask.filter raw) n) := by
  apply slotState_ext
  intro y
  rw [removeAll_apply, addAll_apply, addAll_apply]
  cases y with
  | stored a c i =>
    simp only [mem_colSlots_stored, List.mem_filter, h]
    constructor
    · rintro (hs | ⟨rfl, ⟨hm, hk⟩, rfl⟩)
      · refine ⟨Or.inl hs, ?_⟩
        rintro ⟨rfl, _, rfl⟩
        rw [hdead c] at hs; cases hs
      · refine ⟨Or.inr ⟨rfl, hm, rfl⟩, fun hr => ?_⟩
        rw [hr.2.1.2] at hk; cases hk
    · rintro ⟨hs | ⟨rfl, hm, rfl⟩, hn⟩
      · exact Or.inl hs
      · cases hr : raw c
        · exact Or.inr ⟨rfl, ⟨hm, rfl⟩, rfl⟩
        · exact absurd ⟨rfl, ⟨hm, hr⟩, rfl⟩ hn
  | temp t k c => simp [not_mem_colSlots_temp]

theorem insertRow_shape (w : WM) (ai : Nat) (e : Handle) (vals : List Val) (hai : ai < w.archs.length) :
    (∀ a, ((insertRow w ai e vals).arch a).mask = (w.arch a).mask) ∧
    (∀ a, ((insertRow w ai e vals).arch a).rows.length = (w.arch a).rows.length + (if a = ai then 1 else 0)) := by
  refine ⟨fun a => (insertRow_mask w ai a e vals).1, fun a => ?_⟩
  by_cases ha : a = ai
  · subst ha; rw [insertRow_arch_same _ _ _ _ hai]; simp
  · rw [insertRow_arch_ne _ _ _ _ _ ha]; simp [ha]

theorem archInsert_shape (w : WM) (ai : Nat) (e : Handle) (skip : Mask)
    (hai : ai < w.archs.length) :
    (∀ a, ((w.archInsert info ai e skip).1.arch a).mask = (w.arch a).mask) ∧
    (∀ a, ((w.archInsert info ai e skip).1.arch a).rows.length =
      (w.arch a).rows.length + (if a = ai then 1 else 0)) := by
  rcases archInsert_eq info w ai e skip with ⟨vals, heq, _⟩
  rw [heq]
  exact insertRow_shape w ai e vals hai

theorem insertEvents_dst (ai : Nat) (mask : Mask) (n : Nat) (skip : Mask) :
    (insertEvents ai mask n skip).map Event.dst = colSlots ai (mask.filter (fun c => !skip.contains c)) n := by
  unfold insertEvents
  split
  · rename_i h
    have hs : skip = mask := by simpa using h
    subst hs
    have : skip.filter (fun c => !skip.contains c) = [] := by
      rw [List.filter_eq_nil_iff]; intro c hc; simp [hc]
    rw [this]; rfl
  · simp [colSlots, List.map_map, Event.dst]

theorem insertEvents_create (ai : Nat) (mask : Mask) (n : Nat) (skip : Mask) :
    ∀ e ∈ insertEvents ai mask n skip, Event.isCreate e = true ∧ Event.src? e = none := by
  unfold insertEvents
  split
  · intro e he; cases he
  · intro e he
    rcases List.mem_map.mp he with ⟨c, _, rfl⟩
    exact ⟨rfl, rfl⟩

/-- `insert(entity, skip)`: the skipped components of the new row stay raw -/
theorem archInsert_newRow (w : WM) (F : SlotState) (hF : TempOnly F)
    (ai : Nat) (e : Handle) (skip : Mask) (hai : ai < w.archs.length) (hmk : MasksOk w) :
    NewRow F w (w.archInsert info ai e skip).1 (w.archInsertEvents ai skip) ai (w.arch ai).rows.length
      (w.arch ai).mask ((w.arch ai).mask.filter (fun c => skip.contains c)) := by
  have hsh := archInsert_shape info w ai e skip hai
  refine ⟨?_, hsh.1 ai, by rw [hsh.2 ai, if_pos rfl], masksOk_congr hsh.1 hmk⟩
  unfold WM.archInsertEvents
  rw [accepts_intoRow _ _ ai _ _ (insertEvents_dst ..) (fun ev hev => (insertEvents_create _ _ _ _ ev hev).1)
      ((maskOk_nodup (hmk ai)).filter _) (live_nextRow w hF ai)
      (fun ev hev x hx => by rw [(insertEvents_create _ _ _ _ ev hev).2] at hx; cases hx),
    ← live_addRow F ai hsh.1 hsh.2,
    addAll_split _ ai _ _ _ (fun c => skip.contains c) (fun _ => rfl) (live_nextRow w hF ai)]

theorem archRemove_size (w : WM) (ai idx : Nat) (sk : Mask) :
    ((w.archRemove info ai idx sk).1.arch ai).rows.length =
      (w.arch ai).rows.length - (if idx < (w.arch ai).rows.length then 1 else 0) := by
  cases hr : (w.arch ai).rows[idx]? with
  | none =>
    rw [archRemove_none info w ai idx sk hr, if_neg (fun h => by rw [List.getElem?_eq_getElem h] at hr; cases hr)]
    rfl
  | some row =>
    have hai := lt_of_row hr
    rw [if_pos (idx_lt_of_row hr)]
    by_cases hl : idx = (w.arch ai).rows.length - 1
    · rw [archRemove_last info w ai idx sk row hr hl, arch_setLoc, arch_setArch_same _ _ _ hai]
      exact List.length_dropLast
    · rw [archRemove_mid info w ai idx sk row hr hl, arch_setLoc, arch_setLoc, arch_setArch_same _ _ _ hai]
      simp

theorem archRemove_mask (w : WM) (ai idx : Nat) (sk : Mask) (a : Nat) :
    ((w.archRemove info ai idx sk).1.arch a).mask = (w.arch a).mask :=
  ((archRemove_keysSame info w ai idx sk).key a).1

theorem archRemove_accepts (w : WM) (F : SlotState) (hF : TempOnly F)
    (ai idx : Nat) (sk : Mask) (hnd : (w.arch ai).mask.Nodup) :
    accepts (live w F) (w.archRemoveEvents ai idx) = some (live (w.archRemove info ai idx sk).1 F) := by
  unfold WM.archRemoveEvents
  cases hr : (w.arch ai).rows[idx]? with
  | none => simp only; rw [archRemove_none info w ai idx sk hr]; rfl
  | some row =>
    simp only
    have hidx := idx_lt_of_row hr
    rw [accepts_dropRow _ ai _ idx _ hnd hidx (fun c hc i hi => live_of_row w F hc hi)]
    congr 1
    apply live_dropRow F hF ai (archRemove_mask info w ai idx sk)
    intro a
    by_cases ha : a = ai
    · rw [ha, archRemove_size, if_pos hidx, if_pos rfl]
    · rw [archRemove_arch_ne info w ai a idx sk ha, if_neg ha]; rfl

theorem moveInEvents_dst (t : Nat) (tm : Mask) (n p : Nat) (pm : Mask) (i : Nat) (skip : Mask) :
    (moveInEvents t tm n p pm i skip).map Event.dst =
      colSlots t (tm.filter (fun c => pm.contains c || !skip.contains c)) n := by
  unfold moveInEvents colSlots
  rw [List.map_map]
  apply List.map_congr_left
  intro c _
  simp only [Function.comp]
  split <;> rfl

theorem externalMove_ne {info : CompId → CompInfo} {w : WM} {t p idx : Nat} {e : Handle} {skip : Mask}
    {r : WM × List Cb} (hx : w.externalMove info t e p idx skip = some r) : t ≠ p := by
  intro h; rw [h, externalMove_self] at hx; cases hx

theorem externalMove_some (w : WM) (t : Nat) (e : Handle) (p idx : Nat) (skip : Mask)
    (hne : t ≠ p) : ∃ r, w.externalMove info t e p idx skip = some r :=
  ⟨_, externalMove_eq2 info w t e p idx skip hne⟩

theorem externalMoveEvents_of_none {info : CompId → CompInfo} {w : WM} {t p idx : Nat} {e : Handle} {skip : Mask}
    (hx : w.externalMove info t e p idx skip = none) : w.externalMoveEvents t p idx skip = [] := by
  unfold WM.externalMoveEvents
  split
  · rfl
  · rename_i hne
    rw [externalMove_eq2 info w t e p idx skip hne] at hx; cases hx

theorem externalMove_shape (w : WM) (t : Nat) (e : Handle) (p idx : Nat)
    (skip : Mask) (ht : t < w.archs.length) (hidx : idx < (w.arch p).rows.length)
    (r : WM × List Cb) (hx : w.externalMove info t e p idx skip = some r) :
    (∀ a, (r.1.arch a).mask = (w.arch a).mask) ∧
    (∀ a, (r.1.arch a).rows.length + (if a = p then 1 else 0) =
      (w.arch a).rows.length + (if a = t then 1 else 0)) := by
  have htp := externalMove_ne hx
  rw [externalMove_eq2 info w t e p idx skip htp] at hx; cases hx
  -- one row fewer in `p`, then one row more in `t`
  have hins := insertRow_shape (w.archRemove info p idx (w.arch t).mask).1 t e
    (moveVals info w t p idx skip) (by rw [(archRemove_keysSame info w p idx _).alen]; exact ht)
  refine ⟨fun a => by rw [hins.1, archRemove_mask], fun a => ?_⟩
  rw [hins.2]
  by_cases hap : a = p
  · rw [hap, archRemove_size, if_pos hidx, if_pos rfl, if_neg (Ne.symm htp), Nat.add_zero, Nat.add_zero]
    exact Nat.sub_add_cancel (Nat.lt_of_le_of_lt (Nat.zero_le _) hidx)
  · rw [archRemove_arch_ne info w p a idx _ hap, if_neg hap]; rfl

/-- `externalMove`: the skipped components of the new row that the source row does not carry over stay raw -/
theorem externalMove_newRow (w : WM) (F : SlotState) (hF : TempOnly F)
    (t : Nat) (e : Handle) (p idx : Nat) (skip : Mask) (ht : t < w.archs.length)
    (hidx : idx < (w.arch p).rows.length) (hmk : MasksOk w)
    (r : WM × List Cb) (hx : w.externalMove info t e p idx skip = some r) :
    NewRow F w r.1 (w.externalMoveEvents t p idx skip) t (w.arch t).rows.length (w.arch t).mask
      ((w.arch t).mask.filter (fun c => !(w.arch p).mask.contains c && skip.contains c)) := by
  have htp := externalMove_ne hx
  have hsh := externalMove_shape info w t e p idx skip ht hidx r hx
  have hlt := hsh.2 t
  rw [if_neg htp, if_pos rfl, Nat.add_zero] at hlt
  refine ⟨?_, hsh.1 t, hlt, masksOk_congr hsh.1 hmk⟩
  have hrow : (w.arch p).rows[idx]? = some ((w.arch p).rows[idx]) := List.getElem?_eq_getElem hidx
  unfold WM.externalMoveEvents WM.archRemoveEvents
  rw [if_neg htp, hrow]
  simp only
  -- the loop over the target's components
  have h1 := accepts_intoRow _ (live w F) t _ _
    (moveInEvents_dst t (w.arch t).mask (w.arch t).rows.length p (w.arch p).mask idx skip)
    (by
      intro ev hev
      rcases List.mem_map.mp hev with ⟨c, _, rfl⟩
      split <;> rfl)
    ((maskOk_nodup (hmk t)).filter _) (live_nextRow w hF t)
    (by
      intro ev hev x hx
      rcases List.mem_map.mp hev with ⟨c, _, rfl⟩
      split at hx
      · rename_i hpc
        cases hx
        exact live_of_row w F (by simpa using hpc) hidx
      · cases hx)
  -- then the swap-remove of the source row
  refine accepts_append_of h1 ?_
  rw [accepts_dropRow _ p _ idx _ (maskOk_nodup (hmk p)) hidx
    (fun c hc i hi => by rw [addAll_apply]; exact Or.inl (live_of_row w F hc hi))]
  congr 1
  rw [addAll_split (live w F) t _ _ _ (fun c => !(w.arch p).mask.contains c && skip.contains c)
      (fun c => by cases (w.arch p).mask.contains c <;> cases skip.contains c <;> rfl) (live_nextRow w hF t),
    removeAll_comm, live_move F hF t p htp hsh.1 hsh.2]

theorem archRemove_bt (w : WM) (ai idx : Nat) (sk : Mask) :
    BT w (w.archRemove info ai idx sk).1 := (archRemove_sameTable info w ai idx sk).bt

theorem clearArch_bt (w : WM) (ai : Nat) : BT w (w.clearArch info ai).1 := by
  rw [clearArch_fst]
  refine BT.trans ?_ (sameTable_setArch _ _ _).bt
  unfold clearLoop
  refine foldl_inv (fun x => BT w x) _ ?_ (w.arch ai).rows w (BT.refl w)
  exact fun _ _ h => ⟨h.1, h.2⟩

theorem clearArch_shape (w : WM) (ai : Nat) :
    (∀ a, ((w.clearArch info ai).1.arch a).mask = (w.arch a).mask) ∧
    (∀ a, ((w.clearArch info ai).1.arch a).rows.length = if a = ai then 0 else (w.arch a).rows.length) := by
  have hk := keysSame_clearArch info w ai
  refine ⟨fun a => (hk.key a).1, fun a => ?_⟩
  rw [clearArch_fst]
  have hl := clearLoop_spec (w.arch ai).rows w
  have harch : ∀ aj, (clearLoop w (w.arch ai).rows).arch aj = w.arch aj := fun aj => by
    rw [arch_def, hl.1]; rfl
  by_cases ha : a = ai
  · subst ha
    simp only [if_true]
    by_cases hlt : a < w.archs.length
    · rw [arch_setArch_same _ _ _ (by rw [hl.1]; exact hlt)]; rfl
    · rw [arch_of_ge _ a (by rw [archs_length_setArch, hl.1]; exact Nat.le_of_not_lt hlt)]; rfl
  · rw [arch_setArch_ne _ _ _ _ ha, harch, if_neg ha]

theorem clearArch_accepts (w : WM) (F : SlotState) (hF : TempOnly F) (ai : Nat)
    (hnd : (w.arch ai).mask.Nodup) :
    accepts (live w F) (w.clearArchEvents ai) = some (live (w.clearArch info ai).1 F) := by
  unfold WM.clearArchEvents
  have hsh := clearArch_shape info w ai
  rw [accepts_clear _ ai _ _ hnd (fun c hc i hi => live_of_row w F hc hi)]
  unfold live
  rw [liveOf_clearRows _ _ hF, funext hsh.1, funext hsh.2]

end Mustache.Proofs.Life
