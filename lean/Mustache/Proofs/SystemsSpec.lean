import Mustache.Spec.Systems
/-!
Facts about the C14 specification itself: `validOrderB` decides `ValidOrder`; a finite relation in
which every element has a predecessor has a cycle; an order that respects the constraints excludes cycles.
-/
namespace Mustache.Systems

theorem depsPlacedB_iff (ns pre : List Node) (m : Node) :
    depsPlacedB ns pre m = true ↔ ∀ b ∈ ns, mustPrecede b m = true → b ∈ pre := by
  simp only [depsPlacedB, List.all_eq_true, Bool.or_eq_true, Bool.not_eq_true', List.contains_iff_mem,
    Decidable.imp_iff_not_or, Bool.not_eq_true]

theorem availableB_iff (ns pre : List Node) (m : Node) :
    availableB ns pre m = true ↔ Available ns pre m := by
  simp only [availableB, Available, Bool.and_eq_true, Bool.not_eq_true', List.contains_iff_mem,
    depsPlacedB_iff, and_assoc, ← Bool.not_eq_true]

theorem greedyB_iff (ns pre : List Node) (c : Node) :
    (ns.all fun m => !availableB ns pre m || keyLe m c) = true ↔
      ∀ m, Available ns pre m → keyLe m c = true := by
  simp only [List.all_eq_true, Bool.or_eq_true, Bool.not_eq_true', ← Bool.not_eq_true, availableB_iff]
  exact ⟨fun h m hm => (h m hm.1).resolve_left (not_not_intro hm),
    fun h m _ => (Classical.em (Available ns pre m)).elim (fun ha => .inr (h m ha)) .inl⟩

theorem forall_split_cons {α : Type} {x : α} {xs : List α} {P : List α → α → List α → Prop} :
    (∀ p c q, x :: xs = p ++ c :: q → P p c q) ↔
      P [] x xs ∧ ∀ p c q, xs = p ++ c :: q → P (x :: p) c q := by
  constructor
  · exact fun h => ⟨h [] x xs rfl, fun p c q e => h (x :: p) c q (e ▸ rfl)⟩
  · rintro ⟨h0, h1⟩ p c q e
    cases p with
    | nil => cases e; exact h0
    | cons y ys => cases e; exact h1 ys c q rfl

theorem validFromB_iff (ns : List Node) : ∀ (rest pre : List Node),
    validFromB ns pre rest = true ↔
      ∀ p c q, rest = p ++ c :: q →
        (∀ b ∈ ns, mustPrecede b c = true → b ∈ pre ++ p) ∧
        (∀ m, Available ns (pre ++ p) m → keyLe m c = true) := by
  intro rest
  induction rest with
  | nil => exact fun pre => ⟨fun _ p c q e => (by cases p <;> cases e), fun _ => rfl⟩
  | cons x xs ih =>
    intro pre
    rw [forall_split_cons, validFromB, Bool.and_eq_true, Bool.and_eq_true, depsPlacedB_iff, greedyB_iff, ih,
      List.append_nil]
    simp only [List.append_assoc, List.singleton_append]

theorem validOrderB_iff (ns o : List Node) : validOrderB ns o = true ↔ ValidOrder ns o := by
  simp only [validOrderB, Bool.and_eq_true, List.isPerm_iff, validFromB_iff, List.nil_append]
  constructor
  · rintro ⟨hp, h⟩
    exact ⟨hp, fun p a q hs => (h p a q hs).1, fun p c q hs => (h p c q hs).2⟩
  · rintro ⟨hp, hr, hg⟩
    exact ⟨hp, fun p c q hs => ⟨hr p c q hs, hg p c q hs⟩⟩

instance (ns o : List Node) : Decidable (ValidOrder ns o) :=
  decidable_of_iff _ (validOrderB_iff ns o)

theorem validUpdateB_sound {ns : List Node} {act : Node → Bool} {us : List Node}
    (h : validUpdateB ns act us = true) : ValidUpdate ns act us := by
  unfold validUpdateB at h
  split at h
  · rename_i o _
    simp only [Bool.and_eq_true, beq_iff_eq] at h
    exact ⟨o, (validOrderB_iff ns o).mp h.1, h.2⟩
  · cases h

theorem RPath.map {α β : Type} {r : α → α → Prop} {r' : β → β → Prop} (f : α → β) {R : List α} {S : List β}
    (hS : ∀ x ∈ R, f x ∈ S) (hr : ∀ x y, r x y → r' (f x) (f y)) {a b : α} (h : RPath r R a b) :
    RPath r' S (f a) (f b) := by
  induction h with
  | single ha hb h => exact RPath.single (hS _ ha) (hS _ hb) (hr _ _ h)
  | cons ha h _ ih => exact RPath.cons (hS _ ha) (hr _ _ h) ih

theorem RPath.start_mem {α : Type} {r : α → α → Prop} {R : List α} {a b : α} (h : RPath r R a b) :
    a ∈ R := by
  cases h with
  | single ha _ _ => exact ha
  | cons ha _ _ => exact ha

/-- contracting the head `m` of the carrier: a path of the contracted relation expands to a path of `r`. -/
theorem RPath.expand {α : Type} {r : α → α → Prop} {m : α} {R : List α} {a b : α}
    (h : RPath (fun x y => r x y ∨ (r x m ∧ r m y)) R a b) : RPath r (m :: R) a b := by
  have hm : m ∈ m :: R := List.mem_cons_self
  induction h with
  | single ha hb h =>
    rcases h with h | ⟨h1, h2⟩
    · exact RPath.single (List.mem_cons_of_mem _ ha) (List.mem_cons_of_mem _ hb) h
    · exact RPath.cons (List.mem_cons_of_mem _ ha) h1 (RPath.single hm (List.mem_cons_of_mem _ hb) h2)
  | cons ha h _ ih =>
    rcases h with h | ⟨h1, h2⟩
    · exact RPath.cons (List.mem_cons_of_mem _ ha) h ih
    · exact RPath.cons (List.mem_cons_of_mem _ ha) h1 (RPath.cons hm h2 ih)

theorem exists_cycle {α : Type} : ∀ (R : List α) (r : α → α → Prop), R ≠ [] →
    (∀ y ∈ R, ∃ x ∈ R, r x y) → ∃ a, RPath r R a a := by
  intro R
  induction R with
  | nil => exact fun r h => absurd rfl h
  | cons m R ih =>
    intro r _ hpred
    have hm : m ∈ m :: R := List.mem_cons_self ..
    by_cases hmm : r m m
    · exact ⟨m, RPath.single hm hm hmm⟩
    -- otherwise contract `m`: a predecessor `m` is replaced by a predecessor of `m`, which is not `m`
    have hpred' : ∀ y ∈ m :: R, ∃ x ∈ R, r x y ∨ (r x m ∧ r m y) := by
      intro y hy
      obtain ⟨x, hx, hxy⟩ := hpred y hy
      by_cases hxm : x = m
      · obtain ⟨z, hz, hzm⟩ := hpred m hm
        exact ⟨z, (List.mem_cons.mp hz).resolve_left (fun e => hmm (e ▸ hzm)), Or.inr ⟨hzm, hxm ▸ hxy⟩⟩
      · exact ⟨x, (List.mem_cons.mp hx).resolve_left hxm, Or.inl hxy⟩
    have hR : R ≠ [] := fun e => by
      obtain ⟨x, hx, _⟩ := hpred' m hm
      rw [e] at hx
      cases hx
    obtain ⟨a, ha⟩ := ih _ hR (fun y hy => hpred' y (List.mem_cons_of_mem _ hy))
    exact ⟨a, RPath.expand ha⟩

theorem RPath.before_of_respects {ns o : List Node} (hr : Respects ns o) {a b : Node}
    (h : RPath (fun b a => mustPrecede b a = true) ns a b) :
    ∀ pre post, o = pre ++ b :: post → a ∈ pre := by
  induction h with
  | single ha _ h => intro pre post hs; exact hr pre _ post hs _ ha h
  | @cons a b c ha h _ ih =>
    intro pre post hs
    have hb : b ∈ pre := ih pre post hs
    rcases List.append_of_mem hb with ⟨p1, p2, rfl⟩
    have : a ∈ p1 := hr p1 b (p2 ++ c :: post) (by simp [hs]) a ha h
    exact List.mem_append_left _ this

theorem not_cyclic_of_respects {ns o : List Node} (hperm : o.Perm ns) (hnd : o.Nodup)
    (hr : Respects ns o) : ¬ Cyclic ns := by
  rintro ⟨a, hp⟩
  have ha : a ∈ o := hperm.mem_iff.mpr hp.start_mem
  rcases List.append_of_mem ha with ⟨pre, post, rfl⟩
  have : a ∈ pre := hp.before_of_respects hr pre post rfl
  have hnd' := List.nodup_append.mp hnd
  exact hnd'.2.2 a this a (List.mem_cons_self ..) rfl

end Mustache.Systems
