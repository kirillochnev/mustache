import Mustache.Proofs.RefineEntity
/-!
# Refinement: unlocked `assign`
-/
namespace Mustache.Proofs.Refine
open Mustache.Model Mustache.Spec
open Mustache.Proofs.IdTable (tabOf Ghost TInv)
open Mustache.Proofs.Rows

variable (info : CompId → CompInfo)

/-- the row `assign` leaves behind: with a constructor token the moved row has the cell of `comp` left raw and then
written; without, `comp` is default-constructed by the move like every other new component -/
def assignVals (pm tm : Mask) (prow : Row) (comp : CompId) (v : Option Nat) : List Val :=
  match v with
  | some _ => (carry info tm pm prow (Mask.insert pm comp)).set (tm.idxOf comp) (storedOf info comp v)
  | none => carry info tm pm prow []

theorem assignVals_length (pm tm : Mask) (prow : Row) (comp : CompId) (v : Option Nat) :
    (assignVals info pm tm prow comp v).length = tm.length := by
  cases v <;> simp [assignVals, carry_length]

theorem assign_vals (pm tm : Mask) (prow : Row) (comp : CompId) (v : Option Nat)
    (hcomp : comp ∉ pm) (hct : comp ∈ tm) (x : CompId) (hx : x ∈ tm) :
    (assignVals info pm tm prow comp v).getD (tm.idxOf x) none =
    if x ∈ pm then prow.vals.getD (pm.idxOf x) none
    else if x = comp then storedOf info comp v else defaultVal info x := by
  unfold assignVals
  cases v with
  | none =>
    simp only
    rw [carry_getD info tm pm prow [] x hx]
    by_cases hxc : x = comp
    · rw [if_pos hxc, hxc, storedOf_none]; rfl
    · rw [if_neg hxc]; rfl
  | some tok =>
    simp only
    by_cases hxc : x = comp
    · subst hxc
      rw [if_neg hcomp, if_pos rfl]
      have hlt : tm.idxOf x < (carry info tm pm prow (Mask.insert pm x)).length := by
        rw [carry_length]; exact (indexOf?_of_mem hx).2.1
      simp [List.getD_eq_getElem?_getD, hlt]
    · rw [List.getD_eq_getElem?_getD, List.getElem?_set_ne (idxOf_ne hct hx (Ne.symm hxc)), ← List.getD_eq_getElem?_getD,
        carry_getD info tm pm prow _ x hx, if_neg hxc]
      by_cases hxp : x ∈ pm
      · rw [if_pos hxp, if_pos hxp]
      · rw [if_neg hxp, if_neg hxp,
          contains_false_iff.mpr (fun h => ((mem_insert _ _ _).mp h).elim hxc hxp)]
        rfl

/-- the components whose `afterAssign` fires: those the move constructs, plus the assigned one -/
theorem assign_cb_list (pm tm : Mask) (comp : CompId) (v : Option Nat) (hn : tm.Nodup) (hct : comp ∈ tm)
    (hcomp : comp ∉ pm) :
    (tm.filter (fun c => !pm.contains c && (info c).callbacks &&
        !(if v.isSome then Mask.insert pm comp else []).contains c) ++
      (if (info comp).callbacks && v.isSome then [comp] else [])).Perm
    (tm.filter (fun c => (info c).callbacks && !pm.contains c)) := by
  cases v with
  | none =>
    simpa using new_cbs_perm info (pm := pm) (skip := []) (xs := []) hn .nil (fun _ _ => Iff.rfl) (fun _ h => nomatch h)
  | some tok =>
    simpa [hct, List.filter_cons] using new_cbs_perm info (skip := Mask.insert pm comp) (xs := [comp]) hn
      (List.pairwise_singleton _ _) (fun c hc => by rw [mem_insert, List.mem_singleton]; exact or_iff_left hc)
      (fun c hc => List.mem_singleton.mp hc ▸ hcomp)

theorem assign_unlocked_refines {c : CW} {s : WS} (hi : Inv c) (hb : Bounds c) (hr : Rel c s)
    (hl : c.w.isLocked = false) (t : Nat) (e : Handle) (comp : CompId) (v : Option Nat)
    (hv : c.w.isValid e = true) (hnc : c.w.hasComp e comp = false) :
    StepRefines info c s (.assign t e comp v) := by
  obtain ⟨w, iss⟩ := c
  rcases rel_alive hi hb hr hv with ⟨k, pi, i, prow, ent, ha⟩
  have hpm : MaskOk (w.arch pi).mask := ha.maskOk hi
  have hplen : prow.vals.length = (w.arch pi).mask.length := ha.vals hi
  have hcomp : comp ∉ (w.arch pi).mask := by
    rw [hasComp_of_loc ha.loc, hv, Bool.true_and] at hnc
    exact contains_false_iff.mp hnc
  have hmok : MaskOk (Mask.insert (w.arch pi).mask comp) := maskOk_insert hpm comp
  have hcm : comp ∈ Mask.insert (w.arch pi).mask comp := (mem_insert _ _ _).mpr (Or.inl rfl)
  generalize hmdef : Mask.insert (w.arch pi).mask comp = m at hmok hcm
  have hct : comp ∈ closedMask w.deps m := subset_closedMask hcm
  rcases getArch_move_cases info hi ha m hmok (w.arch pi).shared (ha.sharedIn hi) (if v.isSome then m else []) with
    ⟨_, _, heq, _⟩ | ⟨w2, cbs, hsome, hmv, hks, _, hcbs⟩
  · -- "to itself": impossible, the entity lacks the component
    exact absurd (heq ▸ hct) hcomp
  have hkey := getArch_key w m (w.arch pi).shared
  generalize htm : closedMask w.deps m = tm at hct hmv hcbs hkey
  have htmok : MaskOk tm := htm ▸ maskOk_closedMask w.deps hmok
  have hidxc : tm.indexOf? comp = some (tm.idxOf comp) := (indexOf?_of_mem hct).1
  have hmask2 : (w2.arch (w.getArch m (w.arch pi).shared).2).mask = tm := by rw [(hks.key _).1]; exact hkey.1
  -- the model step: the move, then the cell of `comp` written when a token is given
  have hmodel : w.assign info t e comp v =
      ((if v.isSome then
          setCell w2 (w.getArch m (w.arch pi).shared).2 (w2.locOf e).idx (tm.idxOf comp) (storedOf info comp v)
        else w2), .ok, cbs ++ (if (info comp).callbacks && v.isSome then [Cb.assign comp e] else [])) := by
    have hidx2 : (w2.arch (w.getArch m (w.arch pi).shared).2).mask.indexOf? comp = some (tm.idxOf comp) := by
      rw [hmask2]; exact hidxc
    unfold WM.assign
    simp only [hl, Bool.false_eq_true, if_false, ha.locArch, ha.locIdx, hmdef, hsome, hidx2]
    cases v <;> rfl
  have hmv' : Moved w (w.assign info t e comp v).1 e (w.getArch m (w.arch pi).shared).2
      (assignVals info (w.arch pi).mask tm prow comp v) := by
    rw [hmodel]
    unfold assignVals
    rw [hmdef]
    cases v with
    | none => simpa using hmv
    | some tok => simpa using hmv.setCell (tm.idxOf comp) (storedOf info comp (some tok))
  have hks' : KeysSame (w.getArch m (w.arch pi).shared).1 (w.assign info t e comp v).1 := by
    rw [hmodel]
    cases v with
    | none => exact hks
    | some tok => exact hks.trans (setCell_keysSame w2 _ _ _ _)
  have hmr := moved_refines hi hr ha.issued hv (ha.sharedIn hi) hmv' hks'
    { ent with comps := rebuild info ent.comps tm [(comp, storedVal info comp v)] }
    (by
      rw [htm]
      show rebuild info _ tm _ = _
      refine (zip_eq_rebuild info (maskOk_nodup htmok) (assignVals_length info _ _ _ _ _) _ _ fun x hx => ?_).symm
      rw [ha.rel.1, rebuildEntry_zip info _ _ hplen, assign_vals info _ _ _ _ _ hcomp hct x hx]
      by_cases hxp : x ∈ (w.arch pi).mask
      · rw [if_pos hxp, if_pos hxp]
      · rw [if_neg hxp, if_neg hxp]
        by_cases hxc : x = comp
        · subst hxc; simp; rfl
        · have : (comp == x) = false := by simpa using (Ne.symm hxc)
          simp [this, hxc])
    (fun sid => ha.rel.2 sid)
  have hw : w.step info (.assign t e comp v) = ((w.assign info t e comp v).1, .ok,
      cbs ++ (if (info comp).callbacks && v.isSome then [Cb.assign comp e] else [])) := by
    show ((w.assign info t e comp v).1, resOut (w.assign info t e comp v).2.1, (w.assign info t e comp v).2.2) = _
    rw [hmodel]; rfl
  have hs : s.step info (.assign t (ordOf iss e) comp v) =
      (s.setEnt k (some { ent with comps := rebuild info ent.comps tm [(comp, storedVal info comp v)] }), .ok,
        cbDiff info k (w.arch pi).mask tm) := by
    show (if s.lockDepth > 0 then _ else _) = _
    rw [if_neg (unlocked_spec hr hl), ha.ord]
    simp only [WS.doAssign, ha.alive, ha.compSet hi, contains_false_iff.mpr hcomp, Bool.false_eq_true, if_false,
      hr.deps, closed_eq, hmdef, htm]
  refine StepRefines.intro info hw hs hmr.1 hmr.2 ⟨trivial, ?_⟩
  -- callbacks: nothing is removed (the old set is part of the new one), `comp` fires once
  have hsub : ∀ x ∈ (w.arch pi).mask, x ∈ tm := fun x hx =>
    htm ▸ subset_closedMask (hmdef ▸ (mem_insert _ _ _).mpr (Or.inr hx))
  have hcbs' : cbs ++ (if (info comp).callbacks && v.isSome then [Cb.assign comp e] else []) =
      ((tm.filter (fun c => !(w.arch pi).mask.contains c && (info c).callbacks &&
          !(if v.isSome then Mask.insert (w.arch pi).mask comp else []).contains c)) ++
        (if (info comp).callbacks && v.isSome then [comp] else [])).map (Cb.assign · e) ++
      ((w.arch pi).mask.filter (fun c => (info c).callbacks && !tm.contains c)).map (Cb.remove · e) := by
    rw [hcbs, filter_none_of_subset info hsub, List.map_nil, List.append_nil, List.append_nil, List.map_append, hmdef]
    congr 1
    split <;> rfl
  rw [hcbs']
  exact cbsAgree_move info ha.ord _ tm (assign_cb_list info _ tm comp v (maskOk_nodup htmok) hct hcomp)

end Mustache.Proofs.Refine
