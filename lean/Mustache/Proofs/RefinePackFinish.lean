import Mustache.Proofs.RefineGhost
import Mustache.Proofs.RefinePackSpec
/-!
# Refinement, the flush: the values `applyCommandPack` leaves in the row

After the single move, `packFinish` runs two loops over the row of its entity: stale instances are replaced by
defaults, then the supplied values are written. Both are folds of `packSetVal` (`setMany` on the row). The row they leave
holds the spec's values `pform`, cell by cell (`PInv.comps_row`).
-/
namespace Mustache.Proofs.Refine
open Mustache.Model Mustache.Spec
open Mustache.Proofs.Rows

variable (info : CompId → CompInfo)

def setMany (tm : Mask) (kvs : List (CompId × Val)) (vals : List Val) : List Val :=
  kvs.foldl (fun vs kv => match tm.indexOf? kv.1 with
    | none => vs
    | some ci => vs.set ci kv.2) vals

theorem setMany_length (tm : Mask) (kvs : List (CompId × Val)) (vals : List Val) :
    (setMany tm kvs vals).length = vals.length := by
  induction kvs generalizing vals with
  | nil => rfl
  | cons p rest ih =>
    simp only [setMany, List.foldl_cons] at ih ⊢
    cases tm.indexOf? p.1 with
    | none => exact ih vals
    | some ci => simp only; rw [ih]; simp

theorem setMany_get (tm : Mask) (kvs : List (CompId × Val)) (hn : (kvs.map (·.1)).Nodup) (vals : List Val)
    (hl : vals.length = tm.length) (x : CompId) (hx : x ∈ tm) :
    (setMany tm kvs vals).getD (tm.idxOf x) none =
      match kvs.find? (·.1 == x) with
      | some p => p.2
      | none => vals.getD (tm.idxOf x) none := by
  induction kvs generalizing vals with
  | nil => rfl
  | cons p rest ih =>
    have hn' : p.1 ∉ rest.map (·.1) ∧ (rest.map (·.1)).Nodup := List.nodup_cons.mp hn
    by_cases hpx : p.1 = x
    · have hb : (p.1 == x) = true := by simpa using hpx
      have hidx : tm.indexOf? p.1 = some (tm.idxOf x) := by rw [hpx]; exact (indexOf?_of_mem hx).1
      simp only [setMany, List.foldl_cons, hidx, List.find?_cons, hb]
      have hnot : rest.find? (·.1 == x) = none := by
        rw [List.find?_eq_none]
        intro q hq hqx
        have : q.1 = x := by simpa using hqx
        exact hn'.1 (List.mem_map.mpr ⟨q, hq, this.trans hpx.symm⟩)
      have := ih hn'.2 (vals.set (tm.idxOf x) p.2) (by simpa using hl)
      simp only [setMany] at this
      rw [this, hnot]
      have hlt : tm.idxOf x < vals.length := by rw [hl]; exact (indexOf?_of_mem hx).2.1
      simp [List.getD_eq_getElem?_getD, hlt]
    · have hb : (p.1 == x) = false := by simpa using hpx
      simp only [List.find?_cons, hb]
      cases hidx : tm.indexOf? p.1 with
      | none =>
        simp only [setMany, List.foldl_cons, hidx]
        exact ih hn'.2 vals hl
      | some ci =>
        simp only [setMany, List.foldl_cons, hidx]
        have := ih hn'.2 (vals.set ci p.2) (by simpa using hl)
        simp only [setMany] at this
        rw [this]
        cases rest.find? (·.1 == x) with
        | some q => rfl
        | none =>
          simp only
          have hpm : p.1 ∈ tm := (indexOf?_some hidx).1
          have hci : ci = tm.idxOf p.1 := (indexOf?_some hidx).2
          have hne : ci ≠ tm.idxOf x := by rw [hci]; exact idxOf_ne hpm hx hpx
          rw [List.getD_eq_getElem?_getD, List.getElem?_set_ne hne, ← List.getD_eq_getElem?_getD]

theorem packSetVal_eq (ti idx : Nat) (W : WM) (c : CompId) (v : Val) :
    packSetVal ti idx W c v =
      match (W.arch ti).mask.indexOf? c with
      | none => W
      | some k => setCell W ti idx k v := by
  unfold packSetVal setCell
  simp only
  cases h : (W.arch ti).mask.indexOf? c <;> rfl

theorem setVals_moved {w : WM} {e : Handle} {ti : Nat} (tm : Mask) (idx : Nat) :
    ∀ (kvs : List (CompId × Val)) (W : WM) (vals : List Val), Moved w W e ti vals → (W.arch ti).mask = tm →
      (W.locOf e).idx = idx →
      Moved w (kvs.foldl (fun W kv => packSetVal ti idx W kv.1 kv.2) W) e ti (setMany tm kvs vals) ∧
      KeysSame W (kvs.foldl (fun W kv => packSetVal ti idx W kv.1 kv.2) W) ∧
      ((kvs.foldl (fun W kv => packSetVal ti idx W kv.1 kv.2) W).locOf e).idx = idx
  | [], W, vals, hm, _, hix => ⟨hm, KeysSame.refl W, hix⟩
  | kv :: rest, W, vals, hm, htm, hix => by
    simp only [List.foldl_cons, setMany]
    rw [packSetVal_eq, htm]
    cases hidx : tm.indexOf? kv.1 with
    | none =>
      simp only
      exact setVals_moved tm idx rest W vals hm htm hix
    | some ci =>
      simp only
      have hm' := hm.setCell ci kv.2
      rw [hix] at hm'
      have htm' : ((setCell W ti idx ci kv.2).arch ti).mask = tm := by
        rw [(setCell_mask W ti ti _ ci _).1]; exact htm
      have hloc' : ((setCell W ti idx ci kv.2).locOf e).idx = idx := by
        unfold WM.locOf; rw [setCell_locs]; exact hix
      have ih := setVals_moved tm idx rest _ _ hm' htm' hloc'
      exact ⟨ih.1, (setCell_keysSame W ti _ ci _).trans ih.2.1, ih.2.2⟩

def staleCbs (e : Handle) (supplied : Mask) (c : CompId) : List Cb :=
  if (info c).callbacks then Cb.remove c e :: (if supplied.contains c then [] else [Cb.assign c e]) else []

theorem foldl_collect {α σ γ : Type} (f : σ → α → σ) (g : α → List γ) (l : List α) (s : σ) (c : List γ) :
    l.foldl (fun (acc : σ × List γ) x => (f acc.1 x, acc.2 ++ g x)) (s, c) = (l.foldl f s, c ++ l.flatMap g) := by
  induction l generalizing s c with
  | nil => simp
  | cons x rest ih => rw [List.foldl_cons, ih, List.foldl_cons, List.flatMap_cons, List.append_assoc]

theorem flatMap_filter {α β : Type} (p : α → Bool) (g : α → List β) (l : List α) :
    (l.filter p).flatMap g = l.flatMap (fun x => if p x then g x else []) := by
  induction l with
  | nil => rfl
  | cons x rest ih => cases hp : p x <;> simp [hp, ih]

theorem packStaleStep_fold (e : Handle) (supplied : Mask) (ti idx : Nat) (stale : List CompId) (W : WM) (cbs : List Cb) :
    stale.foldl (packStaleStep info e supplied ti idx) (W, cbs) =
      ((((stale.filter (fun c => !supplied.contains c)).map (fun c => (c, defaultVal info c))).foldl
          (fun W kv => packSetVal ti idx W kv.1 kv.2) W),
       cbs ++ stale.flatMap (staleCbs info e supplied)) := by
  have h : packStaleStep info e supplied ti idx = fun acc c =>
      (if !supplied.contains c then packSetVal ti idx acc.1 c (defaultVal info c) else acc.1,
        acc.2 ++ staleCbs info e supplied c) := by
    funext acc c
    unfold packStaleStep staleCbs
    cases supplied.contains c <;> cases (info c).callbacks <;> simp
  rw [h, foldl_collect (fun W c => if !supplied.contains c then packSetVal ti idx W c (defaultVal info c) else W)
    (staleCbs info e supplied), List.foldl_map, List.foldl_filter]

theorem packSupplyStep_fold (e : Handle) (tmask : Mask) (ti idx : Nat) (src : List (CompId × Val)) (W : WM) (cbs : List Cb) :
    src.foldl (packSupplyStep info e tmask ti idx) (W, cbs) =
      (((src.filter (fun cv => tmask.contains cv.1)).foldl (fun W kv => packSetVal ti idx W kv.1 kv.2) W),
       cbs ++ (src.filter (fun cv => tmask.contains cv.1)).flatMap
         (fun cv => if (info cv.1).callbacks then [Cb.assign cv.1 e] else [])) := by
  have h : packSupplyStep info e tmask ti idx = fun acc cv =>
      (if tmask.contains cv.1 then packSetVal ti idx acc.1 cv.1 cv.2 else acc.1,
        acc.2 ++ if tmask.contains cv.1 then (if (info cv.1).callbacks then [Cb.assign cv.1 e] else []) else []) := by
    funext acc cv
    unfold packSupplyStep
    cases tmask.contains cv.1 <;> simp
  rw [h, foldl_collect (fun W (cv : CompId × Val) => if tmask.contains cv.1 then packSetVal ti idx W cv.1 cv.2 else W)
    (fun cv => if tmask.contains cv.1 then (if (info cv.1).callbacks then [Cb.assign cv.1 e] else []) else []),
    List.foldl_filter, flatMap_filter]

def loopVals (tm : Mask) (isCreate : Bool) (initial : Mask) (p : PackSt) (vals1 : List Val) : List Val :=
  setMany tm p.src
    (setMany tm (((packStale isCreate initial p (Mask.ofList (p.src.map (·.1))) tm).filter
      (fun c => !(Mask.ofList (p.src.map (·.1))).contains c)).map (fun c => (c, defaultVal info c))) vals1)

theorem loopVals_length (tm : Mask) (isCreate : Bool) (initial : Mask) (p : PackSt) (vals1 : List Val) :
    (loopVals info tm isCreate initial p vals1).length = vals1.length := by
  rw [loopVals, setMany_length, setMany_length]

def loopCbs (tm : Mask) (e : Handle) (isCreate : Bool) (initial : Mask) (p : PackSt) : List Cb :=
  (packStale isCreate initial p (Mask.ofList (p.src.map (·.1))) tm).flatMap
      (staleCbs info e (Mask.ofList (p.src.map (·.1)))) ++
    p.src.flatMap (fun cv => if (info cv.1).callbacks then [Cb.assign cv.1 e] else [])

theorem packLoops_moved {w : WM} {e : Handle} {ti : Nat} {tm : Mask} (isCreate : Bool) (initial : Mask) (p : PackSt)
    (hsub : ∀ q ∈ p.src, q.1 ∈ tm) {W1 : WM} {vals1 : List Val} (hm : Moved w W1 e ti vals1)
    (htm : (W1.arch ti).mask = tm) (cbs1 cbs : List Cb) :
    Moved w (packLoops info e isCreate initial p ti W1 cbs1 cbs).1 e ti (loopVals info tm isCreate initial p vals1) ∧
    KeysSame W1 (packLoops info e isCreate initial p ti W1 cbs1 cbs).1 ∧
    (packLoops info e isCreate initial p ti W1 cbs1 cbs).2 = cbs ++ cbs1 ++ loopCbs info tm e isCreate initial p := by
  unfold packLoops
  simp only [htm, packStaleStep_fold]
  have h2 := setVals_moved tm (W1.locOf e).idx
    (((packStale isCreate initial p (Mask.ofList (p.src.map (·.1))) tm).filter
      (fun c => !(Mask.ofList (p.src.map (·.1))).contains c)).map (fun c => (c, defaultVal info c))) W1 vals1 hm htm rfl
  generalize hW2 : (((packStale isCreate initial p (Mask.ofList (p.src.map (·.1))) tm).filter
      (fun c => !(Mask.ofList (p.src.map (·.1))).contains c)).map (fun c => (c, defaultVal info c))).foldl
        (fun W kv => packSetVal ti (W1.locOf e).idx W kv.1 kv.2) W1 = W2 at h2 ⊢
  have htm2 : (W2.arch ti).mask = tm := by rw [(h2.2.1.key ti).1]; exact htm
  have hidx2 : (W2.locOf e).idx = (W1.locOf e).idx := h2.2.2
  simp only [htm2, packSupplyStep_fold]
  have hfil : p.src.filter (fun cv => tm.contains cv.1) = p.src := by
    rw [List.filter_eq_self]
    intro q hq
    exact List.contains_iff_mem.mpr (hsub q hq)
  rw [hfil]
  have h3 := setVals_moved tm (W1.locOf e).idx p.src W2 _ h2.1 htm2 hidx2
  refine ⟨h3.1, h2.2.1.trans h3.2.1, ?_⟩
  unfold loopCbs
  simp only [List.nil_append, List.append_assoc]

theorem mem_supplied (src : List (CompId × Val)) (x : CompId) :
    x ∈ Mask.ofList (src.map (·.1)) ↔ (src.find? (·.1 == x)).isSome = true := by
  rw [mem_ofList, List.find?_isSome]
  simp

theorem mem_packStale (isCreate : Bool) (initial : Mask) (p : PackSt) (supplied tm : Mask) (x : CompId) :
    x ∈ packStale isCreate initial p supplied tm ↔
      (x ∈ p.final ∧ x ∈ p.replaced ∧ x ∈ initial ∧ ¬ (isCreate = true ∧ x ∈ supplied) ∧ x ∈ tm) := by
  unfold packStale
  simp only [List.mem_filter, Bool.and_eq_true, List.contains_iff_mem, Bool.not_eq_true', Bool.and_eq_false_iff,
    contains_false_iff]
  constructor
  · rintro ⟨⟨h1, h2, h3⟩, h4, h5⟩
    refine ⟨h1, h2, h3, ?_, h5⟩
    rintro ⟨hc, hs⟩
    rcases h4 with h | h
    · rw [hc] at h; cases h
    · exact h hs
  · rintro ⟨h1, h2, h3, h4, h5⟩
    refine ⟨⟨h1, h2, h3⟩, ?_, h5⟩
    by_cases hc : isCreate = true
    · right; intro hs; exact h4 ⟨hc, hs⟩
    · left; simpa using hc

/-- `vals1` is a row of the set `p.final` that holds the value carried over from the record `ic` the pack started from,
or the default, wherever the pack supplied no value: the row right after the single move -/
structure CarriedRow (ic : List (CompId × Val)) (p : PackSt) (vals1 : List Val) : Prop where
  len : vals1.length = p.final.length
  get : ∀ x ∈ p.final, x ∉ Mask.ofList (p.src.map (·.1)) → vals1.getD (p.final.idxOf x) none =
    match ic.find? (·.1 == x) with
    | some q => q.2
    | none => defaultVal info x

/-- the spec's record of an entity alive at the end of its pack is the row after the loops (`initial`: the keys of `ic`).
Cell by cell: a supplied value wins; else a stale instance (replaced on the way, there at the start) is
default-constructed again; else the cell is as the move left it. -/
theorem PInv.comps_row {deps : List (CompId × Mask)} {ic : List (CompId × Val)} {base : Mask} {k : Nat} {p : PackSt}
    {ent : SEnt} {scbs : List SCb} (hp : PInv info deps ic base k p ent scbs) (isCreate : Bool) (initial : Mask)
    (hic : ∀ x, x ∈ ic.map (·.1) ↔ x ∈ initial) {vals1 : List Val} (hrow : CarriedRow info ic p vals1) :
    ent.comps = p.final.zip (loopVals info p.final isCreate initial p vals1) := by
  have htn := maskOk_nodup hp.sorted
  have hl := hrow.len
  rw [hp.comps, zip_eq_map htn (by rw [loopVals_length]; exact hl)]
  apply List.map_congr_left
  intro x hx
  unfold loopVals pform
  rw [setMany_get p.final p.src hp.srcNodup _ (by rw [setMany_length]; exact hl) x hx]
  cases hf : p.src.find? (·.1 == x) with
  | some q => rfl
  | none =>
    have hns : x ∉ Mask.ofList (p.src.map (·.1)) := by
      intro h; have := (mem_supplied p.src x).mp h; rw [hf] at this; cases this
    have hkn : ((((packStale isCreate initial p (Mask.ofList (p.src.map (·.1))) p.final).filter
        (fun c => !(Mask.ofList (p.src.map (·.1))).contains c)).map (fun c => (c, defaultVal info c))).map (·.1)).Nodup := by
      rw [List.map_map]
      exact (List.map_id _).symm ▸ ((htn.sublist List.filter_sublist).sublist List.filter_sublist).sublist List.filter_sublist
    have hmem : x ∈ (packStale isCreate initial p (Mask.ofList (p.src.map (·.1))) p.final).filter
        (fun c => !(Mask.ofList (p.src.map (·.1))).contains c) ↔ x ∈ p.replaced ∧ x ∈ initial := by
      rw [List.mem_filter, mem_packStale]
      simp only [Bool.not_eq_true', contains_false_iff]
      exact ⟨fun h => ⟨h.1.2.1, h.1.2.2.1⟩, fun h => ⟨⟨hx, h.1, h.2, fun h' => hns h'.2, hx⟩, hns⟩⟩
    rw [setMany_get p.final _ hkn vals1 hl x hx, find_map_key, hrow.get x hx hns]
    cases hfi : ic.find? (·.1 == x) with
    | none =>
      have hxi : x ∉ initial := fun h => by
        rcases List.mem_map.mp ((hic x).mpr h) with ⟨q, hq, hqx⟩
        have := List.find?_eq_none.mp hfi q hq
        simp [hqx] at this
      rw [if_neg (fun h => hxi (hmem.mp h).2)]
    | some q =>
      have hq1 : q.1 = x := by simpa using List.find?_some hfi
      have hxi : x ∈ initial := (hic x).mp (List.mem_map.mpr ⟨q, List.mem_of_find?_eq_some hfi, hq1⟩)
      by_cases hr : x ∈ p.replaced
      · rw [if_pos (hmem.mpr ⟨hr, hxi⟩), List.contains_iff_mem.mpr hr]; rfl
      · rw [if_neg (fun h => hr (hmem.mp h).1), contains_false_iff.mpr hr]; rfl

end Mustache.Proofs.Refine
