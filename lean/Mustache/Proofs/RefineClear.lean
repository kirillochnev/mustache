import Mustache.Proofs.RefineDestroy
/-!
# Refinement: `clearArchetype`
-/
namespace Mustache.Proofs.Refine
open Mustache.Model Mustache.Spec
open Mustache.Proofs.IdTable (tabOf Ghost TInv rowHandles)
open Mustache.Proofs.Rows

variable (info : CompId → CompInfo) {c : CW} {s : WS}

structure ClearSame (w w' : WM) : Prop where
  worldId : w'.worldId = w.worldId
  deps : w'.deps = w.deps
  pool : w'.pool = w.pool
  nextInst : w'.nextInst = w.nextInst
  lockDepth : w'.lockDepth = w.lockDepth
  nthreads : w'.nthreads = w.nthreads
  buffers : w'.buffers = w.buffers
  marked : w'.marked = w.marked
  locsLen : w'.locs.length = w.locs.length

theorem ClearSame.trans {a b c : WM} (h₁ : ClearSame a b) (h₂ : ClearSame b c) : ClearSame a c :=
  ⟨h₂.worldId.trans h₁.worldId, h₂.deps.trans h₁.deps, h₂.pool.trans h₁.pool, h₂.nextInst.trans h₁.nextInst,
   h₂.lockDepth.trans h₁.lockDepth, h₂.nthreads.trans h₁.nthreads, h₂.buffers.trans h₁.buffers,
   h₂.marked.trans h₁.marked, h₂.locsLen.trans h₁.locsLen⟩

theorem clearLoop_same (rows : List Row) (w : WM) : ClearSame w (clearLoop w rows) := by
  induction rows generalizing w with
  | nil => exact ⟨rfl, rfl, rfl, rfl, rfl, rfl, rfl, rfl, rfl⟩
  | cons r rows ih =>
    unfold clearLoop
    rw [List.foldl_cons]
    refine ClearSame.trans ?_ (ih _)
    exact ⟨rfl, rfl, rfl, rfl, rfl, rfl, rfl, rfl, List.length_set ..⟩

theorem clearArch_same (w : WM) (ai : Nat) : ClearSame w (w.clearArch info ai).1 := by
  rw [clearArch_fst]
  refine (clearLoop_same (w.arch ai).rows w).trans ?_
  generalize clearLoop w (w.arch ai).rows = x
  exact ⟨rfl, rfl, rfl, rfl, rfl, rfl, rfl, rfl, rfl⟩

theorem ClearSame.keeps {w w' : WM} (h : ClearSame w w') : KeepsCtl w w' :=
  ⟨h.worldId, h.deps, h.lockDepth, h.nthreads, h.buffers, h.marked, PoolExt.of_eq h.pool⟩

theorem clearArch_cbs (w : WM) (ai : Nat) :
    (w.clearArch info ai).2 =
      (w.arch ai).rows.flatMap (fun r => ((w.arch ai).mask.filter (fun c => (info c).callbacks)).map (Cb.remove · r.ent)) := rfl

def clearCond (mask : Mask) : Option SEnt → Bool
  | some e => compSet e == mask && e.shared.isEmpty
  | none => false

def clearList (s : WS) (mask : Mask) : List Nat :=
  ((s.ents.zipIdx).filter (fun p => clearCond mask p.1)).map (·.2)

theorem specClear_eq (s : WS) (mask : Mask) :
    s.clearArch info mask = (clearList s mask).foldl (wsKill info) (s, []) := by
  unfold WS.clearArch clearList
  rw [List.foldl_map, List.foldl_filter]
  refine congrArg (fun f => List.foldl f _ _) (funext fun acc => funext fun p => ?_)
  obtain ⟨oe, o⟩ := p
  cases oe <;> rfl

theorem mem_clearList (s : WS) (mask : Mask) (o : Nat) :
    o ∈ clearList s mask ↔ clearCond mask (s.alive o) = true ∧ o < s.ents.length := by
  unfold clearList WS.alive
  rw [List.getD_eq_getElem?_getD]
  simp only [List.mem_map, List.mem_filter, Prod.exists, List.mem_zipIdx_iff_getElem?, exists_eq_right]
  constructor
  · rintro ⟨a, ha, hc⟩
    rw [ha]
    exact ⟨hc, (List.getElem?_eq_some_iff.mp ha).1⟩
  · rintro ⟨hc, hlt⟩
    rw [List.getElem?_eq_getElem hlt] at hc ⊢
    exact ⟨_, rfl, hc⟩

theorem clearList_nodup (s : WS) (mask : Mask) : (clearList s mask).Nodup := by
  unfold clearList
  have h1 : ((s.ents.zipIdx).map (·.2)).Nodup := by
    rw [List.zipIdx_map_snd]
    exact List.nodup_range' (step := 1) Nat.one_pos
  have h2 : (((s.ents.zipIdx).filter (fun p => clearCond mask p.1)).map (·.2)).Sublist ((s.ents.zipIdx).map (·.2)) :=
    List.Sublist.map _ List.filter_sublist
  exact h1.sublist h2

/-- under `Rel`: ordinal `o` (handle `h`) is selected by `clearArch mask` iff `h` owns a row of THE shared-free
archetype with that mask -/
theorem clear_select (hi : Inv c) (hr : Rel c s) {mask : Mask} {i : Nat}
    (hilt : i < c.w.archs.length) (him : (c.w.arch i).mask = mask)
    (hnosh : ∀ a ∈ c.w.archs, a.mask = mask → a.shared.ids = []) {o : Nat} {h : Handle} (ho : c.issued[o]? = some h) :
    o ∈ clearList s mask ↔ h ∈ rowHandles c.w i := by
  have hrel := hr.ents o h ho
  have holt : o < s.ents.length := by rw [hr.len]; exact (List.getElem?_eq_some_iff.mp ho).1
  rw [mem_clearList]
  constructor
  · rintro ⟨hc, _⟩
    cases hal : s.alive o with
    | none => rw [hal] at hc; cases hc
    | some e =>
      rw [hal] at hc hrel
      simp only [clearCond, Bool.and_eq_true, beq_iff_eq, List.isEmpty_iff] at hc
      cases hv : c.w.isValid h with
      | false => rw [absEnt_invalid hv] at hrel; cases hrel
      | true =>
        rcases absEnt_isSome_of_valid hi.live hi.rows hv with ⟨ai, j, r, hrow, hent, hloc, habs⟩
        rw [habs] at hrel
        have hail : ai < c.w.archs.length := lt_of_row hrow
        have hcs : compSet e = (c.w.arch ai).mask := compSet_of_rel hrel.1 (hi.rows.vals ai j r hrow)
        have hm : (c.w.arch ai).mask = mask := hcs.symm.trans hc.1
        have hids : (c.w.arch ai).shared.ids = [] := hnosh _ (arch_mem_archs hail) hm
        have hidsi : (c.w.arch i).shared.ids = [] := hnosh _ (arch_mem_archs hilt) him
        have hd1 : (c.w.arch ai).shared.data = [] := by
          have := (hi.shared _ (arch_mem_archs hail)).1.1; rw [hids] at this; exact List.length_eq_zero_iff.mp this.symm
        have hd2 : (c.w.arch i).shared.data = [] := by
          have := (hi.shared _ (arch_mem_archs hilt)).1.1; rw [hidsi] at this; exact List.length_eq_zero_iff.mp this.symm
        have : ai = i := hi.keys.distinct ai i hail hilt (hm.trans him.symm) (hd1.trans hd2.symm)
        subst this
        exact List.mem_map.mpr ⟨r, List.mem_of_getElem? hrow, hent⟩
  · intro hmem
    rcases List.mem_map.mp hmem with ⟨r, hr', hent⟩
    rcases List.mem_iff_getElem?.mp hr' with ⟨j, hrow⟩
    have hv : c.w.isValid h = true := by rw [← hent]; exact hi.live.row_live i j r hrow
    have hloc := hi.rows.locOf hrow
    rw [hent] at hloc
    rw [absEnt_of_row hv hloc hrow, optRel_some_right] at hrel
    rcases hrel with ⟨e, hal, hre⟩
    refine ⟨?_, holt⟩
    rw [hal]
    simp only [clearCond, Bool.and_eq_true, beq_iff_eq, List.isEmpty_iff]
    refine ⟨(compSet_of_rel hre.1 (hi.rows.vals i j r hrow)).trans him, ?_⟩
    apply shared_nil_of_lookups
    intro sid
    rw [hre.2 sid]
    simp only
    have hidsi : (c.w.arch i).shared.ids = [] := hnosh _ (arch_mem_archs hilt) him
    rw [(absShared_nil_iff (hi.shared _ (arch_mem_archs hilt)).1).mpr hidsi]
    rfl

theorem rowHandles_nodup {w : WM} (hok : RowsOK w) (i : Nat) : (rowHandles w i).Nodup := by
  unfold rowHandles
  rw [List.nodup_iff_pairwise_ne, List.pairwise_map]
  rw [List.pairwise_iff_getElem]
  intro a b ha hb hab heq
  have h1 : (w.arch i).rows[a]? = some (w.arch i).rows[a] := List.getElem?_eq_getElem ha
  have h2 : (w.arch i).rows[b]? = some (w.arch i).rows[b] := List.getElem?_eq_getElem hb
  exact absurd (hok.unique h1 h2 (by rw [heq])).2 (Nat.ne_of_lt hab)

theorem clearArch_post (hi : Inv c) (hb : Bounds c) (hr : Rel c s) (i : Nat) {L : List Nat}
    (hsel : ∀ o h, c.issued[o]? = some h → (o ∈ L ↔ h ∈ rowHandles c.w i)) :
    Inv ⟨(c.w.clearArch info i).1, c.issued⟩ ∧
    Rel ⟨(c.w.clearArch info i).1, c.issued⟩ { s with ents := killEnts s.ents L } := by
  obtain ⟨w, iss⟩ := c
  rcases hi.tinv with ⟨g, tinv, hiss, hpend⟩
  have hle : (tabOf w).slots.length ≤ 2^30 - 1 := Nat.le_of_lt hb.inRange
  have hvalw : ∀ h, w.isValid h = true ↔ h ∈ g.live := fun h => valid_iff_ghost tinv hle h
  have hslive : ∀ h ∈ rowHandles w i, h ∈ g.live := by
    intro h hh
    rcases List.mem_map.mp hh with ⟨r, hr, rfl⟩
    rcases List.mem_iff_getElem?.mp hr with ⟨j, hrow⟩
    exact (hvalw _).mp (hi.live.row_live i j r hrow)
  have hnw : ∀ h ∈ rowHandles w i, h.ver + 1 < 2^24 := by
    intro h hh
    have := tinv.live_issued h (hslive h hh)
    rw [hiss] at this
    exact hb.noWrap h (List.mem_reverse.mp this)
  have htinv' : TInv (tabOf (w.clearArch info i).1) (g.destroyAll (rowHandles w i)) := by
    rw [Mustache.Proofs.IdTable.clearArch_tab]
    exact Mustache.Proofs.IdTable.clearList_inv tinv _ hslive (rowHandles_nodup hi.rows i) hnw
  have hslen : (w.clearArch info i).1.slots.length = w.slots.length := by
    have := congrArg (fun t : Tab => t.slots.length) (Mustache.Proofs.IdTable.clearArch_tab info w i)
    exact this.trans (Mustache.Proofs.IdTable.clearList_length _ _)
  have hval' : ∀ h, (w.clearArch info i).1.isValid h = true ↔ (w.isValid h = true ∧ h ∉ rowHandles w i) := by
    intro h
    rw [valid_iff_ghost htinv' (by rw [hslen]; exact hle) h, Mustache.Proofs.IdTable.mem_destroyAll, hvalw h]
  rcases clearArch_spec info hi.rows i with ⟨hok', hempty, hother, hkeep⟩
  have hsame := clearArch_same info w i
  have hks := keysSame_clearArch info w i
  -- a row outside archetype `i` is untouched
  have hrow' : ∀ {h : Handle}, w.isValid h = true → h ∉ rowHandles w i → ∃ (aj j : Nat) (r : Row),
      (w.arch aj).rows[j]? = some r ∧ r.ent = h ∧ ((w.clearArch info i).1.arch aj).rows[j]? = some r ∧
      (w.clearArch info i).1.arch aj = w.arch aj ∧ (w.clearArch info i).1.locs[r.ent.id]? = some ⟨some aj, j⟩ := by
    intro h hv hh
    rcases hi.live.live_in h hv with ⟨aj, j, r, hrow, rfl⟩
    have hne : aj ≠ i := by
      rintro rfl
      exact hh (List.mem_map.mpr ⟨r, List.mem_of_getElem? hrow, rfl⟩)
    exact ⟨aj, j, r, hrow, rfl, by rw [hother aj hne]; exact hrow, hother aj hne, (hkeep aj j r hne hrow).1⟩
  have hlive' : LiveInv (w.clearArch info i).1 := by
    constructor
    · intro e he
      rcases (hval' e).mp he with ⟨hv, hnot⟩
      rcases hrow' hv hnot with ⟨aj, j, r, _, hre, hr', _, _⟩
      exact ⟨aj, j, r, hr', hre⟩
    · intro aj j r hrow
      by_cases hne : aj = i
      · subst hne
        rw [hempty] at hrow; cases hrow
      · rw [hother aj hne] at hrow
        rw [(hkeep aj j r hne hrow).2]
        exact hi.live.row_live aj j r hrow
  have habs : ∀ h, h ∉ rowHandles w i → absEnt (w.clearArch info i).1 h = absEnt w h := by
    intro h hh
    cases hv : w.isValid h with
    | false =>
      have : (w.clearArch info i).1.isValid h = false := by
        cases hv' : (w.clearArch info i).1.isValid h with
        | false => rfl
        | true => rw [((hval' h).mp hv').1] at hv; cases hv
      rw [absEnt_invalid hv, absEnt_invalid this]
    | true =>
      rcases hrow' hv hh with ⟨aj, j, r, hrow, rfl, hr', harch, hloc⟩
      rw [absEnt_of_row ((hval' _).mpr ⟨hv, hh⟩) (locOf_of_locs hloc) hr', absEnt_of_row hv (hi.rows.locOf hrow) hrow,
        harch, hsame.pool]
  exact ⟨inv_of_keepsCtl (c := ⟨w, iss⟩) hi hsame.keeps (fun _ h => h)
      ⟨g.destroyAll (rowHandles w i), htinv', by rw [Mustache.Proofs.IdTable.destroyAll_issued]; exact hiss,
        fun h => by rw [Mustache.Proofs.IdTable.destroyAll_pending]; exact hpend h⟩
      hok' (hks.keysOK hi.keys) hlive'
      (hi.pool.of_eq hsame.pool hsame.nextInst)
      (sharedPooled_of_keysSame hi.shared hks hsame.pool) (by rw [hslen, hsame.locsLen]; exact hi.locsCover),
    kill_rel (c := ⟨w, iss⟩) hi hr hsame.keeps hok' hlive' hsel hval' habs⟩

theorem killCbs_selected (s : WS) (mask : Mask) {o : Nat} (ho : o ∈ clearList s mask) :
    killCbs info s o = ((mask.filter (fun c => (info c).callbacks)).map (fun x => ((false, x, o) : SCb))) := by
  rcases (mem_clearList s mask o).mp ho with ⟨hc, _⟩
  unfold killCbs WS.doDestroy
  cases hal : s.alive o with
  | none => rw [hal] at hc; cases hc
  | some e =>
    rw [hal] at hc
    simp only [clearCond, Bool.and_eq_true, beq_iff_eq] at hc
    simp only [cbDiff_nil_right, hc.1]
    congr 1
    apply List.filter_congr
    intro x _; simp

theorem clearArch_refines (hi : Inv c) (hb : Bounds c) (hr : Rel c s)
    (mask : Mask) (hnosh : ∀ a ∈ c.w.archs, a.mask = mask → a.shared.ids = []) :
    StepRefines info c s (.clearArch mask) := by
  obtain ⟨w, iss⟩ := c
  have hs : s.step info (.clearArch mask) =
      ({ s with ents := killEnts s.ents (clearList s mask) }, .ok, (clearList s mask).flatMap (killCbs info s)) := by
    show ((s.clearArch info mask).1, Out.ok, (s.clearArch info mask).2) = _
    rw [specClear_eq, wsKill_fold info _ s [] (clearList_nodup s mask)]
    rfl
  have hw0 : w.step info (.clearArch mask) = (if w.archs.findIdx (fun a => a.mask == mask) < w.archs.length then
      ((w.clearArch info (w.archs.findIdx (fun a => a.mask == mask))).1, .ok,
        (w.clearArch info (w.archs.findIdx (fun a => a.mask == mask))).2) else (w, .noArch, [])) := rfl
  by_cases hilt : w.archs.findIdx (fun a => a.mask == mask) < w.archs.length
  · -- an archetype with this mask exists: it is cleared
    rw [if_pos hilt] at hw0
    generalize hidef : w.archs.findIdx (fun a => a.mask == mask) = i at hilt hw0
    have him : (w.arch i).mask = mask := by
      have := List.findIdx_getElem (w := by rw [hidef]; exact hilt) (p := fun a : Arch => a.mask == mask) (xs := w.archs)
      simp only [hidef, beq_iff_eq] at this
      rw [arch_def, List.getD_eq_getElem?_getD, List.getElem?_eq_getElem hilt]
      exact this
    have hsel : ∀ o h, iss[o]? = some h → (o ∈ clearList s mask ↔ h ∈ rowHandles w i) :=
      fun o h ho => clear_select (c := ⟨w, iss⟩) hi hr hilt him hnosh ho
    have hpost := clearArch_post info (c := ⟨w, iss⟩) hi hb hr i hsel
    refine StepRefines.intro info hw0 hs hpost.1 hpost.2 ⟨trivial, ?_⟩
    -- callbacks: every row handle has an ordinal, and these are the selected ones
    show cbsAgree iss _ _
    unfold cbsAgree
    rw [clearArch_cbs, him]
    have hord : ∀ r ∈ (w.arch i).rows, ∃ o, ordOf iss r.ent = some o ∧ o ∈ clearList s mask := by
      intro r hr'
      rcases List.mem_iff_getElem?.mp hr' with ⟨j, hrow⟩
      have hmem := valid_issued (c := ⟨w, iss⟩) hi hb (hi.live.row_live i j r hrow)
      cases ho : ordOf iss r.ent with
      | none => exact absurd hmem ((ordOf_none_iff _ _).mp ho)
      | some o => exact ⟨o, rfl, (hsel o r.ent (ordOf_some ho)).mpr (List.mem_map.mpr ⟨r, hr', rfl⟩)⟩
    have hL : ((w.arch i).rows.map (fun r => (ordOf iss r.ent).getD 0)).Perm (clearList s mask) := by
      rw [List.perm_ext_iff_of_nodup _ (clearList_nodup s mask)]
      · intro o
        constructor
        · intro ho
          rcases List.mem_map.mp ho with ⟨r, hr', rfl⟩
          rcases hord r hr' with ⟨o, h1, h2⟩
          rw [h1]; exact h2
        · intro ho
          rcases (mem_clearList s mask o).mp ho with ⟨_, holt⟩
          have holt' : o < iss.length := by rw [← hr.len]; exact holt
          have hio : iss[o]? = some iss[o] := List.getElem?_eq_getElem holt'
          rcases List.mem_map.mp ((hsel o _ hio).mp ho) with ⟨r, hr', hre⟩
          refine List.mem_map.mpr ⟨r, hr', ?_⟩
          rw [hre, ordOf_unique (issued_nodup (c := ⟨w, iss⟩) hi) hio]; rfl
      · -- distinct rows have distinct ordinals
        have hnd := rowHandles_nodup hi.rows i (w := w)
        unfold rowHandles at hnd
        rw [List.nodup_iff_pairwise_ne, List.pairwise_map] at hnd ⊢
        refine hnd.imp_of_mem ?_
        intro a b ha hb' hab heq
        rcases hord a ha with ⟨oa, h1, _⟩
        rcases hord b hb' with ⟨ob, h2, _⟩
        rw [h1, h2] at heq
        simp only [Option.getD_some] at heq
        have e1 := ordOf_some h1
        rw [heq, ordOf_some h2] at e1
        exact hab (Option.some.inj e1).symm
    have hmodel : ((w.arch i).rows.flatMap (fun r => (mask.filter (fun c => (info c).callbacks)).map (Cb.remove · r.ent))).map
          (cbAbs iss) =
        (((w.arch i).rows.map (fun r => (ordOf iss r.ent).getD 0)).flatMap
          (fun o => (mask.filter (fun c => (info c).callbacks)).map (fun x => ((false, x, o) : SCb)))).map some := by
      rw [List.map_flatMap, List.flatMap_map, List.map_flatMap]
      apply flatMap_congr'
      intro r hr'
      rcases hord r hr' with ⟨o, h1, _⟩
      rw [cbAbs_remove_map h1, h1]; rfl
    rw [hmodel, flatMap_congr' (fun o ho => killCbs_selected info s mask ho)]
    exact (List.Perm.flatMap_right _ hL).map _
  · -- no archetype with this mask: nothing is selected
    rw [if_neg hilt] at hw0
    have hnil : clearList s mask = [] := by
      apply List.eq_nil_iff_forall_not_mem.mpr
      intro o ho
      rcases (mem_clearList s mask o).mp ho with ⟨hc, holt⟩
      have holt' : o < iss.length := by rw [← hr.len]; exact holt
      have hio : iss[o]? = some iss[o] := List.getElem?_eq_getElem holt'
      have hrel := hr.ents o _ hio
      cases hal : s.alive o with
      | none => rw [hal] at hc; cases hc
      | some e =>
        rw [hal] at hc hrel
        simp only [clearCond, Bool.and_eq_true, beq_iff_eq] at hc
        cases hv : w.isValid iss[o] with
        | false => rw [show (⟨w, iss⟩ : CW).w = w from rfl, absEnt_invalid hv] at hrel; cases hrel
        | true =>
          rcases absEnt_isSome_of_valid hi.live hi.rows hv with ⟨ai, j, r, hrow, _, _, habs⟩
          rw [show (⟨w, iss⟩ : CW).w = w from rfl, habs] at hrel
          have hcs : compSet e = (w.arch ai).mask := compSet_of_rel hrel.1 (hi.rows.vals ai j r hrow)
          apply hilt
          apply List.findIdx_lt_length_of_exists
          exact ⟨w.arch ai, arch_mem_archs (lt_of_row hrow), by simp only [beq_iff_eq]; exact hcs.symm.trans hc.1⟩
    rw [hnil] at hs
    exact noop_refines (out := .noArch) (sout := .ok) info hi hr rfl hw0 hs rfl trivial

end Mustache.Proofs.Refine
