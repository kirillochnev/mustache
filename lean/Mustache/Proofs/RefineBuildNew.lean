import Mustache.Proofs.RefineBuild
import Mustache.Proofs.RefineCreate
/-!
# Refinement: builder creation of a new entity, unlocked
-/
namespace Mustache.Proofs.Refine
open Mustache.Model Mustache.Spec
open Mustache.Proofs.IdTable (tabOf Ghost TInv)
open Mustache.Proofs.Rows

variable (info : CompId → CompInfo)

/-- `buildNewU`, both branches in one formula (`skip` = the builder's mask, empty when there are no arguments) -/
theorem buildNewU_form (w : WM) (adds : List (CompId × Option Nat)) :
    let M := Mask.ofList (adds.map (·.1))
    let G := (w.allocId).1.getArch M Shared.null
    let I := G.1.archInsert info G.2 (w.allocId).2 M
    let L := builderLoop info G.2 (I.1.locOf (w.allocId).2).idx (w.allocId).2 adds (I.1, [])
    w.buildNewU info adds = (L.1, (w.allocId).2, I.2 ++ L.2) := by
  cases adds with
  | nil => simp [WM.buildNewU, builderLoop, Mask.ofList]
  | cons p rest =>
    unfold WM.buildNewU
    simp only [List.isEmpty_cons, Bool.false_eq_true, if_false]
    rfl

theorem buildNew_rebuildEntry (adds : List (CompId × Option Nat)) (x : CompId) :
    rebuildEntry info [] (adds.map (fun p => (p.1, storedVal info p.1 p.2))) x =
      (x, match adds.find? (·.1 == x) with
          | some p => storedVal info p.1 p.2
          | none => defaultVal info x) := by
  unfold rebuildEntry
  rw [List.find?_nil, given_find]
  cases hf : adds.find? (·.1 == x) with
  | none => rfl
  | some p =>
    have : p.1 = x := by simpa using List.find?_some hf
    simp [this]

theorem buildNew_unlocked_refines {c : CW} {s : WS} (hi : Inv c) (hb : Bounds c) (hr : Rel c s)
    (hl : c.w.isLocked = false) (t : Nat) (adds : List (CompId × Option Nat)) (han : addsOk adds)
    (hb' : Bounds (c.step info (.buildNew t adds)).1) : StepRefines info c s (.buildNew t adds) := by
  obtain ⟨w, iss⟩ := c
  have hw0 : w.step info (.buildNew t adds) =
      ((w.buildNewU info adds).1, .created (w.buildNewU info adds).2.1, (w.buildNewU info adds).2.2) := by
    show (if w.isLocked = true then _ else _) = _
    rw [if_neg (by simp [hl])]
    rfl
  have ha : AllocOK w := allocOK_of_inv (c := ⟨w, iss⟩) hi hb
  have hform : _ := buildNewU_form info w adds
  dsimp only at hform
  have hs1 : Step w (w.allocId).1 (w.allocId).2.id := allocId_step hi.rows ha.fresh
  have hAdeps : (w.allocId).1.deps = w.deps := (allocId_ctl w).deps
  have hvalA : (w.allocId).1.isValid (w.allocId).2 = true := allocId_valid w ha.notNull
  have hfreshA : NotInRow (w.allocId).1 (w.allocId).2.id := allocId_notInRow ha.fresh
  have htabA := Mustache.Proofs.IdTable.allocId_tab w
  have hcovA := allocId_cover hi.locsCover
  have hinR := ha.inRange
  have hnn := ha.notNull
  have hfresh := ha.fresh
  have hctlA := allocId_ctl w
  have hmkA := allocId_marked w
  have harchsA := allocId_archs w
  generalize hMdef : Mask.ofList (adds.map (·.1)) = M at *
  have hMok : MaskOk M := by rw [← hMdef]; exact Mask.sorted_ofList _
  generalize hAdef : (w.allocId).1 = A at *
  generalize hhdef : (w.allocId).2 = h at *
  have hkeyG := getArch_key A M Shared.null
  have hGst := getArch_sameTable A M Shared.null
  have hokG := rowsOK_getArch hs1.ok M Shared.null
  have hailt := getArch_idx_lt A M Shared.null
  have hGlocs := Mustache.Proofs.Rows.getArch_locs A M Shared.null
  have hGfresh := getArch_notInRow M Shared.null hfreshA
  have hGstep := getArch_step hs1.ok M Shared.null h.id (fun _ => hMok)
  have hGkeys : AllKeys (fun _ x => SharedIn w.pool x) (A.getArch M Shared.null).1 := by
    have hA1 : AllKeys (fun _ x => SharedIn w.pool x) A := by
      intro a ha'; rw [harchsA] at ha'; exact hi.shared a ha'
    exact AllKeys.getArch hA1 M Shared.null (sharedIn_null _)
  generalize hGdef : (A.getArch M Shared.null).1 = G at *
  generalize haidef : (A.getArch M Shared.null).2 = ai at *
  generalize htmdef : closedMask w.deps M = tm at *
  have hGmask : (G.arch ai).mask = tm := by rw [hkeyG.1, hAdeps, htmdef]
  have htmok : MaskOk tm := by rw [← htmdef]; exact maskOk_closedMask w.deps hMok
  -- the inserted row and the `initComponent` loop
  have hins := archInsert_form info G ai h M
  rw [hGmask] at hins
  rw [hins] at hform
  have hvG : G.isValid h = true := (hGst.isValid h).trans hvalA
  have hmv0 : Moved G (insertRow G ai h (insVals info tm M)) h ai (insVals info tm M) :=
    insertRow_moved hokG ai h _ hailt hnn (by rw [hGlocs]; exact hinR) hGfresh (by rw [insVals_length, hGmask])
  have hmask0 : ((insertRow G ai h (insVals info tm M)).arch ai).mask = tm := by
    rw [(insertRow_mask G ai ai h _).1]; exact hGmask
  have hloop := builderLoop_explicit info (w := G) tm adds _ _ [] hmv0 hmask0
  generalize hw3def : (builderLoop info ai ((insertRow G ai h (insVals info tm M)).locOf h).idx h adds
    (insertRow G ai h (insVals info tm M), [])).1 = w3 at hloop hform
  have hmv := hloop.1
  have howns := hmv.owns hvG
  have hstep : Step w w3 h.id := hs1.trans (hGstep.trans hmv.step)
  have htab1 : tabOf w3 = ((tabOf w).alloc).1 := (SameTable.tab hmv.same).trans ((SameTable.tab hGst).trans htabA.1)
  have hctl : SameCtl w w3 := hctlA.trans (hGst.ctl.trans hmv.same.ctl)
  have hmk : w3.marked = w.marked := hmv.same.marked.trans (hGst.marked.trans hmkA)
  have hcov : w3.slots.length ≤ w3.locs.length := by
    rw [hmv.same.slots, hGst.slots]
    refine Nat.le_trans hcovA ?_
    rw [← hGlocs]; exact hmv.step.llen
  have hks : KeysSame G w3 := (insertRow_keysSame G ai h _).trans hloop.2.2
  have hsh' : SharedPooled w3 := sharedPooled_of_keysSame hGkeys hks hctl.pool
  have hcbs2 := hloop.2.1
  simp only [List.nil_append] at hcbs2
  have hstepeq : w.step info (.buildNew t adds) = (w3, .created h, insCbs info tm M h ++ addsCbs info tm h adds) := by
    rw [hw0, hform, hcbs2]
  have hb' : Bounds ⟨w3, iss ++ [h]⟩ := by
    rw [CW.step_fst, hstepeq] at hb'
    exact hb'
  have hmask3 : (w3.arch ai).mask = tm := by rw [(hks.key ai).1]; exact hGmask
  have hsh3 : absShared w3.pool (w3.arch ai).shared = [] := by
    have hlt3 : ai < w3.archs.length := by rw [hks.alen]; exact hailt
    have hin := hsh' _ (arch_mem_archs hlt3)
    rw [absShared_nil_iff hin.1]
    have hd : (w3.arch ai).shared.data = [] := by rw [(hks.key ai).2, hkeyG.2]; rfl
    have := hin.1.1
    rw [hd] at this
    exact List.length_eq_zero_iff.mp this
  have hset : closed s.deps M = tm := by rw [hr.deps, ← htmdef]; rfl
  have hx : optRel (some ⟨rebuild info [] tm (adds.map (fun p => (p.1, storedVal info p.1 p.2))), []⟩) (absEnt w3 h) := by
    rw [owns_absEnt howns, hmask3, hsh3]
    refine ⟨?_, fun _ => rfl⟩
    show rebuild info [] tm _ = _
    symm
    apply zip_eq_rebuild info (maskOk_nodup htmok) (by rw [addsVals_length, insVals_length])
    intro x hx
    rw [buildNew_rebuildEntry, addsVals_get info tm adds han _ (insVals_length info tm M) x hx]
    refine congrArg (Prod.mk x) ?_
    cases hf : adds.find? (·.1 == x) with
    | some p => rfl
    | none =>
      simp only
      rw [insVals_get info tm M x hx]
      rw [← hMdef, mem_ofList]
      exact find?_fst_eq_none.mp hf
  have hborn := born_refines hi hr hl htab1 htabA.2 hstep howns hfresh hsh' hctl hmk hcov hb' _ hx
  have hs : s.step info (.buildNew t adds) =
      ({ s with ents := s.ents ++ [some ⟨rebuild info [] tm (adds.map (fun p => (p.1, storedVal info p.1 p.2))), []⟩] },
        .created s.ents.length, cbDiff info s.ents.length [] tm) := by
    show (if s.lockDepth > 0 then _ else _) = _
    rw [if_neg (unlocked_spec hr hl)]
    simp only [hMdef, hset]
  refine StepRefines.intro info hstepeq hs hborn.1 hborn.2 ⟨⟨?_, ?_⟩, ?_⟩
  · rw [hr.len]; exact ordOf_snoc_self iss h
  · rw [hr.len]; simp [issueOut]
  · show cbsAgree (iss ++ [h]) _ _
    have hord : ordOf (iss ++ [h]) h = some s.ents.length := by rw [hr.len]; exact ordOf_snoc_self iss h
    unfold cbsAgree
    rw [insCbs_eq, addsCbs_eq, ← List.map_append, cbAbs_assign_map hord, cbDiff_nil_left]
    apply List.Perm.map
    apply List.Perm.map
    have hp := build_cb_list info [] tm adds (maskOk_nodup htmok) han (fun _ _ h => by cases h)
    have e1 : tm.filter (fun c => !([] : Mask).contains c && (info c).callbacks && !(Mask.ofList (adds.map (·.1))).contains c) =
        tm.filter (fun c => (info c).callbacks && !M.contains c) := by
      rw [hMdef]
      apply List.filter_congr
      intro c _; simp
    rw [e1] at hp
    exact hp

end Mustache.Proofs.Refine
