import Mustache.Model.Systems
/-!
Calls on one system (`Run.call`): effect on states, on the per-object traces, and preservation of the
correspondence "state of the object ↔ last callback it saw" together with legality of every trace.
-/
namespace Mustache.Systems

theorem traceOf_append (u : Nat) (a b : List Ev) : traceOf u (a ++ b) = traceOf u a ++ traceOf u b := by
  simp [traceOf, List.filter_append]

theorem traceOf_mk_self (u : Nat) (cbs : List Cb) : traceOf u (cbs.map (Ev.mk u)) = cbs := by
  simp only [traceOf, List.filter_map, Function.comp_def, BEq.rfl, List.map_map, List.map_id_fun', id_eq,
    List.filter_eq_self, implies_true]

theorem traceOf_mk_other {u v : Nat} (h : v ≠ u) (cbs : List Cb) : traceOf v (cbs.map (Ev.mk u)) = [] := by
  simp only [traceOf, List.filter_map, Function.comp_def, List.map_map, List.map_id_fun', id_eq,
    List.filter_eq_nil_iff, beq_iff_eq, Ne.symm h, not_false_eq_true, implies_true]

theorem legalFrom_append (l : Option Cb) (a b : List Cb) :
    legalFrom l (a ++ b) = (legalFrom l a && legalFrom (lastCb l a) b) := by
  induction a generalizing l with
  | nil => simp [legalFrom, lastCb]
  | cons c cs ih => simp [legalFrom, lastCb, ih, Bool.and_assoc]

theorem lastCb_append (l : Option Cb) (a b : List Cb) : lastCb l (a ++ b) = lastCb (lastCb l a) b := by
  induction a generalizing l with
  | nil => rfl
  | cons c cs ih => simp [lastCb, ih]

/-- the state an object is in, given the last callback it saw -/
def corrB : St → Option Cb → Bool
  | .uninit, none => true
  | .uninit, some .destroy => true
  | .inited, some .create => true
  | .configured, some .configure => true
  | .active, some .start => true
  | .active, some .update => true
  | .active, some .resume => true
  | .paused, some .pause => true
  | .stopped, some .stop => true
  | _, _ => false

/-- Every guarded transition of `ASystem` emits callbacks that are legal after the last one, and ends in
the state matching its last callback. `destroy` has no guard: it is legal unless the object is `uninit`. -/
theorem apply_legal (t : Tr) (s : St) (l : Option Cb) (s' : St) (cbs : List Cb)
    (h : s.apply t = some (s', cbs)) (hc : corrB s l = true) (hsafe : t = .destroy → s ≠ .uninit)
    (hfresh : t = .create → l = none) :
    legalFrom l cbs = true ∧ corrB s' (lastCb l cbs) = true := by
  -- The table of `St.apply` against the table `allowedNext`. `hc` leaves nine pairs `(s, l)`; for each,
  -- `h` leaves the transitions whose guard admits `s`, with `s'` and `cbs` literals, and the claim computes.
  cases s <;> rcases l with _ | (_ | _ | _ | _ | _ | _ | _ | _) <;> cases hc
  all_goals cases t <;> cases h
  all_goals first | exact ⟨rfl, rfl⟩ | cases hfresh rfl | exact absurd rfl (hsafe rfl)

def St.started : St → Bool
  | .active | .paused | .stopped => true
  | _ => false

theorem apply_state {t : Tr} {s s' : St} {cbs : List Cb} (h : s.apply t = some (s', cbs)) :
    (t ≠ .destroy → s' ≠ .uninit) ∧ (s'.started = true → s.started = true ∨ t = .start) := by
  unfold St.apply at h
  split at h <;> cases h <;> simp [St.started]

theorem stateOf_nil (u : Nat) : stateOf [] u = none := rfl

theorem stateOf_cons (s : SysInfo) (ss : List SysInfo) (u : Nat) :
    stateOf (s :: ss) u = if s.uid = u then some s.st else stateOf ss u := by
  unfold stateOf
  rw [List.find?_cons]
  by_cases h : s.uid = u
  · simp [h]
  · have : (s.uid == u) = false := by simpa using h
    simp [this, h]

theorem stateOf_eq_none_iff {ss : List SysInfo} {u : Nat} :
    stateOf ss u = none ↔ u ∉ ss.map (·.uid) := by
  simp only [stateOf, Option.map_eq_none_iff, List.find?_eq_none, beq_iff_eq, List.mem_map, not_exists,
    not_and]

theorem stateOf_of_mem {ss : List SysInfo} (hnd : (ss.map (·.uid)).Nodup) {s : SysInfo} (hs : s ∈ ss) :
    stateOf ss s.uid = some s.st := by
  induction ss with
  | nil => cases hs
  | cons x xs ih =>
    rw [stateOf_cons]
    rw [List.map_cons, List.nodup_cons] at hnd
    rcases List.mem_cons.mp hs with rfl | hs'
    · rw [if_pos rfl]
    · rw [if_neg (fun e : x.uid = s.uid => hnd.1 (e ▸ List.mem_map_of_mem (f := (·.uid)) hs')), ih hnd.2 hs']

theorem stateOf_some_mem {ss : List SysInfo} {u : Nat} {st : St} (h : stateOf ss u = some st) :
    ∃ s ∈ ss, s.uid = u ∧ s.st = st := by
  obtain ⟨s, hs, rfl⟩ := Option.map_eq_some_iff.mp h
  exact ⟨s, List.mem_of_find?_eq_some hs, by simpa using List.find?_some hs, rfl⟩

theorem mem_uids_of_stateOf {ss : List SysInfo} {u : Nat} {st : St} (h : stateOf ss u = some st) :
    u ∈ ss.map (·.uid) := by
  obtain ⟨s, hs, rfl, _⟩ := stateOf_some_mem h
  exact List.mem_map_of_mem hs

theorem stateOf_append (a b : List SysInfo) (u : Nat) :
    stateOf (a ++ b) u = (stateOf a u).or (stateOf b u) := by
  rw [stateOf, List.find?_append, Option.map_or]
  rfl

theorem stateOf_append_fresh {ss : List SysInfo} {s : SysInfo} (hf : stateOf ss s.uid = none) (v : Nat) :
    stateOf (ss ++ [s]) v = if v = s.uid then some s.st else stateOf ss v := by
  rw [stateOf_append, stateOf_cons, stateOf_nil]
  split
  · rename_i h
    rw [if_pos h.symm, ← h, hf]
    rfl
  · rename_i h
    rw [if_neg (fun e => h e.symm), Option.or_none]

theorem stateOf_filter_ne (ss : List SysInfo) (u v : Nat) :
    stateOf (ss.filter (fun s => decide (s.uid ≠ u))) v = if v = u then none else stateOf ss v := by
  by_cases hv : v = u
  · rw [if_pos hv, stateOf_eq_none_iff]
    intro h
    obtain ⟨s, hs, rfl⟩ := List.mem_map.mp h
    exact of_decide_eq_true (List.mem_filter.mp hs).2 hv
  · rw [if_neg hv]
    induction ss with
    | nil => rfl
    | cons x xs ih =>
      rw [List.filter_cons, stateOf_cons]
      by_cases hx : x.uid = u
      · rw [if_neg (fun h => absurd hx (of_decide_eq_true h)), ih, if_neg (fun e : x.uid = v => hv (e ▸ hx))]
      · rw [if_pos (decide_eq_true hx), stateOf_cons, ih]

theorem applyAt_absent {u : Nat} {t : Tr} {ss : List SysInfo} (h : stateOf ss u = none) :
    applyAt u t ss = some (ss, []) := by
  induction ss with
  | nil => rfl
  | cons x xs ih =>
    rw [stateOf_cons] at h
    split at h
    · cases h
    · rename_i hx
      rw [applyAt, if_neg hx, ih h]

theorem applyAt_fail {u : Nat} {t : Tr} {ss : List SysInfo} {s : St} (hs : stateOf ss u = some s)
    (ha : s.apply t = none) : applyAt u t ss = none := by
  induction ss with
  | nil => cases hs
  | cons x xs ih =>
    rw [stateOf_cons] at hs
    split at hs
    · rename_i hx
      cases hs
      rw [applyAt, if_pos hx, ha]
    · rename_i hx
      rw [applyAt, if_neg hx, ih hs]

theorem applyAt_some {u : Nat} {t : Tr} {ss : List SysInfo} {s s' : St} {cbs : List Cb}
    (hs : stateOf ss u = some s) (ha : s.apply t = some (s', cbs)) :
    ∃ ss', applyAt u t ss = some (ss', cbs.map (Ev.mk u)) ∧ stateOf ss' u = some s' ∧
      ∀ v, v ≠ u → stateOf ss' v = stateOf ss v := by
  induction ss with
  | nil => cases hs
  | cons x xs ih =>
    rw [stateOf_cons] at hs
    split at hs
    · rename_i hx
      cases hs
      rw [applyAt, if_pos hx, ha]
      refine ⟨_, rfl, ?_⟩
      -- the new entry differs from `x` in `st` (and `config`) only
      generalize hx' : (if t = .configure then _ else _ : SysInfo) = x'
      have h1 : x'.uid = x.uid := by rw [← hx']; split <;> rfl
      have h2 : x'.st = s' := by rw [← hx']; split <;> rfl
      refine ⟨by rw [stateOf_cons, h1, if_pos hx, h2], fun v hv => ?_⟩
      rw [stateOf_cons, stateOf_cons, h1, if_neg (fun e => hv (e.symm.trans hx)),
        if_neg (fun e => hv (e.symm.trans hx))]
    · rename_i hx
      obtain ⟨ss', h1, h2, h3⟩ := ih hs
      exact ⟨x :: ss', by rw [applyAt, if_neg hx, h1], by rw [stateOf_cons, if_neg hx, h2],
        fun v hv => by rw [stateOf_cons, stateOf_cons, h3 v hv]⟩

/-- `applyAt` writes `st`, and `config` when it configures: what reads neither is unchanged -/
theorem applyAt_frame {β : Type} {f : SysInfo → β} {u : Nat} {t : Tr}
    (hst : ∀ x st, f { x with st := st } = f x)
    (hcfg : t = .configure → ∀ x c, f { x with config := c } = f x)
    {ss ss' : List SysInfo} {evs : List Ev} (h : applyAt u t ss = some (ss', evs)) :
      ss'.map f = ss.map f := by
  fun_induction applyAt u t ss generalizing ss' evs <;> cases h
  case case1 => rfl
  case case3 x rest _ st' cbs _ x' =>
    rw [List.map_cons, List.map_cons]
    congr 1
    by_cases ht : t = .configure
    · exact (congrArg f (if_pos ht)).trans ((hst { x with config := x.decl } _).trans (hcfg ht x _))
    · exact (congrArg f (if_neg ht)).trans (hst x _)
  case case5 hr ih => rw [List.map_cons, ih hr, List.map_cons]

/-- effect of one call that does not throw -/
structure CallEffect (r r' : Run) (u : Nat) (s s' : St) (cbs : List Cb) : Prop where
  ok : r'.ok = true
  evs : r'.evs = r.evs ++ cbs.map (Ev.mk u)
  same : stateOf r'.ss u = some s'
  other : ∀ v, v ≠ u → stateOf r'.ss v = stateOf r.ss v

theorem call_effect {r : Run} (hok : r.ok = true) {u : Nat} {t : Tr} {s s' : St} {cbs : List Cb}
    (hs : stateOf r.ss u = some s) (ha : s.apply t = some (s', cbs)) :
    CallEffect r (r.call u t) u s s' cbs := by
  obtain ⟨ss', h1, h2, h3⟩ := applyAt_some hs ha
  rw [Run.call, hok, h1]
  exact ⟨rfl, rfl, h2, h3⟩

/-- A call leaves systems and events as they are (an exception is propagating, the object is not
registered, or its guard throws), or it is a transition of the addressed object. -/
theorem call_cases (r : Run) (u : Nat) (t : Tr) :
    ((r.call u t).ss = r.ss ∧ (r.call u t).evs = r.evs) ∨
    ∃ s s' cbs, stateOf r.ss u = some s ∧ s.apply t = some (s', cbs) ∧
      CallEffect r (r.call u t) u s s' cbs := by
  cases hok : r.ok with
  | false => left; rw [Run.call, hok]; exact ⟨rfl, rfl⟩
  | true =>
    cases hs : stateOf r.ss u with
    | none => left; rw [Run.call, hok, applyAt_absent hs]; exact ⟨rfl, List.append_nil _⟩
    | some s =>
      cases ha : s.apply t with
      | none => left; rw [Run.call, hok, applyAt_fail hs ha]; exact ⟨rfl, rfl⟩
      | some p => exact Or.inr ⟨s, p.1, p.2, rfl, ha, call_effect hok hs ha⟩

theorem call_other (r : Run) (u : Nat) (t : Tr) {v : Nat} (hv : v ≠ u) :
    stateOf (r.call u t).ss v = stateOf r.ss v := by
  rcases call_cases r u t with h | ⟨_, _, _, _, _, h⟩
  · rw [h.1]
  · exact h.other v hv

theorem call_frame {β : Type} {f : SysInfo → β} (r : Run) (u : Nat) {t : Tr}
    (hst : ∀ x st, f { x with st := st } = f x)
    (hcfg : t = .configure → ∀ x c, f { x with config := c } = f x) :
    (r.call u t).ss.map f = r.ss.map f := by
  unfold Run.call
  split
  · rfl
  · split
    · rfl
    · rename_i h
      exact applyAt_frame hst hcfg h

theorem call_uids (r : Run) (u : Nat) (t : Tr) : (r.call u t).ss.map (·.uid) = r.ss.map (·.uid) :=
  call_frame r u (fun _ _ => rfl) (fun _ _ _ => rfl)

theorem call_names (r : Run) (u : Nat) (t : Tr) : (r.call u t).ss.map (·.name) = r.ss.map (·.name) :=
  call_frame r u (fun _ _ => rfl) (fun _ _ _ => rfl)

theorem call_nodes (g : List (Nat × Int)) (r : Run) (u : Nat) {t : Tr} (ht : t ≠ .configure) :
    (r.call u t).ss.map (toNode g) = r.ss.map (toNode g) :=
  call_frame r u (fun _ _ => rfl) (fun e => absurd e ht)

/-- every object's trace is legal and every registered object is in the state its last callback implies -/
structure Good (tr : List Ev) (ss : List SysInfo) : Prop where
  legal : ∀ u, legalFrom none (traceOf u tr) = true
  corr : ∀ u s, stateOf ss u = some s → corrB s (lastCb none (traceOf u tr)) = true

theorem call_good {tr0 : List Ev} {r : Run} (hg : Good (tr0 ++ r.evs) r.ss) (u : Nat) (t : Tr)
    (hsafe : t = .destroy → stateOf r.ss u ≠ some .uninit)
    (hfresh : t = .create → traceOf u (tr0 ++ r.evs) = []) :
    Good (tr0 ++ (r.call u t).evs) (r.call u t).ss := by
  rcases call_cases r u t with h | ⟨s, s', cbs, hs, ha, h⟩
  · rw [h.1, h.2]; exact hg
  · have hl := apply_legal t s _ s' cbs ha (hg.corr u s hs)
      (fun e hu => hsafe e (by rw [hs, hu])) (fun e => by rw [hfresh e]; rfl)
    rw [h.evs, ← List.append_assoc]
    constructor
    · intro v
      rw [traceOf_append, legalFrom_append, hg.legal v]
      by_cases hv : v = u
      · subst hv; rw [traceOf_mk_self]; simpa using hl.1
      · rw [traceOf_mk_other hv]; rfl
    · intro v sv hsv
      rw [traceOf_append, lastCb_append]
      by_cases hv : v = u
      · subst hv
        rw [traceOf_mk_self]
        rw [h.same] at hsv
        cases hsv
        exact hl.2
      · rw [traceOf_mk_other hv]
        rw [h.other v hv] at hsv
        exact hg.corr v sv hsv

end Mustache.Systems
