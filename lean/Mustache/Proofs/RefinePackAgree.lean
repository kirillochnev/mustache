import Mustache.Proofs.RefinePackFinish
/-!
# Refinement, the flush: the callbacks of one pack agree in their net effect

The model fires the callbacks of a pack at its end: those of the single move (`moveEvs`), then those of the two value
loops (`loopEvs`). Counted per component they take the component set from `base` to `final` like the spec's events
(`CbBal`) and hold no remove the spec's lack: that is `NetAgree` (`CbBal.netAgree`). `PInv.finish` puts row and callbacks
of a pack whose entity is alive at the end together.
-/
namespace Mustache.Proofs.Refine
open Mustache.Model Mustache.Spec
open Mustache.Proofs.Rows

variable (info : CompId → CompInfo)

theorem count_flatMap_key (f : CompId → List SCb) (hf : ∀ a, ∀ t ∈ f a, t.2.1 = a) (t : SCb) :
    ∀ (l : List CompId), l.Nodup → (l.flatMap f).count t = if t.2.1 ∈ l then (f t.2.1).count t else 0
  | [], _ => rfl
  | a :: r, hn => by
    have hn' : a ∉ r ∧ r.Nodup := List.nodup_cons.mp hn
    rw [List.flatMap_cons, List.count_append, count_flatMap_key f hf t r hn'.2]
    by_cases h : t.2.1 = a
    · rw [if_neg (h ▸ hn'.1), if_pos (List.mem_cons.mpr (Or.inl h)), h]; rfl
    · have h0 : (f a).count t = 0 := List.count_eq_zero_of_not_mem (fun hm => h (hf a t hm))
      have hm : t.2.1 ∈ a :: r ↔ t.2.1 ∈ r := by rw [List.mem_cons]; exact ⟨fun h' => h'.resolve_left h, Or.inr⟩
      rw [h0, Nat.zero_add]
      simp only [hm]

theorem packStale_nodup (isCreate : Bool) (initial : Mask) (p : PackSt) (supplied tm : Mask) (hn : p.final.Nodup) :
    (packStale isCreate initial p supplied tm).Nodup :=
  (hn.sublist List.filter_sublist).sublist List.filter_sublist

/-- the events of the move into the archetype with mask `tm`, from component set `base`, the components in `sup`
being constructed later from supplied values -/
def moveEvs (k : Nat) (tm base sup : Mask) : List SCb :=
  (tm.filter (fun c => !base.contains c && (info c).callbacks && !sup.contains c)).map (fun x => ((true, x, k) : SCb)) ++
  (base.filter (fun c => (info c).callbacks && !tm.contains c)).map (fun x => ((false, x, k) : SCb))

/-- the events of one stale component: its instance is destroyed, and default-constructed again unless a value
was supplied -/
def staleEvs (k : Nat) (sup : Mask) (c : CompId) : List SCb :=
  if (info c).callbacks then ((false, c, k) : SCb) :: (if sup.contains c then [] else [((true, c, k) : SCb)]) else []

def srcEvs (k : Nat) (c : CompId) : List SCb := if (info c).callbacks then [((true, c, k) : SCb)] else []

def loopEvs (k : Nat) (tm : Mask) (isCreate : Bool) (initial : Mask) (p : PackSt) : List SCb :=
  (packStale isCreate initial p (Mask.ofList (p.src.map (·.1))) tm).flatMap (staleEvs info k (Mask.ofList (p.src.map (·.1)))) ++
    (p.src.map (·.1)).flatMap (srcEvs info k)

theorem moveEvs_self (k : Nat) (m sup : Mask) : moveEvs info k m m sup = [] := by
  have h1 : m.filter (fun c => !m.contains c && (info c).callbacks && !sup.contains c) = [] :=
    List.filter_eq_nil_iff.mpr fun x hx => by simp [hx]
  have h2 : m.filter (fun c => (info c).callbacks && !m.contains c) = [] :=
    List.filter_eq_nil_iff.mpr fun x hx => by simp [hx]
  unfold moveEvs
  rw [h1, h2]
  rfl

theorem loopCbs_abs {iss : List Handle} {e : Handle} {k : Nat} (hord : ordOf iss e = some k) (tm : Mask) (isCreate : Bool)
    (initial : Mask) (p : PackSt) :
    (loopCbs info tm e isCreate initial p).map (cbAbs iss) = (loopEvs info k tm isCreate initial p).map some := by
  unfold loopCbs loopEvs
  rw [List.flatMap_map, List.map_append, List.map_append, List.map_flatMap, List.map_flatMap, List.map_flatMap,
    List.map_flatMap]
  congr 1
  · apply flatMap_congr'
    intro c _
    unfold staleCbs staleEvs
    cases (info c).callbacks <;> cases (Mask.ofList (p.src.map (·.1))).contains c <;> simp [cbAbs, hord]
  · apply flatMap_congr'
    intro cv _
    unfold srcEvs
    cases (info cv.1).callbacks <;> simp [cbAbs, hord]

theorem mem_moveEvs {k : Nat} {tm base sup : Mask} {t : SCb} (h : t ∈ moveEvs info k tm base sup) :
    t.2.2 = k ∧ (info t.2.1).callbacks = true := by
  unfold moveEvs at h
  simp only [List.mem_append, List.mem_map, List.mem_filter, Bool.and_eq_true] at h
  rcases h with ⟨c, hc, rfl⟩ | ⟨c, hc, rfl⟩
  · exact ⟨rfl, hc.2.1.2⟩
  · exact ⟨rfl, hc.2.1⟩

theorem mem_staleEvs {k : Nat} {sup : Mask} {c : CompId} {t : SCb} (h : t ∈ staleEvs info k sup c) :
    t.2.1 = c ∧ t.2.2 = k ∧ (info c).callbacks = true := by
  unfold staleEvs at h
  split at h
  · rename_i hcb
    rcases List.mem_cons.mp h with rfl | h
    · exact ⟨rfl, rfl, hcb⟩
    · split at h
      · cases h
      · exact List.mem_singleton.mp h ▸ ⟨rfl, rfl, hcb⟩
  · cases h

theorem mem_srcEvs {k : Nat} {c : CompId} {t : SCb} (h : t ∈ srcEvs info k c) :
    t.2.1 = c ∧ t.2.2 = k ∧ (info c).callbacks = true := by
  unfold srcEvs at h
  split at h
  · rename_i hcb
    exact List.mem_singleton.mp h ▸ ⟨rfl, rfl, hcb⟩
  · cases h

theorem mem_loopEvs {k : Nat} {tm : Mask} {isCreate : Bool} {initial : Mask} {p : PackSt} {t : SCb}
    (h : t ∈ loopEvs info k tm isCreate initial p) : t.2.2 = k ∧ (info t.2.1).callbacks = true := by
  rcases List.mem_append.mp h with h | h <;> obtain ⟨c, _, hc⟩ := List.mem_flatMap.mp h
  · obtain ⟨h1, h2, h3⟩ := mem_staleEvs info hc
    exact ⟨h2, h1 ▸ h3⟩
  · obtain ⟨h1, h2, h3⟩ := mem_srcEvs info hc
    exact ⟨h2, h1 ▸ h3⟩

section
variable (k : Nat) (tm base : Mask) (isCreate : Bool) (initial : Mask) (p : PackSt) (x : CompId)
  (hcb : (info x).callbacks = true)
include hcb

theorem count_moveEvs_assign (sup : Mask) (htn : tm.Nodup) :
    (moveEvs info k tm base sup).count (true, x, k) = if x ∈ tm ∧ x ∉ base ∧ x ∉ sup then 1 else 0 := by
  unfold moveEvs
  rw [List.count_append, count_map_tag, count_map_tag, (htn.sublist List.filter_sublist).count]
  simp [hcb]

theorem count_moveEvs_remove (sup : Mask) (hbn : base.Nodup) :
    (moveEvs info k tm base sup).count (false, x, k) = if x ∈ base ∧ x ∉ tm then 1 else 0 := by
  unfold moveEvs
  rw [List.count_append, count_map_tag, count_map_tag, (hbn.sublist List.filter_sublist).count]
  simp [hcb]

theorem count_staleEvs_assign (sup : Mask) :
    (staleEvs info k sup x).count (true, x, k) = if x ∈ sup then 0 else 1 := by
  unfold staleEvs
  by_cases hs : x ∈ sup <;> simp [hcb, hs]

theorem count_staleEvs_remove (sup : Mask) : (staleEvs info k sup x).count (false, x, k) = 1 := by
  unfold staleEvs
  by_cases hs : x ∈ sup <;> simp [hcb, hs]

theorem count_loopEvs_assign (htn : tm.Nodup) (hpf : p.final = tm) (hsn : (p.src.map (·.1)).Nodup) :
    (loopEvs info k tm isCreate initial p).count (true, x, k) =
      (if x ∈ packStale isCreate initial p (Mask.ofList (p.src.map (·.1))) tm ∧ x ∉ Mask.ofList (p.src.map (·.1)) then 1 else 0) +
      (if x ∈ Mask.ofList (p.src.map (·.1)) then 1 else 0) := by
  unfold loopEvs
  rw [List.count_append, count_flatMap_key _ (fun _ _ ht => (mem_staleEvs info ht).1) _ _ (packStale_nodup isCreate initial p _ tm (hpf ▸ htn)),
    count_flatMap_key _ (fun _ _ ht => (mem_srcEvs info ht).1) _ _ hsn, count_staleEvs_assign info k x hcb]
  simp only [srcEvs, hcb, if_true, mem_ofList, List.count_singleton_self]
  by_cases hs : x ∈ p.src.map (·.1) <;>
    by_cases hst : x ∈ packStale isCreate initial p (Mask.ofList (p.src.map (·.1))) tm <;> simp [hs, hst]

theorem count_loopEvs_remove (htn : tm.Nodup) (hpf : p.final = tm) (hsn : (p.src.map (·.1)).Nodup) :
    (loopEvs info k tm isCreate initial p).count (false, x, k) =
      if x ∈ packStale isCreate initial p (Mask.ofList (p.src.map (·.1))) tm then 1 else 0 := by
  unfold loopEvs
  rw [List.count_append, count_flatMap_key _ (fun _ _ ht => (mem_staleEvs info ht).1) _ _ (packStale_nodup isCreate initial p _ tm (hpf ▸ htn)),
    count_flatMap_key _ (fun _ _ ht => (mem_srcEvs info ht).1) _ _ hsn, count_staleEvs_remove info k x hcb]
  simp [srcEvs, hcb]

end

theorem pack_agree_alive {deps : List (CompId × Mask)} {ic : List (CompId × Val)} {base : Mask} {k : Nat} {p : PackSt}
    {ent : SEnt} {scbs : List SCb} (hp : PInv info deps ic base k p ent scbs) (isCreate : Bool) (initial : Mask)
    (hic : ∀ x, x ∈ ic.map (·.1) ↔ x ∈ initial) (hbase : base = if isCreate then [] else initial) (hbn : base.Nodup) :
    NetAgree (moveEvs info k p.final base (Mask.ofList (p.src.map (·.1))) ++ loopEvs info k p.final isCreate initial p)
      scbs := by
  have htn := maskOk_nodup hp.sorted
  have hst := mem_packStale isCreate initial p (Mask.ofList (p.src.map (·.1))) p.final
  refine hp.bal.netAgree info (fun t ht => (List.mem_append.mp ht).elim (mem_moveEvs info) (mem_loopEvs info))
    (fun x hcb => ?_) (fun x hcb => ?_)
  · -- the model's events take `base` to `final` as well
    rw [List.count_append, List.count_append, count_moveEvs_assign info k _ _ x hcb _ htn,
      count_moveEvs_remove info k _ _ x hcb _ hbn, count_loopEvs_assign info k _ isCreate initial p x hcb htn rfl hp.srcNodup,
      count_loopEvs_remove info k _ isCreate initial p x hcb htn rfl hp.srcNodup]
    by_cases hS : x ∈ Mask.ofList (p.src.map (·.1))
    · -- a supplied component is in the final set; it was there at the start exactly when it is stale
      obtain ⟨q, hqm, hq⟩ := List.mem_map.mp ((mem_ofList _ _).mp hS)
      have hT : x ∈ p.final := hq ▸ hp.srcSub q hqm
      have hBS : x ∈ base ↔ x ∈ packStale isCreate initial p (Mask.ofList (p.src.map (·.1))) p.final := by
        rw [hst, hbase]
        cases isCreate with
        | true => exact ⟨fun h => (List.not_mem_nil h).elim, fun h => (h.2.2.2.1 ⟨rfl, hS⟩).elim⟩
        | false =>
          refine ⟨fun hI => ⟨hT, ?_, hI, fun h => Bool.false_ne_true h.1, hT⟩, fun h => h.2.2.1⟩
          exact hq ▸ (hp.srcRepl q hqm).resolve_right fun h => h (hq ▸ (hic x).mpr hI)
      simp only [hS, hT, hBS, not_true_eq_false, and_false, if_false, if_true]
      omega
    · have := ite_diff (x ∈ p.final) (x ∈ base)
      simp only [hS, not_false_eq_true, and_true, if_false, Nat.add_zero]
      omega
  · -- a remove of the model (the component left the set, or it is stale) has one of the spec's behind it
    rw [List.count_append, count_moveEvs_remove info k _ _ x hcb _ hbn,
      count_loopEvs_remove info k _ isCreate initial p x hcb htn rfl hp.srcNodup]
    by_cases hxs : x ∈ packStale isCreate initial p (Mask.ofList (p.src.map (·.1))) p.final
    · have := hp.repl x ((hst x).mp hxs).2.1 hcb
      rw [if_neg (fun h => h.2 ((hst x).mp hxs).1), if_pos hxs]
      exact this
    · have := hp.net x hcb
      rw [if_neg hxs]
      by_cases hBT : x ∈ base ∧ x ∉ p.final
      · rw [if_pos hBT.1, if_neg hBT.2] at this
        rw [if_pos hBT]
        omega
      · rw [if_neg hBT]
        exact Nat.zero_le _

/-- the model's events of a pack whose entity died in it (`destroyNow` of the row it had): a move to the empty set -/
theorem pack_agree_dead {base : Mask} {k : Nat} {scbs : List SCb} (hd : CbBal info base k [] [] scbs) (hbn : base.Nodup) :
    NetAgree (moveEvs info k [] base []) scbs := by
  refine hd.netAgree info (fun t => mem_moveEvs info) (fun x hcb => ?_) (fun x hcb => ?_)
  · rw [count_moveEvs_assign info k _ _ x hcb _ List.nodup_nil, count_moveEvs_remove info k _ _ x hcb _ hbn]
    have := ite_diff (x ∈ ([] : Mask)) (x ∈ base)
    simp only [List.not_mem_nil, not_false_eq_true, and_true] at this ⊢
    exact this
  · have := hd.net x hcb
    rw [count_moveEvs_remove info k _ _ x hcb _ hbn]
    simp only [List.not_mem_nil, not_false_eq_true, and_true, if_false] at this ⊢
    omega

/-- the finish of a pack whose entity is alive, once the single move is known (to archetype `ti`, giving state `W1`,
callbacks `cbs1` and the row `vals1`; `ic` the record the pack started from):
the entity owns a row that reads like the spec's record, and the callbacks agree in the oracle's form -/
theorem PInv.finish {deps : List (CompId × Mask)} {ic : List (CompId × Val)} {base : Mask} {k : Nat} {p : PackSt}
    {ent : SEnt} {scbs : List SCb} (hp : PInv info deps ic base k p ent scbs) {iss : List Handle} {e : Handle}
    (hord : ordOf iss e = some k) (isCreate : Bool) (initial : Mask) (hic : ∀ x, x ∈ ic.map (·.1) ↔ x ∈ initial)
    (hbase : base = if isCreate then [] else initial) (hbn : base.Nodup) {w0 : WM} (sh : Shared) (w : WM)
    {W0 W1 : WM} {ti : Nat} {cbs1 : List Cb} {vals1 : List Val}
    (hpt : packTarget e isCreate initial sh w p = (W0, ti)) (hpm : packMoved info e isCreate initial sh w p = (W1, cbs1))
    (hm : Moved w0 W1 e ti vals1) (htm : (W1.arch ti).mask = p.final) (hrow : CarriedRow info ic p vals1)
    (h1 : cbs1.map (cbAbs iss) = (moveEvs info k p.final base (Mask.ofList (p.src.map (·.1)))).map some) :
    ∃ vals, Moved w0 (packFinish info e isCreate initial sh (w, p, [])).1 e ti vals ∧
      KeysSame W1 (packFinish info e isCreate initial sh (w, p, [])).1 ∧
      ent.comps = p.final.zip vals ∧
      cbsAgreeNet iss (packFinish info e isCreate initial sh (w, p, [])).2 scbs := by
  rw [packFinish_eq, hp.alive, if_neg Bool.false_ne_true, hpt, hpm]
  obtain ⟨hmX, hksX, hcbX⟩ := packLoops_moved info isCreate initial p hp.srcSub hm htm cbs1 []
  refine ⟨_, hmX, hksX, hp.comps_row info isCreate initial hic hrow, ?_⟩
  rw [hcbX, List.nil_append]
  exact cbsAgreeNet_of (by rw [List.map_append, List.map_append, h1, loopCbs_abs info hord])
    (pack_agree_alive info hp isCreate initial hic hbase hbn)

end Mustache.Proofs.Refine
