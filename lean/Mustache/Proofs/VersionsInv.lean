import Mustache.Proofs.VersionsStep
import Mustache.Proofs.VersionsStamps
import Mustache.Proofs.ChunkSize
/-!
# The invariant of the version model (live stamping version)

`Inv` collects what DESIGN.md C07 / C11 list:
* rows are duplicate-free across archetypes and below the ordinal counter;
* `last_j = none ∨ last_j < w`;
* per archetype, `Stamps`: every stamp of a populated archetype is `≤ w`, the archetype-level stamp
  dominates the stamps of the chunks in range;
* per job and archetype matching it, `Ghost`: `pending j e c` (for a checked component the entity has, in a
  chunk the job's constant chunk filter accepts) implies that the stamp of the entity's chunk is newer than
  `last_j`; a chunk stamp of a checked component newer than `last_j` implies `touched j a k`.

Mutable access, arrival and departure restamp one archetype (`Inv.modify`); a run restamps all of them and,
when it had work, moves `last_j` and `w`.
-/
namespace Mustache.Versions

open Mustache.ChunkSize (resolve_pos)

structure Inv (s : State) : Prop where
  live : s.live = true
  dfltPos : 0 < s.dflt
  uniq : ∀ {ai : Nat} {a : Arch} {i ai' : Nat} {a' : Arch} {i' : Nat} {e : Ent}, s.archs[ai]? = some a →
    a.ents[i]? = some e → s.archs[ai']? = some a' → a'.ents[i']? = some e → ai = ai' ∧ i = i'
  fresh : ∀ {ai : Nat} {a : Arch} {i : Nat} {e : Ent}, s.archs[ai]? = some a → a.ents[i]? = some e →
    e < s.nextEnt
  lastLt : ∀ {j : Nat} {J : Job}, s.jobs[j]? = some J → J.newer s.w
  stamps : ∀ {ai : Nat} {a : Arch}, s.archs[ai]? = some a → Stamps a s.w
  ghost : ∀ {j : Nat} {J : Job} {ai : Nat} {a : Arch}, s.jobs[j]? = some J → s.archs[ai]? = some a →
    J.reqOk a = true →
    Ghost J a (s.pending j) (s.touched j ai)

def NotPresent (s : State) (e : Ent) : Prop :=
  ∀ (ai : Nat) (a : Arch) (i : Nat), s.archs[ai]? = some a → a.ents[i]? ≠ some e

theorem Inv.stampVer {s : State} (h : Inv s) : s.stampVer = s.w := by
  unfold State.stampVer; rw [h.live]; rfl

theorem init_inv (cfg : Config) (hl : cfg.live = true) : Inv (init cfg) where
  live := hl
  dfltPos := Nat.zero_lt_succ 1023
  uniq h := nomatch h
  fresh h := nomatch h
  lastLt h := by
    obtain ⟨sp, _, rfl⟩ := Option.map_eq_some_iff.mp (List.getElem?_map ▸ h)
    exact nofun
  stamps h := nomatch h
  ghost _ h := nomatch h

/-- The invariant does not read `mgr`, `fns`, `deps`, and survives growth of `w` and `nextEnt`. -/
theorem Inv.frame {s s' : State} (h : Inv s) (hl : s'.live = s.live) (hd : 0 < s.dflt → 0 < s'.dflt)
    (ha : s'.archs = s.archs) (hj : s'.jobs = s.jobs) (hw : s.w ≤ s'.w) (hn : s.nextEnt ≤ s'.nextEnt)
    (hp : s'.pending = s.pending) (ht : s'.touched = s.touched) : Inv s' where
  live := hl ▸ h.live
  dfltPos := hd h.dfltPos
  uniq := ha ▸ h.uniq
  fresh h1 h2 := Nat.lt_of_lt_of_le (h.fresh (ha ▸ h1) h2) hn
  lastLt h1 := (h.lastLt (hj ▸ h1)).mono hw
  stamps h1 := (h.stamps (ha ▸ h1)).mono hw
  ghost h1 h2 h3 := hp ▸ ht ▸ h.ghost (hj ▸ h1) (ha ▸ h2) h3


/-- Modifying one archetype by a restamp with the current version preserves the invariant if
* the rows afterwards hold entities of that archetype or absent ones below the counter (`hsub`), all
  distinct (`hinj`), and rows outside the stamped pairs stay put (`hstay`);
* a newly pending pair sits in a stamped pair of the archetype (`hp`);
* stamped chunks become touched for the jobs checking the stamped component (`hhit`), and no chunk loses
  its `touched` mark (`ht`). -/
theorem Inv.modify {s : State} (h : Inv s) {ai : Nat} {a0 : Arch} (ha0 : s.archs[ai]? = some a0)
    {f : Arch → Arch} {p' : Nat → Ent → Comp → Bool} {t' : Nat → Nat → Nat → Bool}
    {H : Nat → Comp → Prop} (r : Restamp a0 (f a0) s.w H)
    (hsub : ∀ (k : Nat) (y : Ent), (f a0).ents[k]? = some y →
      (∃ k' : Nat, a0.ents[k']? = some y) ∨ (NotPresent s y ∧ y < s.nextEnt))
    (hinj : ∀ (k k' : Nat) (y : Ent), (f a0).ents[k]? = some y → (f a0).ents[k']? = some y → k = k')
    (hstay : ∀ (k : Nat) (y : Ent) (c : Comp), (f a0).ents[k]? = some y → ¬ H (k / a0.cs) c →
      a0.ents[k]? = some y)
    (hp : ∀ j y c, p' j y c = true →
      s.pending j y c = true ∨ ∃ k : Nat, (f a0).ents[k]? = some y ∧ H (k / a0.cs) c)
    (hhit : ∀ j J k c, s.jobs[j]? = some J → c ∈ J.check → H k c → t' j ai k = true)
    (ht : ∀ j x k, s.touched j x k = true → t' j x k = true) :
    Inv { s with archs := s.archs.modify ai f, pending := p', touched := t' } := by
  have harch : ∀ {x a'}, (s.archs.modify ai f)[x]? = some a' → _ := getElem?_modify_some ha0
  -- an entity of the modified archetype is in no other archetype
  have hcross : ∀ {x : Nat} {a : Arch} {k k' : Nat} {y : Ent}, x ≠ ai → s.archs[x]? = some a →
      a.ents[k]? = some y → (f a0).ents[k']? = some y → False := by
    intro x a k k' y hne hx hk hk'
    rcases hsub k' y hk' with ⟨l, hl⟩ | ⟨hnp, _⟩
    · exact hne (h.uniq hx hk ha0 hl).1
    · exact hnp x a k hx hk
  refine ⟨h.live, h.dfltPos, ?_, ?_, h.lastLt, ?_, ?_⟩
  · intro x a k x' a' k' y hx hk hx' hk'
    rcases harch hx with ⟨rfl, rfl⟩ | ⟨hne, hx0⟩ <;> rcases harch hx' with ⟨rfl, rfl⟩ | ⟨hne', hx0'⟩
    · exact ⟨rfl, hinj k k' y hk hk'⟩
    · exact (hcross hne' hx0' hk' hk).elim
    · exact (hcross hne hx0 hk hk').elim
    · exact h.uniq hx0 hk hx0' hk'
  · intro x a k y hx hk
    rcases harch hx with ⟨rfl, rfl⟩ | ⟨_, hx0⟩
    · rcases hsub k y hk with ⟨l, hl⟩ | ⟨_, hfr⟩
      · exact h.fresh ha0 hl
      · exact hfr
    · exact h.fresh hx0 hk
  · intro x a hx
    rcases harch hx with ⟨rfl, rfl⟩ | ⟨_, hx0⟩
    · exact r.stamps (h.stamps ha0)
    · exact h.stamps hx0
  · intro j J x a hj hx hreq
    rcases harch hx with ⟨rfl, rfl⟩ | ⟨hne, hx0⟩
    · refine r.ghost (h.lastLt hj) (h.ghost hj ha0 (reqOk_congr J r.mask ▸ hreq))
        (fun i e c he _ hH => ?_) (fun k c hH hcc => hhit j J k c hj hcc hH) (ht j x)
      exact ⟨hstay i e c he hH, fun hp' =>
        (hp j e c hp').resolve_right fun ⟨k, hk, hHk⟩ => hH (hinj i k e he hk ▸ hHk)⟩
    · have g := h.ghost hj hx0 hreq
      exact ⟨fun i e c he hck hcc hcm hp' => g.pend i e c he hck hcc hcm
          ((hp j e c hp').resolve_right fun ⟨k, hk, _⟩ => hcross hne hx0 he hk),
        fun k c hk hcc hcm hn => ht j x k (g.touch k c hk hcc hcm hn)⟩

theorem writeAt_inv {s : State} (h : Inv s) {ai i : Nat} {a0 : Arch} {e : Ent} (c0 : Comp)
    (ha0 : s.archs[ai]? = some a0) (he : a0.ents[i]? = some e) : Inv (s.writeAt ai i e c0) := by
  rw [writeAt_eq ha0, h.stampVer]
  refine h.modify ha0 (restamp_stampComp a0 (i / a0.cs) c0 s.w) (fun k y hk => Or.inl ⟨k, hk⟩)
    (fun k k' y hk hk' => (h.uniq ha0 hk ha0 hk').2) (fun k y c hk _ => hk) (fun j y c hp' => ?_)
    (fun j J k c hj hcc hH => ?_) (fun j x k ht => ?_)
  · by_cases hc : y = e ∧ c = c0
    · exact Or.inr ⟨i, hc.1 ▸ he, rfl, hc.2⟩
    · exact Or.inl ((if_neg hc).symm.trans hp')
  · rw [if_pos ⟨rfl, hH.1, by rw [checkOf_eq hj, List.contains_iff_mem]; exact hH.2 ▸ hcc⟩]
  · exact ite_eq_left_iff.mpr fun _ => ht

theorem arrive_inv {s : State} (h : Inv s) {ai : Nat} {a0 : Arch} {e : Ent}
    (ha0 : s.archs[ai]? = some a0) (hnp : NotPresent s e) (hfr : e < s.nextEnt) :
    Inv (s.arrive ai e) := by
  rw [arrive_eq ha0]
  refine h.modify ha0 (restamp_push (h.stamps ha0).csPos e s.w) (fun k y hk => ?_)
    (fun k k' y hk hk' => ?_) (fun k y c hk hH => ?_) (fun j y c hp' => ?_)
    (fun j J k c _ _ hH => if_pos ⟨rfl, hH⟩) (fun j x k ht => ?_)
  · rcases push_row.mp hk with h' | ⟨_, rfl⟩
    · exact Or.inl ⟨k, h'⟩
    · exact Or.inr ⟨hnp, hfr⟩
  · rcases push_row.mp hk with h1 | ⟨rfl, rfl⟩ <;> rcases push_row.mp hk' with h2 | ⟨rfl, hy⟩
    · exact (h.uniq ha0 h1 ha0 h2).2
    · exact absurd (hy ▸ h1) (hnp ai a0 k ha0)
    · exact absurd h2 (hnp ai a0 k' ha0)
    · rfl
  · exact (push_row.mp hk).resolve_right fun h' => hH (h'.1 ▸ rfl)
  · by_cases hy : y = e
    · exact Or.inr ⟨a0.ents.length, hy ▸ push_row.mpr (Or.inr ⟨rfl, rfl⟩), rfl⟩
    · exact Or.inl ((if_neg hy).symm.trans hp')
  · exact ite_eq_left_iff.mpr fun _ => ht

/-- `k ↦ if k = i then l else k`, the row that row `k` of `(ents.set i last).dropLast` comes from (`l` the index
of the last row), is injective below `l` -/
theorem origin_inj {i l k k' : Nat} (hk : k < l) (hk' : k' < l)
    (h : (if k = i then l else k) = if k' = i then l else k') : k = k' := by
  by_cases h1 : k = i <;> by_cases h2 : k' = i
  · exact h1.trans h2.symm
  · rw [if_pos h1, if_neg h2] at h; exact absurd h (Nat.ne_of_gt hk')
  · rw [if_neg h1, if_pos h2] at h; exact absurd h (Nat.ne_of_lt hk)
  · rwa [if_neg h1, if_neg h2] at h

theorem depart_inv {s : State} (h : Inv s) {ai i : Nat} {a0 : Arch} {e : Ent}
    (ha0 : s.archs[ai]? = some a0) (he : a0.ents[i]? = some e) :
    Inv (s.depart ai i) ∧ NotPresent (s.depart ai i) e := by
  -- `horig`: a row of the shrunk archetype and the row it comes from
  obtain ⟨-, -, -, -, -, hrow⟩ := swapRemove_spec s.w he
  have horig := fun {k y} => (hrow k y).mp
  rw [depart_eq ha0]
  refine ⟨h.modify ha0 (restamp_swapRemove s.w he) (fun k y hk => Or.inl ⟨_, (horig hk).2⟩)
    (fun k k' y hk hk' => ?_) (fun k y c hk hH => ?_) (fun j y c hp' => ?_)
    (fun j J k c _ _ hH => if_pos ⟨rfl, hH⟩) (fun j x k ht => ?_), fun x a k hx hk => ?_⟩
  · exact origin_inj (horig hk).1 (horig hk').1 (h.uniq ha0 (horig hk).2 ha0 (horig hk').2).2
  · have := (horig hk).2
    rwa [if_neg fun hki => hH (Or.inl (congrArg (· / a0.cs) hki))] at this
  · by_cases hc : i ≠ a0.ents.length - 1 ∧ a0.ents[a0.ents.length - 1]? = some y
    · refine Or.inr ⟨i, ?_, Or.inl rfl⟩
      rw [hrow, if_pos rfl]
      exact ⟨Nat.lt_of_le_of_ne (Nat.le_sub_one_of_lt (getElem?_lt he)) hc.1, hc.2⟩
    · exact Or.inl ((if_neg hc).symm.trans hp')
  · exact ite_eq_left_iff.mpr fun _ => ht
  · rcases getElem?_modify_some ha0 hx with ⟨rfl, rfl⟩ | ⟨hne, hx0⟩
    · obtain ⟨hlt, ho⟩ := horig hk
      have := (h.uniq ha0 ho ha0 he).2
      by_cases hki : k = i
      · rw [if_pos hki] at this; exact Nat.lt_irrefl _ (this ▸ hki ▸ hlt)
      · rw [if_neg hki] at this; exact hki this
    · exact hne (h.uniq hx0 hk ha0 he).1


theorem getArchClosed_inv {s s1 : State} {m : List Comp} {aj : Nat} (h : Inv s)
    (hg : s.getArchClosed m = .ok (s1, aj)) :
    Inv s1 ∧ ∀ {x : Nat} {a : Arch}, s.archs[x]? = some a → s1.archs[x]? = some a := by
  rcases getArchClosed_ok hg with ⟨rfl, _⟩ | ⟨_, rfl, cs, hr, rfl⟩
  · exact ⟨h, id⟩
  · -- an archetype of the extended list is an old one or the new one, which has no rows and no chunk in range
    have harch : ∀ {x : Nat} {a : Arch},
        (s.archs ++ [(⟨m, cs, [], fun _ _ => nullVer, fun _ => nullVer⟩ : Arch)])[x]? = some a →
        s.archs[x]? = some a ∨ (a.ents = [] ∧ a.cs = cs) := by
      intro x a hx
      by_cases hlt : x < s.archs.length
      · exact Or.inl ((List.getElem?_append_left hlt).symm.trans hx)
      · rw [List.getElem?_append_right (Nat.le_of_not_lt hlt)] at hx
        cases List.mem_singleton.mp (List.mem_of_getElem? hx)
        exact Or.inr ⟨rfl, rfl⟩
    refine ⟨⟨h.live, h.dfltPos, ?_, ?_, h.lastLt, ?_, ?_⟩, fun hx => ?_⟩
    · intro x a i x' a' i' e hx hi hx' hi'
      rcases harch hx with hx | ⟨hn, _⟩
      · rcases harch hx' with hx' | ⟨hn', _⟩
        · exact h.uniq hx hi hx' hi'
        · exact nomatch hn' ▸ hi'
      · exact nomatch hn ▸ hi
    · intro x a i e hx hi
      rcases harch hx with hx | ⟨hn, _⟩
      · exact h.fresh hx hi
      · exact nomatch hn ▸ hi
    · intro x a hx
      rcases harch hx with hx | ⟨hn, hc⟩
      · exact h.stamps hx
      · exact ⟨hc ▸ resolve_pos h.dfltPos hr, fun hne => absurd hn hne,
          fun k c hk => absurd (hn ▸ hk) (Nat.not_lt_zero _)⟩
    · intro j J x a hj hx hreq
      rcases harch hx with hx | ⟨hn, _⟩
      · exact h.ghost hj hx hreq
      · exact ⟨fun i e c he => (nomatch hn ▸ he), fun k c hk => absurd (hn ▸ hk) (Nat.not_lt_zero _)⟩
    · exact (List.getElem?_append_left (getElem?_lt hx)).trans hx


section
variable {s : State} (h : Inv s) {j : Nat} {J : Job} (hj : s.jobs[j]? = some J)
include h hj

theorem mem_procs (e : Ent) :
    e ∈ (s.jobRun j).2 ↔
      ∃ (ai : Nat) (a : Arch) (i : Nat),
        s.archs[ai]? = some a ∧ a.ents[i]? = some e ∧ a.procChunk J (i / a.cs) = true := by
  rw [jobRun_snd hj, List.mem_flatMap]
  constructor
  · rintro ⟨a, ha, he⟩
    obtain ⟨ai, hai⟩ := List.mem_iff_getElem?.mp ha
    obtain ⟨i, hi, hp⟩ := (mem_processed (h.stamps hai).csPos e).mp he
    exact ⟨ai, a, i, hai, hi, hp⟩
  · rintro ⟨ai, a, i, hai, hi, hp⟩
    exact ⟨a, List.mem_iff_getElem?.mpr ⟨ai, hai⟩,
      (mem_processed (h.stamps hai).csPos e).mpr ⟨i, hi, hp⟩⟩

/-- The processed set is a union of whole version chunks: a row is selected iff its chunk is processed. -/
theorem mem_procs_row {ai : Nat} {a : Arch} {i : Nat} {e : Ent} (ha : s.archs[ai]? = some a)
    (hi : a.ents[i]? = some e) : e ∈ (s.jobRun j).2 ↔ a.procChunk J (i / a.cs) = true := by
  rw [mem_procs h hj]
  constructor
  · rintro ⟨ai', a', i', ha', hi', hp⟩
    obtain ⟨rfl, rfl⟩ := h.uniq ha hi ha' hi'
    cases ha.symm.trans ha'
    exact hp
  · exact fun hp => ⟨ai, a, i, ha, hi, hp⟩

theorem procs_nil_no_chunk (hnil : (s.jobRun j).2 = []) {ai : Nat} {a : Arch} (ha : s.archs[ai]? = some a)
    (k : Nat) : ¬ a.procChunk J k = true := by
  intro hp
  -- the first row of a processed chunk is selected
  have he := List.getElem?_eq_getElem (procChunk_iff.mp hp).1
  have hk := Nat.mul_div_cancel k (h.stamps ha).csPos
  exact absurd ((mem_procs_row h hj ha he).mpr (hk.symm ▸ hp)) (hnil ▸ List.not_mem_nil)

/-- **Core of C07.** A pending write of a checked component of an entity in an archetype that has the
job's required components makes the entity's version chunk pass both levels of the job's filter: the next
run processes the entity. -/
theorem pending_processed {ai : Nat} {a : Arch} {i : Nat} {e : Ent} {c : Comp} (ha : s.archs[ai]? = some a)
    (he : a.ents[i]? = some e) (hreq : J.reqOk a = true) (hck : J.chunkOk (i / a.cs) = true)
    (hcc : c ∈ J.check) (hcm : c ∈ a.mask) (hp : s.pending j e c = true) : e ∈ (s.jobRun j).2 :=
  (mem_procs_row h hj ha he).mpr ((h.stamps ha).procChunk_of_newer (chunk_in_range he) hreq hck hcc hcm
    ((h.ghost hj ha hreq).pend i e c he hck hcc hcm hp))

end

theorem jobRun_inv {s : State} (h : Inv s) (j : Nat) : Inv (s.jobRun j).1 := by
  cases hj : s.jobs[j]? with
  | none => rw [jobRun_none hj]; exact h
  | some J =>
  obtain ⟨hw, hw1⟩ := jobRun_w hj
  have harch : ∀ {x : Nat} {a' : Arch}, (s.jobRun j).1.archs[x]? = some a' → _ := jobRun_archs hj
  refine ⟨?_, ?_, ?_, ?_, ?_, ?_, ?_⟩
  · rw [jobRun_eq hj]; exact h.live
  · rw [jobRun_eq hj]; exact h.dfltPos
  · intro x a k x' a' k' y hx hk hx' hk'
    obtain ⟨b, hb, rfl⟩ := harch hx
    obtain ⟨b', hb', rfl⟩ := harch hx'
    rw [runJob_ents] at hk hk'
    exact h.uniq hb hk hb' hk'
  · intro x a k y hx hk
    obtain ⟨b, hb, rfl⟩ := harch hx
    rw [runJob_ents] at hk
    rw [jobRun_eq hj]
    exact h.fresh hb hk
  · intro j' J' hj'
    rcases jobRun_jobs hj hj' with ⟨hold, _⟩ | ⟨_, hne, rfl⟩
    · exact (h.lastLt hold).mono hw
    · intro L hL
      cases hL
      rw [hw1 hne]
      exact Nat.lt_succ_self _
  · intro x a' hx
    obtain ⟨a, ha, rfl⟩ := harch hx
    exact ((restamp_runJob a J s.w).stamps (h.stamps ha)).mono hw
  · intro j' J' x a' hj' hx hreq
    obtain ⟨a, ha, rfl⟩ := harch hx
    rw [reqOk_congr J' (runJob_mask ..)] at hreq
    rcases jobRun_jobs hj hj' with ⟨hold, hnil⟩ | ⟨rfl, hne, rfl⟩
    · -- a job as it was; if it is `j` itself the run had no work and no chunk was processed
      have hnp : j' = j → ∀ k, ¬ a.procChunk J k = true :=
        fun hjj k => procs_nil_no_chunk h hj (hnil hjj) ha k
      refine (restamp_runJob a J s.w).ghost (h.lastLt hold) (h.ghost hold ha hreq)
        (fun i e c he hcm hH => ?_) (fun k c hH hcc => ?_) (fun k ht => ?_)
      · rw [runJob_ents] at he
        refine ⟨he, fun hp => ?_⟩
        rw [jobRun_pending hj] at hp
        by_cases hin : (s.jobRun j).2.contains e = true
        · have hpc := (mem_procs_row h hj ha he).mp (List.contains_iff_mem.mp hin)
          rw [if_pos hin, if_neg fun hjj => hnp hjj _ hpc] at hp
          rcases Bool.or_eq_true .. ▸ hp with hp | hu
          · exact hp
          · exact absurd ⟨hpc, mem_fmask.mpr ⟨List.contains_iff_mem.mp hu, hcm⟩⟩ hH
        · rwa [if_neg hin] at hp
      · rw [jobRun_touched hj ha, if_pos hH.1, if_neg fun hjj => hnp hjj k hH.1, Bool.or_eq_true]
        refine Or.inr (List.any_eq_true.mpr ⟨c, hH.2, ?_⟩)
        rw [checkOf_eq hold]
        exact List.contains_iff_mem.mpr hcc
      · rw [jobRun_touched hj ha]
        by_cases hpc : a.procChunk J k = true
        · rw [if_pos hpc, if_neg fun hjj => hnp hjj k hpc, ht]; rfl
        · rwa [if_neg hpc]
    · -- `j` itself after a run with work: whatever was pending has been processed, and `last = w`
      -- bounds every stamp
      refine ⟨fun i e c he hck hcc hcm hp => ?_, fun k c hk hcc hcm hn => ?_⟩
      · rw [runJob_ents] at he
        rw [runJob_cs] at hck
        rw [runJob_mask] at hcm
        rw [jobRun_pending hj] at hp
        by_cases hin : (s.jobRun j').2.contains e = true
        · rw [if_pos hin, if_pos rfl] at hp; cases hp
        · rw [if_neg hin] at hp
          exact absurd (List.contains_iff_mem.mpr (pending_processed h hj ha he hreq hck hcc hcm hp)) hin
      · exact absurd (hn s.w rfl)
          (Nat.not_lt.mpr (((restamp_runJob a J s.w).stamps (h.stamps ha)).cstLeW hk c))


theorem step_inv {s : State} (h : Inv s) (op : Op) : Inv (s.step op).1 := by
  refine step_cases s op h ?_ (fun j _ => jobRun_inv h j) (fun ai i a e c ha he => writeAt_inv h c ha he)
    (fun m s1 aj hg => (getArchClosed_inv h hg).1) (fun m s1 ai hg => ?_)
    (fun ai i a e m s1 aj ha he hg hne => ?_) (fun ai i a e ha he => (depart_inv h ha he).1)
    (fun d f g hd => h.frame rfl hd rfl rfl (Nat.le_refl _) (Nat.le_refl _) rfl rfl)
  · exact h.frame rfl id rfl rfl (Nat.le_succ _) (Nat.le_refl _) rfl rfl
  · -- `createWithOutInit` hands out the next ordinal, which no row holds
    obtain ⟨h1, _⟩ := getArchClosed_inv h hg
    exact arrive_inv (h1.frame (s' := { s1 with nextEnt := s1.nextEnt + 1 }) rfl id rfl rfl (Nat.le_refl _)
        (Nat.le_succ _) rfl rfl)
      (List.getElem?_eq_getElem (getArchClosed_lt hg)) (fun x b i hx hr => Nat.lt_irrefl _ (h1.fresh hx hr))
      (Nat.lt_succ_self _)
  · -- the entity leaves its archetype, so it is absent when it arrives in the other one
    obtain ⟨h1, hkeep⟩ := getArchClosed_inv h hg
    obtain ⟨h2, hnp⟩ := depart_inv h1 (hkeep ha) he
    refine arrive_inv h2 (List.getElem?_eq_getElem ((depart_archs_length ..).symm ▸ getArchClosed_lt hg)) hnp ?_
    rw [depart_eq (hkeep ha)]
    exact h1.fresh (hkeep ha) he

theorem exec_inv {s : State} (h : Inv s) (ops : List Op) : Inv (s.exec ops) :=
  exec_induction ops h fun _ op _ h => step_inv h op

theorem run_inv (cfg : Config) (hl : cfg.live = true) (ops : List Op) : Inv (run cfg ops) :=
  exec_inv (init_inv cfg hl) ops

end Mustache.Versions
