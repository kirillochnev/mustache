import Mustache.Proofs.WorldArch
/-! # Archetype lookup is keyed by (closed component mask, shared instances) (C12 `findArch_key`) -/
namespace Mustache.Model

def Arch.key (a : Arch) : List Nat × List Nat := (a.mask, a.shared.data)

theorem Arch.key_eq_iff {a : Arch} {m d : List Nat} : a.key = (m, d) ↔ a.mask = m ∧ a.shared.data = d := by
  simp [Arch.key]

theorem findArch_congr (w : WM) (m : List Nat) {sh1 sh2 : Shared} (h : sh1.data = sh2.data) :
    w.findArch m sh1 = w.findArch m sh2 := by
  unfold WM.findArch; rw [h]

theorem getArch_existing_iff (w : WM) (m : List Nat) (sh : Shared) :
    ((w.getArch m sh).1 = w ∧ (w.getArch m sh).2 < w.archs.length) ↔
      ∃ a ∈ w.archs, a.mask = closedMask w.deps m ∧ a.shared.data = sh.data := by
  rcases getArch_cases w m sh with ⟨i, hf, he⟩ | ⟨hf, he⟩
  · obtain ⟨hlt, hm, hd, _⟩ := findArch_eq_some_iff.mp hf
    rw [he]
    exact ⟨fun _ => ⟨w.arch i, arch_mem_archs hlt, hm, hd⟩, fun _ => ⟨rfl, hlt⟩⟩
  · rw [he]
    constructor
    · rintro ⟨_, h⟩; exact absurd h (Nat.lt_irrefl _)
    · rintro ⟨a, ha, hk⟩; exact absurd hk (findArch_none.mp hf a ha)

theorem getArch_new (w : WM) (m : List Nat) (sh : Shared)
    (h : ∀ a ∈ w.archs, ¬ (a.mask = closedMask w.deps m ∧ a.shared.data = sh.data)) :
    w.getArch m sh = ({ w with archs := w.archs ++ [⟨closedMask w.deps m, sh, []⟩] }, w.archs.length) := by
  rcases getArch_cases w m sh with ⟨i, hf, _⟩ | ⟨_, he⟩
  · rw [findArch_none.mpr h] at hf; cases hf
  · exact he

theorem getArch_same_key (w : WM) {m1 m2 : List Nat} {sh1 sh2 : Shared}
    (hm : closedMask w.deps m1 = closedMask w.deps m2) (hd : sh1.data = sh2.data) :
    (w.getArch m1 sh1).2 = (w.getArch m2 sh2).2 := by
  rw [getArch_eq, getArch_eq, hm, findArch_congr w _ hd]
  cases w.findArch (closedMask w.deps m2) sh2 <;> rfl

theorem getArch_twice (w : WM) {m1 m2 : List Nat} {sh1 sh2 : Shared}
    (hm : closedMask w.deps m1 = closedMask w.deps m2) (hd : sh1.data = sh2.data) :
    (w.getArch m1 sh1).1.getArch m2 sh2 = ((w.getArch m1 sh1).1, (w.getArch m1 sh1).2) := by
  rcases getArch_cases w m1 sh1 with ⟨i, hf, he⟩ | ⟨hf, he⟩
  · rw [he]
    simp only
    rw [getArch_eq, ← hm, ← findArch_congr w _ hd, hf]
  · rw [he]
    simp only
    rw [getArch_eq]
    -- the appended archetype is the first with the key: none of the old ones has it
    have : WM.findArch { w with archs := w.archs ++ [⟨closedMask w.deps m1, sh1, []⟩] }
        (closedMask w.deps m2) sh2 = some w.archs.length := by
      refine findArch_eq_some_iff.mpr ⟨by rw [List.length_append]; exact Nat.lt_succ_self _, ?_, ?_, fun j hj => ?_⟩
      · rw [arch_append_self, ← hm]
      · rw [arch_append_self, ← hd]
      · rw [arch_append_left w _ hj, ← hm, ← hd]
        exact findArch_none.mp hf _ (arch_mem_archs hj)
    rw [this]

def ArchsDistinct (w : WM) : Prop :=
  ∀ i j, i < w.archs.length → j < w.archs.length → (w.arch i).key = (w.arch j).key → i = j

theorem archsDistinct_iff {w : WM} : ArchsDistinct w ↔
    ∀ ai aj, ai < w.archs.length → aj < w.archs.length →
      (w.arch ai).mask = (w.arch aj).mask → (w.arch ai).shared.data = (w.arch aj).shared.data → ai = aj :=
  ⟨fun h i j hi hj hm hd => h i j hi hj (Arch.key_eq_iff.mpr ⟨hm, hd⟩),
   fun h i j hi hj hk => h i j hi hj (Arch.key_eq_iff.mp hk).1 (Arch.key_eq_iff.mp hk).2⟩

theorem archsDistinct_init : ArchsDistinct {} := by
  intro i j hi; simp at hi

theorem getArch_distinct {w : WM} (h : ArchsDistinct w) (m : List Nat) (sh : Shared) :
    ArchsDistinct (w.getArch m sh).1 := by
  rcases getArch_cases w m sh with ⟨i, _, he⟩ | ⟨hf, he⟩
  · rw [he]; exact h
  · rw [he]
    -- no old archetype has the key of the new one
    have hdiff : ∀ i, i < w.archs.length → (w.arch i).key ≠ (closedMask w.deps m, sh.data) :=
      fun i hi hk => findArch_none.mp hf _ (arch_mem_archs hi) (Arch.key_eq_iff.mp hk)
    intro i j hi hj hk
    rw [List.length_append] at hi hj
    rcases Nat.lt_succ_iff_lt_or_eq.mp hi with hi | rfl <;> rcases Nat.lt_succ_iff_lt_or_eq.mp hj with hj | rfl
    · rw [arch_append_left w _ hi, arch_append_left w _ hj] at hk; exact h i j hi hj hk
    · rw [arch_append_left w _ hi, arch_append_self] at hk; exact absurd hk (hdiff i hi)
    · rw [arch_append_self, arch_append_left w _ hj] at hk; exact absurd hk.symm (hdiff j hj)
    · rfl

theorem getArch_eq_iff_key {w : WM} (h : ArchsDistinct w) (m : List Nat) (sh : Shared) {i : Nat}
    (hi : i < w.archs.length) :
    (w.getArch m sh).2 = i ↔ (w.arch i).key = (closedMask w.deps m, sh.data) := by
  rcases getArch_cases w m sh with ⟨i', hf, he⟩ | ⟨hf, he⟩
  · obtain ⟨hlt, hm, hd, _⟩ := findArch_eq_some_iff.mp hf
    rw [he]
    constructor
    · intro e; subst e; exact Arch.key_eq_iff.mpr ⟨hm, hd⟩
    · intro hk
      exact h i' i hlt hi (by rw [hk]; exact Arch.key_eq_iff.mpr ⟨hm, hd⟩)
  · rw [he]
    constructor
    · intro e; exact absurd hi (e ▸ Nat.lt_irrefl _)
    · intro hk
      exact absurd (Arch.key_eq_iff.mp hk) (findArch_none.mp hf _ (arch_mem_archs hi))

/-- the key ignores `shared.ids`; it still determines the descriptor when instances are typed: every
    instance id belongs to one shared type (`f`), as the pool guarantees (`PoolInv.inst_sid`) -/
def Shared.Typed (f : Nat → Nat) (s : Shared) : Prop := s.ids = s.data.map f

theorem Shared.eq_of_data_eq {f : Nat → Nat} {s1 s2 : Shared} (h1 : s1.Typed f) (h2 : s2.Typed f)
    (h : s1.data = s2.data) : s1 = s2 := by
  cases s1; cases s2
  simp only [Shared.Typed] at h1 h2
  simp only at h
  subst h
  simp [h1, h2]

end Mustache.Model
