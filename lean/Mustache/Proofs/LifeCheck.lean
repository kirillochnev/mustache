import Mustache.Proofs.LifeRun
/-!
# Executable checkers for the preconditions of `step_callOk` / `run_accepts` (C03)

A Boolean function for each of `LocIn`, `PackLifeOK`, `OpOk`, `RunOk`, with the lemma that the answer `true` gives the
precondition: the hypotheses of the C03 theorems on the concrete histories of `Props/C03Life.lean` are discharged by
evaluating them.
-/
namespace Mustache.Proofs.Life
open Mustache.Model Mustache.Proofs.Rows

def locInb (w : WM) (e : Handle) : Bool :=
  match (w.locOf e).arch with
  | some pi => decide ((w.locOf e).idx < (w.arch pi).rows.length)
  | none => true

theorem locIn_of_check {w : WM} {e : Handle} (h : locInb w e = true) : LocIn w e := by
  intro pi hpi
  unfold locInb at h
  rw [hpi] at h
  simpa using h

theorem locIn_of_valid_check {w : WM} {e : Handle} (h : (!w.isValid e || locInb w e) = true)
    (hv : w.isValid e = true) : LocIn w e :=
  locIn_of_check (by rw [hv] at h; exact h)

def newb (w : WM) (e : Handle) (cs : List CompId) : Bool :=
  match (w.locOf e).arch with
  | some pi => cs.all (fun c => !(w.arch pi).mask.contains c)
  | none => true

theorem new_of_check {w : WM} {e : Handle} {cs : List CompId} (h : newb w e cs = true) :
    ∀ pi, (w.locOf e).arch = some pi → ∀ c ∈ cs, c ∉ (w.arch pi).mask := by
  intro pi hpi c hc
  unfold newb at h
  rw [hpi] at h
  simp only [List.all_eq_true] at h
  simpa using h c hc

def targetOkb (w : WM) (e : Handle) : Bool :=
  match (w.locOf e).arch with
  | some pi => decide ((w.locOf e).idx < (w.arch pi).rows.length)
  | none => true

def packOkb (w : WM) : List Cmd → Bool
  | [] => true
  | (.create _ m _) :: _ => sortedb m
  | first :: _ => !w.isValid first.entity || targetOkb w first.entity

theorem packLifeOK_of_check {w : WM} (pack : List Cmd) (h : packOkb w pack = true) :
    PackLifeOK w pack := by
  cases pack with
  | nil => trivial
  | cons first rest =>
    cases first with
    | create e m s => exact maskOk_of_sortedb m h
    | _ => exact packLifeOK_of_locIn rfl (locIn_of_valid_check h)

variable (info : CompId → CompInfo)

def packsOkb : WM → List (List Cmd) → Bool
  | _, [] => true
  | w, p :: ps => packOkb w p && packsOkb (w.applyPack info p).1 ps

theorem packsLifeOK_of_check (ps : List (List Cmd)) (w : WM) (h : packsOkb info w ps = true) :
    PacksLifeOK info w ps := by
  induction ps generalizing w with
  | nil => exact PacksLifeOK.nil w
  | cons p ps ih =>
    simp only [packsOkb, Bool.and_eq_true] at h
    exact PacksLifeOK.cons w p ps (packLifeOK_of_check p h.1) (ih _ h.2)

def opOkb (w : WM) : Op Handle → Bool
  | .create _ mask _ => sortedb mask
  | .assign t e c v =>
    if w.isLocked then decide (t < w.buffers.length)
    else locInb w e && (!v.isSome || newb w e [c])
  | .remove _ e _ => w.isLocked || !w.isValid e || locInb w e
  | .buildNew t adds =>
    if w.isLocked then decide (t < w.buffers.length) else decide ((adds.map (·.1)).Nodup)
  | .build t e adds _ =>
    if w.isLocked then decide (t < w.buffers.length)
    else locInb w e && decide ((adds.map (·.1)).Nodup) && newb w e (adds.map (·.1))
  | .clone e => !w.isValid e || locInb w e
  | .sassign e _ _ => locInb w e
  | .sremove e _ => !w.isValid e || locInb w e
  | .unlock =>
    decide ((unlockPre w).lockDepth ≠ 0) ||
      packsOkb info (detached (unlockPre w)) ((unlockPre w).buffers.map packs).flatten
  | _ => true

theorem opOk_of_check (w : WM) (op : Op Handle) (h : opOkb info w op = true) : OpOk info w op := by
  cases op with
  | create t mask shared => exact maskOk_of_sortedb mask h
  | assign t e c v =>
    simp only [opOkb] at h
    refine ⟨fun hl => ?_, fun hl => ?_⟩
    · rw [hl] at h; simpa using h
    · rw [hl] at h
      simp only [Bool.false_eq_true, if_false, Bool.and_eq_true, Bool.or_eq_true, Bool.not_eq_true'] at h
      refine ⟨locIn_of_check h.1, fun pi hpi hv => ?_⟩
      rcases h.2 with h2 | h2
      · rw [hv] at h2; cases h2
      · exact new_of_check h2 pi hpi c (List.mem_singleton.mpr rfl)
  | remove t e c =>
    intro hl hv
    simp only [opOkb, hl, hv, Bool.false_or, Bool.not_true] at h
    exact locIn_of_check h
  | buildNew t adds =>
    simp only [opOkb] at h
    refine ⟨fun hl => ?_, fun hl => ?_⟩
    · rw [hl] at h; simpa using h
    · rw [hl] at h; simpa using h
  | build t e adds rems =>
    simp only [opOkb] at h
    refine ⟨fun hl => ?_, fun hl => ?_⟩
    · rw [hl] at h; simpa using h
    · rw [hl] at h
      simp only [Bool.false_eq_true, if_false, Bool.and_eq_true, decide_eq_true_eq] at h
      exact ⟨locIn_of_check h.1.1, h.1.2, new_of_check h.2⟩
  | clone e => exact locIn_of_valid_check h
  | sassign e sid v => exact locIn_of_check h
  | sremove e sid => exact locIn_of_valid_check h
  | unlock =>
    intro h0
    simp only [opOkb, h0, ne_eq, not_true_eq_false, decide_false, Bool.false_or] at h
    exact packsLifeOK_of_check info _ _ h
  | _ => trivial

def runOkb : WM → List (Op Handle) → Bool
  | w, [] => keysOKb w
  | w, op :: ops => keysOKb w && opOkb info w op && runOkb (w.step info op).1 ops

theorem runOk_of_check (ops : List (Op Handle)) (w : WM) (h : runOkb info w ops = true) : RunOk info w ops := by
  induction ops generalizing w with
  | nil => exact masksOk_of_keys (keysOK_of_check h)
  | cons op ops ih =>
    simp only [runOkb, Bool.and_eq_true] at h
    exact ⟨⟨masksOk_of_keys (keysOK_of_check h.1.1), opOk_of_check info w op h.1.2⟩, ih _ h.2⟩

end Mustache.Proofs.Life
