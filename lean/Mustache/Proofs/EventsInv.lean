import Mustache.Proofs.EventsSlot
import Mustache.Spec.Events
/-!
Invariant of the event-manager model, the simulation relation model ↔ specification, and what the
building blocks of the operations (`subscribe_`, `EventManager::unsubscribe`,
`Receiver::unsubscribe`) do to both.
-/
namespace Mustache.Proofs.Events
open Mustache.Model.Events

abbrev SState := Mustache.Spec.Events.State

structure Inv (s : State) : Prop where
  bounded : SlotsBounded s
  /-- whoever is stored in the list of `(m, T)` is a live receiver of type `T` whose `events_` points to `m` -/
  info : ∀ (m : Nat) (T : TypeName) (r : Nat), r ∈ lookup s m T →
    ∃ ri, s.rcvs[r]? = some ri ∧ ri.alive = true ∧ ri.ty = T ∧ ri.home = some m
  nodup : ∀ (m : Nat) (T : TypeName), (lookup s m T).Nodup

structure Sim (s : State) (sp : SState) : Prop where
  nMgr : sp.nMgr = s.mgrs.length
  nRcv : sp.nRcv = s.rcvs.length
  rty : ∀ (r : Nat) (ri : RcvInfo), s.rcvs[r]? = some ri → sp.rty r = ri.ty
  subs : ∀ (m : Nat) (T : Model.Events.TypeName), sp.subs m T = lookup s m T

theorem inv_init : Inv State.init :=
  ⟨fun _ _ h => (nomatch h), fun _ _ _ h => (nomatch h), fun _ _ => List.nodup_nil⟩

theorem sim_init : Sim State.init Mustache.Spec.Events.State.init :=
  ⟨rfl, rfl, fun _ _ h => (nomatch h), fun _ _ => rfl⟩

section
variable {s s' : State} {sp : SState} {m r : Nat} {T : Model.Events.TypeName} {ri : RcvInfo}

theorem Inv.home (hI : Inv s) (hri : s.rcvs[r]? = some ri) (h : r ∈ lookup s m T) :
    ri.home = some m ∧ ri.ty = T := by
  rcases hI.info m T r h with ⟨ri', hri', _, hty, hhome⟩
  cases hri.symm.trans hri'
  exact ⟨hhome, hty⟩

theorem single_home (hI : Inv s) {m' : Nat} {T' : Model.Events.TypeName}
    (h : r ∈ lookup s m T) (h' : r ∈ lookup s m' T') : m' = m ∧ T' = T := by
  rcases hI.info m T r h with ⟨ri, hri, _⟩
  have h1 := hI.home hri h
  have h2 := hI.home hri h'
  exact ⟨Option.some.inj (h2.1.symm.trans h1.1), h2.2.symm.trans h1.2⟩

theorem subscribedAtHome_false_iff (hI : Inv s) :
    subscribedAtHome s r = false ↔ ∀ m T, r ∉ lookup s m T := by
  unfold subscribedAtHome
  constructor
  · intro hn m T hmem
    rcases hI.info m T r hmem with ⟨ri, hri, _, hty, hhome⟩
    simp only [hri, hhome, hty, List.contains_iff_mem.mpr hmem] at hn
    cases hn
  · intro hall
    cases hri : s.rcvs[r]? with
    | none => rfl
    | some ri =>
      dsimp only
      cases hh : ri.home with
      | none => rfl
      | some m => exact Bool.eq_false_iff.mpr fun h => hall m ri.ty (List.contains_iff_mem.mp h)

/-- The invariant survives whenever no list gains a member and the remaining members keep their
records — all the invariant says is about the members of the lists. -/
theorem Inv.of_sublist (hI : Inv s) (hb : SlotsBounded s')
    (hl : ∀ m T, (lookup s' m T).Sublist (lookup s m T))
    (hr : ∀ m T r, r ∈ lookup s' m T → s'.rcvs[r]? = s.rcvs[r]?) : Inv s' :=
  ⟨hb, fun m T r h => hr m T r h ▸ hI.info m T r ((hl m T).subset h),
    fun m T => (hl m T).nodup (hI.nodup m T)⟩

theorem Inv.set_rcv (hI : Inv s) (hfree : ∀ m T, r ∉ lookup s m T) (x : RcvInfo) :
    Inv { s with rcvs := s.rcvs.set r x } :=
  hI.of_sublist hI.bounded (fun _ _ => List.Sublist.refl _)
    fun m T r' h => List.getElem?_set_ne fun (e : r = r') => hfree m T (e ▸ h)

theorem Sim.of_subs {subs : Nat → Model.Events.TypeName → List Rcv} (hS : Sim s sp)
    (hm : s'.mgrs.length = s.mgrs.length) (hr : s'.rcvs = s.rcvs) (h : ∀ m T, subs m T = lookup s' m T) :
    Sim s' { sp with subs := subs } :=
  ⟨hS.nMgr.trans hm.symm, hr ▸ hS.nRcv, hr ▸ hS.rty, h⟩

theorem Sim.set_rcv (hS : Sim s sp) {ri' : RcvInfo} (hri : s.rcvs[r]? = some ri) (hty : ri'.ty = ri.ty) :
    Sim { s with rcvs := s.rcvs.set r ri' } sp := by
  refine ⟨hS.nMgr, hS.nRcv.trans List.length_set.symm, fun r' x hx => ?_, hS.subs⟩
  by_cases hr : r = r'
  · subst hr
    rw [List.getElem?_set_self (List.getElem?_eq_some_iff.mp hri).1] at hx
    cases hx
    exact (hS.rty r ri hri).trans hty.symm
  · rw [List.getElem?_set_ne hr] at hx
    exact hS.rty r' x hx

end


def afterSubscribe (s : State) (m : Nat) (mg : Mgr) (r : Nat) (ri : RcvInfo) : State :=
  { afterSlot s m mg ri.ty (· ++ [r]) with rcvs := s.rcvs.set r { ri with home := some m } }

section
variable {s : State} {m : Nat} {mg : Mgr} {r : Nat} {ri : RcvInfo}
  (hI : Inv s) (hmg : s.mgrs[m]? = some mg) (ha : mg.alive = true)
include hmg

theorem doSubscribe_eq : doSubscribe s m r ri = some (afterSubscribe s m mg r ri) := by
  unfold doSubscribe
  rw [withSlot_eq _ _ hmg]
  rfl

theorem doUnsubscribeAt_eq : doUnsubscribeAt s m r ri = some (afterSlot s m mg ri.ty (·.erase r)) := by
  unfold doUnsubscribeAt
  rw [withSlot_eq _ _ hmg]

include hI ha

theorem inv_afterSlot {T : Model.Events.TypeName} {f : List Rcv → List Rcv} (hf : ∀ l, (f l).Sublist l) :
    Inv (afterSlot s m mg T f) := by
  refine hI.of_sublist (afterSlot_bounded T f hI.bounded hmg) (fun m' T' => ?_) (fun _ _ _ _ => rfl)
  rw [lookup_afterSlot T f hI.bounded hmg ha]
  split
  · exact hf _
  · exact List.Sublist.refl _

theorem lookup_afterErase {T : Model.Events.TypeName} (m' : Nat) (T' : Model.Events.TypeName) :
    lookup (afterSlot s m mg T (·.erase r)) m' T' =
      if m' = m ∧ T' = T then (lookup s m' T').filter (· != r) else lookup s m' T' := by
  rw [lookup_afterSlot T _ hI.bounded hmg ha, (hI.nodup m' T').erase_eq_filter r]

theorem inv_afterSubscribe (hri : s.rcvs[r]? = some ri) (hra : ri.alive = true)
    (hfree : ∀ m' T', r ∉ lookup s m' T') : Inv (afterSubscribe s m mg r ri) := by
  -- an old member keeps its record, since `r` was no member; the new member is `r` itself
  have hI' := hI.set_rcv hfree { ri with home := some m }
  have hl : ∀ m' T', lookup (afterSubscribe s m mg r ri) m' T' =
      if m' = m ∧ T' = ri.ty then lookup s m' T' ++ [r] else lookup s m' T' :=
    lookup_afterSlot ri.ty (· ++ [r]) hI.bounded hmg ha
  refine ⟨afterSlot_bounded ri.ty (· ++ [r]) hI.bounded hmg, fun m' T' r' hmem => ?_, fun m' T' => ?_⟩
  · rw [hl] at hmem
    split at hmem
    · next h =>
      rcases List.mem_append.mp hmem with hold | hnew
      · exact hI'.info m' T' r' hold
      · rw [List.mem_singleton.mp hnew, h.1, h.2]
        exact ⟨_, List.getElem?_set_self (List.getElem?_eq_some_iff.mp hri).1, hra, rfl, rfl⟩
    · exact hI'.info m' T' r' hmem
  · rw [hl]
    split
    · exact List.nodup_append.mpr ⟨hI.nodup m' T', List.pairwise_singleton _ r,
        fun a ha' b hb e => hfree m' T' (List.mem_singleton.mp hb ▸ e ▸ ha')⟩
    · exact hI.nodup m' T'

/-- `T` and `r'` are the specification's names for the type and the ordinal of the receiver. -/
theorem sim_afterSubscribe {sp : SState} (hS : Sim s sp) (hri : s.rcvs[r]? = some ri)
    {T : Model.Events.TypeName} (hT : T = ri.ty) {r' : Nat} (hr' : r' = r) :
    Sim (afterSubscribe s m mg r ri) { sp with subs := Mustache.Spec.Events.addSub sp.subs m T r' } := by
  refine Sim.set_rcv (s := afterSlot s m mg ri.ty (· ++ [r]))
    (hS.of_subs List.length_set rfl fun m' T' => ?_) hri rfl
  rw [lookup_afterSlot _ _ hI.bounded hmg ha, ← hS.subs, hT, hr']
  rfl

end


/-- `s1` is `s` after `Receiver::unsubscribe()` on `r`: `EventManager::unsubscribe` on the manager
`events_` points to if that is alive, nothing otherwise -/
def Unsubscribed (s : State) (r : Nat) (ri : RcvInfo) (s1 : State) : Prop :=
  (s1 = s ∧ ∀ m, ri.home = some m → mgrAlive s m = false) ∨
  ∃ m mg, ri.home = some m ∧ s.mgrs[m]? = some mg ∧ mg.alive = true ∧
    s1 = afterSlot s m mg ri.ty (·.erase r)

/-- `Receiver::unsubscribe()` never fails -/
theorem doUnsubscribe_eq (s : State) (r : Nat) (ri : RcvInfo) :
    ∃ s1, doUnsubscribe s r ri = some s1 ∧ Unsubscribed s r ri s1 := by
  unfold doUnsubscribe
  cases hh : ri.home with
  | none => exact ⟨s, rfl, Or.inl ⟨rfl, fun _ h => nomatch hh.symm.trans h⟩⟩
  | some m =>
    dsimp only
    cases hm : mgrAlive s m with
    | false => exact ⟨s, rfl, Or.inl ⟨rfl, fun _ h => Option.some.inj (hh.symm.trans h) ▸ hm⟩⟩
    | true =>
      rcases mgrAlive_iff.mp hm with ⟨mg, hmg, ha⟩
      exact ⟨_, doUnsubscribeAt_eq hmg, Or.inr ⟨m, mg, hh, hmg, ha, rfl⟩⟩


section
variable {s s1 : State} {r : Nat} {ri : RcvInfo} (h : Unsubscribed s r ri s1)
include h

theorem Unsubscribed.rcvs : s1.rcvs = s.rcvs := by
  rcases h with ⟨rfl, _⟩ | ⟨_, _, _, _, _, rfl⟩ <;> rfl

theorem Unsubscribed.spec (hI : Inv s) (hri : s.rcvs[r]? = some ri) :
    Inv s1 ∧ s1.mgrs.length = s.mgrs.length ∧
      ∀ m' T', lookup s1 m' T' = (lookup s m' T').filter (· != r) := by
  have hfilter : ∀ m' T', r ∉ lookup s m' T' → lookup s m' T' = (lookup s m' T').filter (· != r) :=
    fun m' T' hn => (List.erase_of_not_mem hn).symm.trans ((hI.nodup m' T').erase_eq_filter r)
  rcases h with ⟨rfl, hdead⟩ | ⟨m, mg, hh, hmg, ha, rfl⟩
  · -- a list that holds `r` belongs to a live manager, and that manager would be its home
    refine ⟨hI, rfl, fun m' T' => hfilter m' T' fun hmem => ?_⟩
    have hd := hdead m' (hI.home hri hmem).1
    rw [mgrAlive_of_mem_lookup hmem] at hd
    cases hd
  · -- only the list its record names can hold `r`
    refine ⟨inv_afterSlot hI hmg ha fun _ => List.erase_sublist, List.length_set, fun m' T' => ?_⟩
    rw [lookup_afterErase hI hmg ha]
    split
    · rfl
    · next hne =>
      refine hfilter m' T' fun hmem => hne ?_
      have hr := hI.home hri hmem
      exact ⟨Option.some.inj (hr.1.symm.trans hh), hr.2.symm⟩

end

end Mustache.Proofs.Events
