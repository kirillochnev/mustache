import Mustache.Proofs.IterFilter
import Mustache.Proofs.IterIndex

/-! Run-level lemmas: everything `runJob` produces, for every run mode and task count. -/
namespace Mustache.Iteration

theorem assignStarts_arrays (fr : List FA) (b : Bool) (ts : List TaskInfo) : ∀ (k s : Nat),
    (assignStarts fr b ts k s).flatMap (·.arrays) = ts.flatMap (taskArrays fr) := by
  induction ts with
  | nil => exact fun _ _ => rfl
  | cons t rest ih => exact fun k s => congrArg (taskArrays fr t ++ ·) (ih ..)

theorem assignStarts_mem (fr : List FA) (b : Bool) (ts : List TaskInfo) : ∀ (k s : Nat),
    ∀ x ∈ assignStarts fr b ts k s, ∃ t ∈ ts, x.arrays = taskArrays fr t ∧ x.size = t.size := by
  induction ts with
  | nil => exact fun _ _ => List.forall_mem_nil _
  | cons t rest ih =>
    refine fun k s => List.forall_mem_cons.mpr ⟨⟨t, List.mem_cons_self, rfl, rfl⟩, fun x hx => ?_⟩
    obtain ⟨t', h1, h2⟩ := ih _ _ x hx
    exact ⟨t', List.mem_cons_of_mem _ h1, h2⟩

theorem assignStarts_starts (fr : List FA) (ts : List TaskInfo) : ∀ (k s : Nat)
    (pre : List TaskOut) (x : TaskOut) (post : List TaskOut),
    assignStarts fr true ts k s = pre ++ x :: post →
    x.start = s + (pre.map (·.size)).sum ∧ x.id = k + pre.length := by
  induction ts with
  | nil => exact fun _ _ pre x post h =>
      absurd h.symm (List.append_ne_nil_of_right_ne_nil _ (List.cons_ne_nil _ _))
  | cons t rest ih =>
    intro k s pre x post h
    rw [assignStarts, if_pos rfl] at h
    cases pre with
    | nil =>
      obtain ⟨rfl, -⟩ := List.cons.inj h
      exact ⟨rfl, rfl⟩
    | cons y pre' =>
      obtain ⟨rfl, h'⟩ := List.cons.inj h
      have := ih (k + 1) (s + t.size) pre' x post h'
      rw [List.map_cons, List.sum_cons, List.length_cons]
      exact ⟨this.1.trans (Nat.add_assoc ..), this.2.trans (by rw [Nat.add_assoc, Nat.add_comm 1])⟩

theorem invocations_cons (o : TaskOut) (outs : List TaskOut) :
    invocations (o :: outs) = arraysInvs o.id o.start o.arrays 0 ++ invocations outs := rfl

theorem ntCalls_cons (o : TaskOut) (outs : List TaskOut) :
    ntCalls (o :: outs) = arraysNt o.id o.start o.arrays 0 ++ ntCalls outs := rfl

theorem assignStarts_spec (fr : List FA) (ts : List TaskInfo) : ∀ (k s : Nat),
    (∀ t ∈ ts, arraysLen (taskArrays fr t) = t.size) →
    let outs := assignStarts fr true ts k s
    let arrs := ts.flatMap (taskArrays fr)
    (invocations outs).map (fun v => (v.arch, v.idx)) = arrs.flatMap Arr.expand ∧
    (invocations outs).map (·.eindex) = List.range' s (arraysLen arrs) ∧
    (ntCalls outs).flatMap (fun c => Arr.expand ⟨c.arch, c.first, c.len⟩) = arrs.flatMap Arr.expand ∧
    (ntCalls outs).flatMap (fun c => List.range' c.eindex c.len) = List.range' s (arraysLen arrs) := by
  induction ts with
  | nil => exact fun _ _ _ => ⟨rfl, rfl, rfl, rfl⟩
  | cons t rest ih =>
    intro k s h
    obtain ⟨r1, r2, r3, r4⟩ := ih (k + 1) (s + t.size) (fun x hx => h x (List.mem_cons_of_mem _ hx))
    obtain ⟨a1, _, a3, _⟩ := arraysInvs_spec k s (taskArrays fr t) 0
    obtain ⟨n1, n2, _, _⟩ := arraysNt_spec k s (taskArrays fr t) 0
    rw [assignStarts, if_pos rfl]
    simp only [invocations_cons, ntCalls_cons, List.flatMap_cons, List.map_append, List.flatMap_append,
      arraysLen_append, ← List.range'_append_1]
    rw [h t List.mem_cons_self] at a3 n2 ⊢
    exact ⟨by rw [a1, r1], by rw [a3, r2]; rfl, by rw [n1, r3], by rw [n2, r4]; rfl⟩

/-- the tasks a run is made of, whatever the mode -/
def runTaskInfos (mode : Mode) (fr : List FA) (taskCount : Nat) : List TaskInfo :=
  match mode with
  | .current => runTasks fr 1
  | _ => runTasks fr (max 1 taskCount)

theorem runJob_eq (mode : Mode) (fr : List FA) (taskCount : Nat) (hpos : ¬ totalCount fr < 1) :
    runJob mode fr taskCount = assignStarts fr true (runTaskInfos mode fr taskCount) 0 0 := by
  cases mode <;> simp only [runJob, hpos, if_false, runTaskInfos]
  -- one task on the current thread: whether the start index is bumped after it does not matter
  rfl

theorem runTaskInfos_spec (mode : Mode) (fr : List FA) (hwf : ∀ fa ∈ fr, fa.WF) (taskCount : Nat) :
    ((runTaskInfos mode fr taskCount).flatMap (taskArrays fr)).flatMap Arr.expand = gsel fr ∧
    ∀ t ∈ runTaskInfos mode fr taskCount,
      arraysLen (taskArrays fr t) = t.size ∧ ∀ p ∈ taskPieces fr t, PieceOK fr p := by
  cases mode
  · exact runTasks_spec hwf (Nat.le_refl _)
  · exact runTasks_spec hwf (Nat.le_max_left _ _)
  · exact runTasks_spec hwf (Nat.le_max_left _ _)

/-- Everything C04 claims of a run, about the selected sequence `gsel fr` of any well-formed filter result;
`Props/C04.lean` puts `applyFilter` in (`applyFilter_spec`: its `gsel` is the reference `selected`). -/
theorem runJob_spec (fr : List FA) (hwf : ∀ fa ∈ fr, fa.WF) (mode : Mode) (taskCount : Nat) :
    let outs := runJob mode fr taskCount
    (outs.flatMap (·.arrays)).flatMap Arr.expand = gsel fr ∧
    (∀ t ∈ outs, arraysLen t.arrays = t.size ∧
      ∀ x ∈ t.arrays, ∃ fa ∈ fr, x.arch = fa.arch ∧ ArrOK fa (x.first, x.len)) ∧
    (invocations outs).map (fun v => (v.arch, v.idx)) = gsel fr ∧
    (invocations outs).map (·.eindex) = List.range (gsel fr).length ∧
    (ntCalls outs).flatMap (fun c => Arr.expand ⟨c.arch, c.first, c.len⟩) = gsel fr ∧
    (ntCalls outs).flatMap (fun c => List.range' c.eindex c.len) = List.range (gsel fr).length ∧
    ∀ pre x post, outs = pre ++ x :: post → x.start = (pre.map (·.size)).sum ∧ x.id = pre.length := by
  by_cases h0 : totalCount fr < 1
  · -- nothing selected: no task is run
    have hnil : gsel fr = [] := List.eq_nil_of_length_eq_zero ((length_gsel fr hwf).trans (Nat.lt_one_iff.mp h0))
    have hrun : runJob mode fr taskCount = [] := if_pos h0
    simp only [hrun, hnil]
    exact ⟨rfl, List.forall_mem_nil _, rfl, rfl, rfl, rfl,
      fun pre x post h => absurd h.symm (List.append_ne_nil_of_right_ne_nil _ (List.cons_ne_nil _ _))⟩
  · obtain ⟨g1, g2⟩ := runTaskInfos_spec mode fr hwf taskCount
    obtain ⟨s1, s2, s3, s4⟩ := assignStarts_spec fr (runTaskInfos mode fr taskCount) 0 0 (fun t ht => (g2 t ht).1)
    rw [g1] at s1 s3
    rw [← length_flatMap_expand, g1, ← List.range_eq_range'] at s2 s4
    simp only [runJob_eq mode fr taskCount h0]
    refine ⟨?_, fun t ht => ?_, s1, s2, s3, s4, fun pre x post hpre => ?_⟩
    · rw [assignStarts_arrays, g1]
    · obtain ⟨ti, hti, harr, hsz⟩ := assignStarts_mem fr true _ _ _ t ht
      rw [harr, hsz]
      refine ⟨(g2 ti hti).1, fun x hx => ?_⟩
      obtain ⟨p, hp, hxp⟩ := List.mem_flatMap.mp hx
      have hpok := (g2 ti hti).2 p hp
      exact ⟨_, getD_mem hpok.1 _, (pieceArrays_spec hwf p hpok).2 x hxp⟩
    · have := assignStarts_starts fr _ 0 0 pre x post hpre
      rwa [Nat.zero_add, Nat.zero_add] at this

end Mustache.Iteration
