import Mustache.Proofs.RowsMask
import Mustache.Proofs.WorldArch
/-!
# Rows / locations of the world model: the invariant and what an operation may change (C02, basis)

`RowsOK w`: every row has one value per mask entry, and the location table points back at every row
(`locs[row.ent.id] = (archetype, index)`), which also makes ids unique over all rows. `KeysOK w`: masks
are sorted and (mask, shared instances) identifies the archetype. `Step w w' id`: both survive, and
nobody but the entity with id `id` is affected. Also: accessor lemmas for `setArch` / `setLoc`, and the
insertion of a row (`insertRow`).
-/
namespace Mustache.Proofs.Rows
open Mustache.Model

/-- the id of the null handle (all ones in 30 bits): `setLoc` ignores it -/
def nullId : Nat := 2^30 - 1

/-- the value `Archetype::remove` leaves in a cleared location's index -/
def noIdx : Nat := 2^32 - 1

theorem arch_def (w : WM) (i : Nat) : w.arch i = w.archs.getD i ⟨[], Shared.null, []⟩ := rfl

theorem arch_congr {w w' : WM} (h : w'.archs = w.archs) (i : Nat) : w'.arch i = w.arch i := by
  rw [arch_def, h]; rfl

theorem arch_of_ge (w : WM) (i : Nat) (h : w.archs.length ≤ i) : w.arch i = ⟨[], Shared.null, []⟩ :=
  arch_ge h

theorem lt_of_row {w : WM} {ai i : Nat} {r : Row} (h : (w.arch ai).rows[i]? = some r) :
    ai < w.archs.length := by
  apply Classical.byContradiction
  intro hn
  rw [arch_of_ge w ai (Nat.le_of_not_lt hn)] at h
  cases h

theorem idx_lt_of_row {w : WM} {ai i : Nat} {r : Row} (h : (w.arch ai).rows[i]? = some r) :
    i < (w.arch ai).rows.length :=
  (List.getElem?_eq_some_iff.mp h).1

theorem arch_setArch_same (w : WM) (i : Nat) (a : Arch) (h : i < w.archs.length) :
    (w.setArch i a).arch i = a := by
  simp [WM.setArch, arch_def, List.getD_eq_getElem?_getD, List.getElem?_set_self h]

theorem arch_setArch_ne (w : WM) (i j : Nat) (a : Arch) (h : j ≠ i) :
    (w.setArch i a).arch j = w.arch j := by
  simp [WM.setArch, arch_def, List.getD_eq_getElem?_getD, List.getElem?_set_ne (Ne.symm h)]

theorem archs_length_setArch (w : WM) (i : Nat) (a : Arch) :
    (w.setArch i a).archs.length = w.archs.length := by
  simp [WM.setArch]

theorem locs_setArch (w : WM) (i : Nat) (a : Arch) : (w.setArch i a).locs = w.locs := rfl

/-- replacing the rows of an archetype leaves every mask and shared descriptor alone (also when `i`
names no archetype: then nothing is written) -/
theorem setArch_rows_key (w : WM) (i : Nat) (rows : List Row) (j : Nat) :
    ((w.setArch i { w.arch i with rows := rows }).arch j).mask = (w.arch j).mask ∧
    ((w.setArch i { w.arch i with rows := rows }).arch j).shared = (w.arch j).shared := by
  by_cases hj : j = i
  · subst hj
    by_cases hlt : j < w.archs.length
    · rw [arch_setArch_same _ _ _ hlt]; exact ⟨rfl, rfl⟩
    · rw [arch_of_ge _ j (by rw [archs_length_setArch]; exact Nat.le_of_not_lt hlt),
        arch_of_ge w j (Nat.le_of_not_lt hlt)]
      exact ⟨rfl, rfl⟩
  · rw [arch_setArch_ne _ _ _ _ hj]; exact ⟨rfl, rfl⟩

theorem archs_setLoc (w : WM) (h : Handle) (a : Option Nat) (i : Nat) :
    (w.setLoc h a i).archs = w.archs := by
  unfold WM.setLoc; split <;> rfl

theorem arch_setLoc (w : WM) (h : Handle) (a : Option Nat) (i j : Nat) :
    (w.setLoc h a i).arch j = w.arch j := by
  simp [arch_def, archs_setLoc]

theorem locs_setLoc (w : WM) (h : Handle) (a : Option Nat) (i : Nat) :
    (w.setLoc h a i).locs = if h.id = nullId then w.locs else w.locs.set h.id ⟨a, i⟩ := by
  unfold WM.setLoc nullId; split <;> rfl

theorem locs_length_setLoc (w : WM) (h : Handle) (a : Option Nat) (i : Nat) :
    (w.setLoc h a i).locs.length = w.locs.length := by
  rw [locs_setLoc]; split <;> simp

theorem locs_setLoc_get (w : WM) (h : Handle) (a : Option Nat) (i id : Nat) (hn : h.id ≠ nullId) :
    (w.setLoc h a i).locs[id]? =
      if h.id = id then (if id < w.locs.length then some ⟨a, i⟩ else none) else w.locs[id]? := by
  rw [locs_setLoc, if_neg hn, List.getElem?_set]
  by_cases hid : h.id = id
  · subst hid; simp
  · simp [hid]

/-- the fields `setLoc` / `setArch` do not touch -/
structure SameTable (w w' : WM) : Prop where
  worldId : w'.worldId = w.worldId
  slots : w'.slots = w.slots
  next : w'.next = w.next
  empty : w'.empty = w.empty
  deps : w'.deps = w.deps
  pool : w'.pool = w.pool
  nextInst : w'.nextInst = w.nextInst
  lockDepth : w'.lockDepth = w.lockDepth
  nextEntityId : w'.nextEntityId = w.nextEntityId
  nthreads : w'.nthreads = w.nthreads
  buffers : w'.buffers = w.buffers
  marked : w'.marked = w.marked
  temps : w'.temps = w.temps

theorem sameTable_update (w : WM) (l : List Loc) (a : List Arch) : SameTable w { w with locs := l, archs := a } :=
  ⟨rfl, rfl, rfl, rfl, rfl, rfl, rfl, rfl, rfl, rfl, rfl, rfl, rfl⟩

theorem SameTable.refl (w : WM) : SameTable w w := sameTable_update w w.locs w.archs

theorem SameTable.trans {a b c : WM} (h₁ : SameTable a b) (h₂ : SameTable b c) : SameTable a c :=
  ⟨h₂.worldId.trans h₁.worldId, h₂.slots.trans h₁.slots, h₂.next.trans h₁.next,
   h₂.empty.trans h₁.empty, h₂.deps.trans h₁.deps, h₂.pool.trans h₁.pool,
   h₂.nextInst.trans h₁.nextInst, h₂.lockDepth.trans h₁.lockDepth,
   h₂.nextEntityId.trans h₁.nextEntityId, h₂.nthreads.trans h₁.nthreads,
   h₂.buffers.trans h₁.buffers, h₂.marked.trans h₁.marked, h₂.temps.trans h₁.temps⟩

theorem sameTable_setArch (w : WM) (i : Nat) (a : Arch) : SameTable w (w.setArch i a) :=
  sameTable_update w w.locs _

theorem sameTable_setLoc (w : WM) (h : Handle) (a : Option Nat) (i : Nat) :
    SameTable w (w.setLoc h a i) := by
  unfold WM.setLoc; split <;> exact sameTable_update w _ w.archs

theorem SameTable.isValid {w w' : WM} (h : SameTable w w') (e : Handle) : w'.isValid e = w.isValid e := by
  unfold WM.isValid; rw [h.worldId, h.slots]

theorem SameTable.isLocked {w w' : WM} (h : SameTable w w') : w'.isLocked = w.isLocked := by
  unfold WM.isLocked; rw [h.lockDepth]

structure RowsOK (w : WM) : Prop where
  vals : ∀ (ai i : Nat) (r : Row), (w.arch ai).rows[i]? = some r →
    r.vals.length = (w.arch ai).mask.length
  loc : ∀ (ai i : Nat) (r : Row), (w.arch ai).rows[i]? = some r →
    r.ent.id ≠ nullId ∧ w.locs[r.ent.id]? = some ⟨some ai, i⟩

def NotInRow (w : WM) (id : Nat) : Prop :=
  ∀ (ai i : Nat) (r : Row), (w.arch ai).rows[i]? = some r → r.ent.id ≠ id

def InRowAt (w : WM) (e : Handle) (ai i : Nat) : Prop := ∃ r, (w.arch ai).rows[i]? = some r ∧ r.ent = e

theorem RowsOK.unique {w : WM} (h : RowsOK w) {ai i aj j : Nat} {r r' : Row}
    (h₁ : (w.arch ai).rows[i]? = some r) (h₂ : (w.arch aj).rows[j]? = some r')
    (hid : r.ent.id = r'.ent.id) : ai = aj ∧ i = j := by
  have a := (h.loc ai i r h₁).2
  have b := (h.loc aj j r' h₂).2
  rw [hid, b] at a
  simp at a
  exact ⟨a.1.symm, a.2.symm⟩

theorem RowsOK.locOf {w : WM} (h : RowsOK w) {ai i : Nat} {r : Row}
    (h₁ : (w.arch ai).rows[i]? = some r) : w.locOf r.ent = ⟨some ai, i⟩ := by
  unfold WM.locOf
  rw [List.getD_eq_getElem?_getD, (h.loc ai i r h₁).2]; rfl

theorem RowsOK.id_lt {w : WM} (h : RowsOK w) {ai i : Nat} {r : Row}
    (h₁ : (w.arch ai).rows[i]? = some r) : r.ent.id < w.locs.length :=
  (List.getElem?_eq_some_iff.mp (h.loc ai i r h₁).2).1

theorem rowsOK_init : RowsOK ({} : WM) :=
  ⟨fun _ _ _ h => absurd (lt_of_row h) (Nat.not_lt_zero _), fun _ _ _ h => absurd (lt_of_row h) (Nat.not_lt_zero _)⟩

theorem rowsOK_congr {w w' : WM} (ha : w'.archs = w.archs) (hl : w'.locs = w.locs) (hok : RowsOK w) :
    RowsOK w' := by
  constructor
  · intro ai i r hr; rw [arch_congr ha] at hr ⊢; exact hok.vals ai i r hr
  · intro ai i r hr; rw [arch_congr ha] at hr; rw [hl]; exact hok.loc ai i r hr

/-- every row of an entity other than `id` survives, in the same archetype (index, mask and shared
values unchanged), with the same values, and its location points at it -/
def KeepsOthers (w w' : WM) (id : Nat) : Prop :=
  ∀ (aj j : Nat) (r : Row), (w.arch aj).rows[j]? = some r → r.ent.id ≠ id →
    (∃ j' : Nat, (w'.arch aj).rows[j']? = some r ∧ w'.locs[r.ent.id]? = some ⟨some aj, j'⟩) ∧
    (w'.arch aj).mask = (w.arch aj).mask ∧ (w'.arch aj).shared = (w.arch aj).shared

theorem KeepsOthers.refl {w : WM} (hok : RowsOK w) (id : Nat) : KeepsOthers w w id :=
  fun aj j r hr _ => ⟨⟨j, hr, (hok.loc aj j r hr).2⟩, rfl, rfl⟩

theorem KeepsOthers.trans {a b c : WM} {id : Nat} (h₁ : KeepsOthers a b id) (h₂ : KeepsOthers b c id) :
    KeepsOthers a c id := by
  intro aj j r hr hne
  rcases h₁ aj j r hr hne with ⟨⟨j', hr', _⟩, hm, hs⟩
  rcases h₂ aj j' r hr' hne with ⟨hex, hm', hs'⟩
  exact ⟨hex, hm'.trans hm, hs'.trans hs⟩

/-- what an operation on the entity with id `id` may do to the others: rows kept (`KeepsOthers`) and
validity of every handle with another id unchanged -/
structure OpFrame (w w' : WM) (id : Nat) : Prop where
  keeps : KeepsOthers w w' id
  valid : ∀ h : Handle, h.id ≠ id → w'.isValid h = w.isValid h

theorem OpFrame.trans {a b c : WM} {id : Nat} (h₁ : OpFrame a b id) (h₂ : OpFrame b c id) :
    OpFrame a c id :=
  ⟨h₁.keeps.trans h₂.keeps, fun h hne => (h₂.valid h hne).trans (h₁.valid h hne)⟩

theorem OpFrame.refl {w : WM} (hok : RowsOK w) (id : Nat) : OpFrame w w id :=
  ⟨KeepsOthers.refl hok id, fun _ _ => rfl⟩

structure KeysOK (w : WM) : Prop where
  masks : ∀ ai, ai < w.archs.length → MaskOk (w.arch ai).mask
  distinct : ∀ ai aj, ai < w.archs.length → aj < w.archs.length →
    (w.arch ai).mask = (w.arch aj).mask → (w.arch ai).shared.data = (w.arch aj).shared.data → ai = aj

/-- also past the end of the table, where `arch` reads the empty archetype -/
theorem KeysOK.maskOk_arch {w : WM} (hk : KeysOK w) (a : Nat) : MaskOk (w.arch a).mask := by
  by_cases h : a < w.archs.length
  · exact hk.masks a h
  · rw [arch_of_ge w a (Nat.le_of_not_lt h)]; exact List.Pairwise.nil

theorem keysOK_init : KeysOK ({} : WM) :=
  ⟨fun _ h => absurd h (Nat.not_lt_zero _), fun _ _ h => absurd h (Nat.not_lt_zero _)⟩

structure KeysSame (w w' : WM) : Prop where
  alen : w'.archs.length = w.archs.length
  key : ∀ aj, (w'.arch aj).mask = (w.arch aj).mask ∧ (w'.arch aj).shared = (w.arch aj).shared

theorem KeysSame.refl (w : WM) : KeysSame w w := ⟨rfl, fun _ => ⟨rfl, rfl⟩⟩

theorem KeysSame.trans {a b c : WM} (h₁ : KeysSame a b) (h₂ : KeysSame b c) : KeysSame a c :=
  ⟨h₂.alen.trans h₁.alen, fun aj => ⟨(h₂.key aj).1.trans (h₁.key aj).1, (h₂.key aj).2.trans (h₁.key aj).2⟩⟩

theorem KeysSame.of_archs {w w' : WM} (h : w'.archs = w.archs) : KeysSame w w' :=
  ⟨by rw [h], fun aj => by rw [arch_congr h]; exact ⟨rfl, rfl⟩⟩

theorem KeysSame.keysOK {w w' : WM} (hs : KeysSame w w') (hk : KeysOK w) : KeysOK w' := by
  constructor
  · intro ai hai
    rw [(hs.key ai).1]; exact hk.masks ai (by rw [← hs.alen]; exact hai)
  · intro ai aj hai haj hm hd
    rw [(hs.key ai).1, (hs.key aj).1] at hm
    rw [(hs.key ai).2, (hs.key aj).2] at hd
    exact hk.distinct ai aj (by rw [← hs.alen]; exact hai) (by rw [← hs.alen]; exact haj) hm hd

structure Step (w w' : WM) (id : Nat) : Prop where
  ok : RowsOK w'
  frame : OpFrame w w' id
  llen : w.locs.length ≤ w'.locs.length
  /-- ids (other than `id`) that own no row still own none -/
  others : ∀ x, x ≠ id → NotInRow w x → NotInRow w' x
  /-- archetype keys stay sorted and pairwise distinct -/
  keys : KeysOK w → KeysOK w'

theorem Step.refl {w : WM} (hok : RowsOK w) (id : Nat) : Step w w id :=
  ⟨hok, OpFrame.refl hok id, Nat.le_refl _, fun _ _ h => h, fun h => h⟩

theorem Step.trans {a b c : WM} {id : Nat} (h₁ : Step a b id) (h₂ : Step b c id) : Step a c id :=
  ⟨h₂.ok, h₁.frame.trans h₂.frame, Nat.le_trans h₁.llen h₂.llen,
   fun x hx hn => h₂.others x hx (h₁.others x hx hn), fun h => h₂.keys (h₁.keys h)⟩

/-- archetypes and locations untouched, validity changed at most for handles with id `id` -/
theorem Step.of_tables {w w' : WM} (hok : RowsOK w) (id : Nat) (ha : w'.archs = w.archs)
    (hl : w'.locs = w.locs) (hs : ∀ h : Handle, h.id ≠ id → w'.isValid h = w.isValid h) : Step w w' id := by
  refine ⟨rowsOK_congr ha hl hok, ⟨?_, hs⟩, by rw [hl]; exact Nat.le_refl _, ?_,
    (KeysSame.of_archs ha).keysOK⟩
  · intro aj j r hr _
    rw [arch_congr ha, hl]; exact ⟨⟨j, hr, (hok.loc aj j r hr).2⟩, rfl, rfl⟩
  · intro x _ hn ai i r hr; rw [arch_congr ha] at hr; exact hn ai i r hr

theorem Step.of_same {w w' : WM} (hok : RowsOK w) (id : Nat) (ha : w'.archs = w.archs)
    (hl : w'.locs = w.locs) (hs : ∀ h, w'.isValid h = w.isValid h) : Step w w' id :=
  Step.of_tables hok id ha hl (fun h _ => hs h)

theorem pushCmd_step {w : WM} (hok : RowsOK w) (t : Nat) (c : Cmd) (id : Nat) : Step w (w.pushCmd t c) id :=
  Step.of_same hok id rfl rfl (fun _ => rfl)

def insertRow (w : WM) (ai : Nat) (e : Handle) (vals : List Val) : WM :=
  (w.setArch ai { w.arch ai with rows := (w.arch ai).rows ++ [⟨e, vals⟩] }).setLoc e (some ai)
    (w.arch ai).rows.length

theorem insertRow_sameTable (w : WM) (ai : Nat) (e : Handle) (vals : List Val) :
    SameTable w (insertRow w ai e vals) :=
  (sameTable_setArch _ _ _).trans (sameTable_setLoc _ _ _ _)

theorem insertRow_archs_length (w : WM) (ai : Nat) (e : Handle) (vals : List Val) :
    (insertRow w ai e vals).archs.length = w.archs.length := by
  simp [insertRow, archs_setLoc, archs_length_setArch]

theorem insertRow_locs_length (w : WM) (ai : Nat) (e : Handle) (vals : List Val) :
    (insertRow w ai e vals).locs.length = w.locs.length := by
  simp [insertRow, locs_length_setLoc, locs_setArch]

theorem insertRow_arch_same (w : WM) (ai : Nat) (e : Handle) (vals : List Val) (h : ai < w.archs.length) :
    (insertRow w ai e vals).arch ai = { w.arch ai with rows := (w.arch ai).rows ++ [⟨e, vals⟩] } := by
  simp [insertRow, arch_setLoc, arch_setArch_same _ _ _ h]

theorem insertRow_arch_ne (w : WM) (ai aj : Nat) (e : Handle) (vals : List Val) (h : aj ≠ ai) :
    (insertRow w ai e vals).arch aj = w.arch aj := by
  simp [insertRow, arch_setLoc, arch_setArch_ne _ _ _ _ h]

theorem insertRow_mask (w : WM) (ai aj : Nat) (e : Handle) (vals : List Val) :
    ((insertRow w ai e vals).arch aj).mask = (w.arch aj).mask ∧
    ((insertRow w ai e vals).arch aj).shared = (w.arch aj).shared := by
  unfold insertRow; rw [arch_setLoc]; exact setArch_rows_key w ai _ aj

theorem insertRow_rows (w : WM) (ai aj j : Nat) (e : Handle) (vals : List Val) (r : Row)
    (h : ai < w.archs.length) :
    ((insertRow w ai e vals).arch aj).rows[j]? = some r ↔
      (w.arch aj).rows[j]? = some r ∨ (aj = ai ∧ j = (w.arch ai).rows.length ∧ r = ⟨e, vals⟩) := by
  by_cases hj : aj = ai
  · subst hj
    rw [insertRow_arch_same _ _ _ _ h, getElem?_concat_eq_some]
    exact or_congr_right (and_iff_right rfl).symm
  · rw [insertRow_arch_ne _ _ _ _ _ hj]
    exact ⟨Or.inl, fun h' => h'.elim id (fun h' => absurd h'.1 hj)⟩

theorem insertRow_locs (w : WM) (ai : Nat) (e : Handle) (vals : List Val) (id : Nat)
    (hn : e.id ≠ nullId) :
    (insertRow w ai e vals).locs[id]? =
      if e.id = id then (if id < w.locs.length then some ⟨some ai, (w.arch ai).rows.length⟩ else none)
      else w.locs[id]? := by
  unfold insertRow
  rw [locs_setLoc_get _ _ _ _ _ hn]; rfl

theorem rowsOK_insertRow {w : WM} (hok : RowsOK w) (ai : Nat) (e : Handle) (vals : List Val)
    (hai : ai < w.archs.length) (hn : e.id ≠ nullId) (hlt : e.id < w.locs.length)
    (hfresh : NotInRow w e.id) (hvals : vals.length = (w.arch ai).mask.length) :
    RowsOK (insertRow w ai e vals) := by
  constructor
  · intro aj j r hr
    rw [(insertRow_mask w ai aj e vals).1]
    rcases (insertRow_rows w ai aj j e vals r hai).mp hr with hold | ⟨rfl, _, rfl⟩
    · exact hok.vals aj j r hold
    · exact hvals
  · intro aj j r hr
    rw [insertRow_locs w ai e vals _ hn]
    rcases (insertRow_rows w ai aj j e vals r hai).mp hr with hold | ⟨rfl, rfl, rfl⟩
    · have hne : e.id ≠ r.ent.id := fun h => hfresh aj j r hold h.symm
      rw [if_neg hne]
      exact hok.loc aj j r hold
    · simp [hn, hlt]

theorem insertRow_keepsOthers {w : WM} (hok : RowsOK w) (ai : Nat) (e : Handle) (vals : List Val)
    (hai : ai < w.archs.length) : KeepsOthers w (insertRow w ai e vals) e.id := by
  intro aj j r hr hne
  refine ⟨⟨j, (insertRow_rows w ai aj j e vals r hai).mpr (Or.inl hr), ?_⟩, insertRow_mask w ai aj e vals⟩
  by_cases hn : e.id = nullId
  · unfold insertRow
    rw [locs_setLoc, if_pos hn, locs_setArch]; exact (hok.loc aj j r hr).2
  · rw [insertRow_locs _ _ _ _ _ hn, if_neg (Ne.symm hne)]; exact (hok.loc aj j r hr).2

theorem insertRow_keysSame (w : WM) (ai : Nat) (e : Handle) (vals : List Val) :
    KeysSame w (insertRow w ai e vals) :=
  ⟨insertRow_archs_length w ai e vals, fun aj => insertRow_mask w ai aj e vals⟩

theorem insertRow_locOf_other (w : WM) (ai : Nat) (e : Handle) (vals : List Val) (h : Handle)
    (hne : h.id ≠ e.id) : (insertRow w ai e vals).locOf h = w.locOf h := by
  unfold WM.locOf insertRow
  rw [locs_setLoc, locs_setArch]
  split
  · rfl
  · rw [List.getD_eq_getElem?_getD, List.getD_eq_getElem?_getD, List.getElem?_set_ne (Ne.symm hne)]

theorem insertRow_locOf_self (w : WM) (ai : Nat) (e : Handle) (vals : List Val)
    (hn : e.id ≠ nullId) (hlt : e.id < w.locs.length) :
    (insertRow w ai e vals).locOf e = ⟨some ai, (w.arch ai).rows.length⟩ := by
  unfold WM.locOf
  rw [List.getD_eq_getElem?_getD, insertRow_locs _ _ _ _ _ hn]
  simp [hlt]

theorem archInsert_eq (info : CompId → CompInfo) (w : WM) (ai : Nat) (e : Handle) (skip : Mask) :
    ∃ vals, (w.archInsert info ai e skip).1 = insertRow w ai e vals ∧
      vals.length = (w.arch ai).mask.length :=
  ⟨_, rfl, by simp⟩

end Mustache.Proofs.Rows
