import Mustache.Model.Layout
/-! Helper lemmas for C10: the command-buffer allocator (`TemporalStorage::allocate`). One allocation is
characterised once (`allocate_spec`); the chunk table only grows at its newest end, and every later allocation
lies after every earlier one (`After`). -/
namespace Mustache.Proofs.LayoutTemp
open Mustache.Model.Layout

/-- `free_space ≤ capacity` in every chunk -/
def TInv (s : TState) : Prop := ∀ c ∈ s.chunks, c.free ≤ c.capacity

theorem used_take (c : TChunk) {n : Nat} (h₁ : n ≤ c.free) (h₂ : c.free ≤ c.capacity) :
    ({ c with free := c.free - n } : TChunk).used = c.used + n ∧ c.used + n ≤ c.capacity := by
  refine ⟨?_, Nat.le_trans (Nat.add_le_add_left h₁ _) (Nat.le_of_eq (Nat.sub_add_cancel h₂))⟩
  show c.capacity - (c.free - n) = c.capacity - c.free + n
  rw [Nat.sub_eq_iff_eq_add (Nat.le_trans (Nat.sub_le _ _) h₂), Nat.add_assoc, Nat.add_sub_cancel' h₁,
    Nat.sub_add_cancel h₂]

theorem padding_zero (c : TChunk) : padding 0 c = 0 := by simp [padding]

theorem padding_lt (align : Nat) (c : TChunk) (ha : 0 < align) : padding align c < align := by
  unfold padding
  split
  · exact ha
  · exact Nat.mod_lt _ ha

theorem padding_aligned (align : Nat) (c : TChunk) (ha : 0 < align) :
    (c.base + c.used + padding align c) % align = 0 := by
  unfold padding
  split
  · rw [Nat.le_antisymm (Nat.le_of_lt_succ ‹_›) ha]; exact Nat.mod_one _
  · generalize c.base + c.used = x
    -- modulo `align`, `x + (align - x % align)` is `x % align + (align - x % align) = align`
    rw [Nat.add_mod_mod, ← Nat.mod_add_mod, Nat.add_sub_cancel' (Nat.le_of_lt (Nat.mod_lt x ha)), Nat.mod_self]

theorem ensure_inv (s : TState) (nb size align : Nat) (hinv : TInv s) : TInv (ensure s nb size align) := by
  unfold ensure
  split
  · exact hinv
  · intro c hc
    rcases List.mem_cons.mp hc with rfl | hc
    · exact Nat.le_refl _
    · exact hinv c hc

/-! ### chunk table: `chunks` is newest first, so C++ index `k` counts from the end and survives a push -/

theorem getD_fromEnd_cons (c d : TChunk) (rest : List TChunk) {k : Nat} (hk : k < rest.length) :
    (c :: rest).getD ((c :: rest).length - 1 - k) d = rest.getD (rest.length - 1 - k) d := by
  have e : (c :: rest).length - 1 - k = (rest.length - 1 - k) + 1 := by
    rw [List.length_cons, Nat.add_sub_cancel, Nat.sub_right_comm, Nat.sub_add_cancel (Nat.sub_pos_of_lt hk)]
  rw [e, List.getD_cons_succ]

theorem getD_fromEnd_head (c d : TChunk) (rest : List TChunk) :
    (c :: rest).getD ((c :: rest).length - 1 - rest.length) d = c := by
  rw [List.length_cons, Nat.add_sub_cancel, Nat.sub_self]; rfl


def After (a b : TRes) : Prop := a.chunk < b.chunk ∨ (b.chunk = a.chunk ∧ a.offset + a.size ≤ b.offset)

theorem After.trans {a b c : TRes} (h₁ : After a b) (h₂ : After b c) : After a c := by
  rcases h₁ with l | ⟨e, l⟩ <;> rcases h₂ with l' | ⟨e', l'⟩
  · exact Or.inl (Nat.lt_trans l l')
  · exact Or.inl (e' ▸ l)
  · exact Or.inl (e ▸ l')
  · exact Or.inr ⟨e'.trans e, Nat.le_trans l (Nat.le_trans (Nat.le_add_right _ _) l')⟩

theorem After.disjoint {a b : TRes} (h : After a b) (e : a.chunk = b.chunk) : a.offset + a.size ≤ b.offset :=
  h.elim (fun lt => absurd e (Nat.ne_of_lt lt)) (·.2)

/-- `x` lies at or above the frontier of `s` (the used part of the newest chunk) -/
def Above (s : TState) (x : TRes) : Prop :=
  match s.chunks with
  | [] => True
  | c :: rest => After ⟨rest.length, c.used, 0⟩ x

def Sound (s : TState) (r : TReq) (x : TRes) : Prop :=
  x.chunk < s.chunks.length ∧ x.size = r.size ∧ x.offset + x.size ≤ chunkCapacity s x.chunk ∧
  (0 < r.align → (chunkBase s x.chunk + x.offset) % r.align = 0)

section
variable (s : TState) (nb size align : Nat) (hinv : TInv s)
include hinv

theorem ensure_head : ∃ c rest, (ensure s nb size align).chunks = c :: rest ∧ size + padding align c ≤ c.free ∧
    c.free ≤ c.capacity ∧ (s.chunks = c :: rest ∨ s.chunks = rest) := by
  unfold ensure
  by_cases hf : fits s size align = true
  · rw [if_pos hf]
    unfold fits at hf
    cases hs : s.chunks with
    | nil => rw [hs] at hf; exact absurd hf Bool.false_ne_true
    | cons c rest =>
      rw [hs] at hf
      refine ⟨c, rest, rfl, ?_, hinv c (hs ▸ List.mem_cons_self), Or.inl rfl⟩
      simpa using hf
  · rw [if_neg hf]
    have ht : size + align ≤ (if s.target < size + align then size + align else s.target) := by
      split
      · exact Nat.le_refl _
      · exact Nat.le_of_not_lt ‹_›
    dsimp only
    generalize (if s.target < size + align then size + align else s.target) = t at ht
    refine ⟨⟨nb, t, t⟩, s.chunks, rfl, ?_, Nat.le_refl _, Or.inr rfl⟩
    have hp : padding align ⟨nb, t, t⟩ ≤ align := by
      rcases Nat.eq_zero_or_pos align with h | h
      · subst h; exact Nat.le_of_eq (padding_zero _)
      · exact Nat.le_of_lt (padding_lt _ _ h)
    exact Nat.le_trans (Nat.add_le_add_left hp _) ht

/-- `c` is the newest chunk, from which the block is cut: the old newest one (`s.chunks = c :: rest`) or a fresh one
(`s.chunks = rest`). -/
theorem allocate_spec : ∃ (c : TChunk) (rest : List TChunk),
    size + padding align c ≤ c.free ∧ c.free ≤ c.capacity ∧ (s.chunks = c :: rest ∨ s.chunks = rest) ∧
    (allocate s nb size align).1.chunks = { c with free := c.free - (size + padding align c) } :: rest ∧
    (allocate s nb size align).2 = ⟨rest.length, c.used + padding align c, size⟩ := by
  rcases ensure_head s nb size align hinv with ⟨c, rest, hc, hfit, hcap, hsh⟩
  refine ⟨c, rest, hfit, hcap, hsh, ?_⟩
  unfold allocate
  simp only
  rw [hc]
  exact ⟨rfl, rfl⟩

theorem allocate_inv : TInv (allocate s nb size align).1 := by
  rcases allocate_spec s nb size align hinv with ⟨c, rest, _, hcap, hsh, hch, _⟩
  intro x hx
  rw [hch] at hx
  rcases List.mem_cons.mp hx with rfl | hx
  · exact Nat.le_trans (Nat.sub_le _ _) hcap
  · rcases hsh with h | h
    · exact hinv x (h ▸ List.mem_cons_of_mem _ hx)
    · exact hinv x (h ▸ hx)

theorem allocate_stable (k : Nat) (hk : k < s.chunks.length) :
    chunkBase (allocate s nb size align).1 k = chunkBase s k ∧
    chunkCapacity (allocate s nb size align).1 k = chunkCapacity s k ∧
    k < (allocate s nb size align).1.chunks.length := by
  rcases allocate_spec s nb size align hinv with ⟨c, rest, _, _, hsh, hch, _⟩
  unfold chunkBase chunkCapacity
  rw [hch]
  rcases hsh with h | h <;> rw [h] at hk ⊢
  · -- the newest chunk only had its `free` field rewritten
    by_cases hlast : k = rest.length
    · subst hlast
      rw [getD_fromEnd_head, getD_fromEnd_head]
      exact ⟨rfl, rfl, Nat.lt_succ_self _⟩
    · have hk2 : k < rest.length := Nat.lt_of_le_of_ne (Nat.le_of_lt_succ hk) hlast
      rw [getD_fromEnd_cons _ _ rest hk2, getD_fromEnd_cons c _ rest hk2]
      exact ⟨rfl, rfl, hk⟩
  · rw [getD_fromEnd_cons _ _ rest hk]
    exact ⟨rfl, rfl, Nat.lt_succ_of_lt hk⟩

theorem sound_step (r : TReq) (x : TRes) (h : Sound s r x) : Sound (allocate s nb size align).1 r x := by
  rcases h with ⟨h1, h2, h3, h4⟩
  have st := allocate_stable s nb size align hinv x.chunk h1
  exact ⟨st.2.2, h2, by rw [st.2.1]; exact h3, by rw [st.1]; exact h4⟩

theorem allocate_above : Above s (allocate s nb size align).2 := by
  rcases allocate_spec s nb size align hinv with ⟨c, rest, _, _, hsh, _, hres⟩
  rw [hres]
  unfold Above
  rcases hsh with h | h <;> rw [h]
  · exact Or.inr ⟨rfl, Nat.le_add_right _ _⟩
  · cases rest with
    | nil => trivial
    | cons d r => exact Or.inl (Nat.lt_succ_self _)

/-- after an allocation the frontier is the end of the block just handed out -/
theorem above_allocate (x : TRes) (h : Above (allocate s nb size align).1 x) : After (allocate s nb size align).2 x := by
  rcases allocate_spec s nb size align hinv with ⟨c, rest, hfit, hcap, _, hch, hres⟩
  unfold Above at h
  rw [hch] at h
  rw [hres]
  dsimp only at h
  rw [(used_take c hfit hcap).1, Nat.add_comm size, ← Nat.add_assoc] at h
  exact h

theorem above_mono (x : TRes) (h : Above (allocate s nb size align).1 x) : Above s x := by
  have h₁ := allocate_above s nb size align hinv
  have h₂ := above_allocate s nb size align hinv x h
  unfold Above at h₁ ⊢
  split at h₁
  · trivial
  · exact h₁.trans h₂

end

theorem sound_alloc (s : TState) (r : TReq) (hinv : TInv s) :
    Sound (allocate s r.nb r.size r.align).1 r (allocate s r.nb r.size r.align).2 := by
  rcases allocate_spec s r.nb r.size r.align hinv with ⟨c, rest, hfit, hcap, _, hch, hres⟩
  unfold Sound chunkBase chunkCapacity
  rw [hres, hch, getD_fromEnd_head]
  refine ⟨Nat.lt_succ_self _, rfl, ?_, fun hpos => ?_⟩
  · dsimp only
    rw [Nat.add_assoc, Nat.add_comm (padding _ _)]
    exact (used_take c hfit hcap).2
  · dsimp only
    rw [← Nat.add_assoc]
    exact padding_aligned r.align c hpos


theorem run_length (s : TState) (rs : List TReq) : (runAllocs s rs).2.length = rs.length := by
  induction rs generalizing s with
  | nil => rfl
  | cons r rs ih => exact congrArg (· + 1) (ih _)

section
variable (s : TState) (rs : List TReq) (hinv : TInv s)
include hinv

theorem run_inv : TInv (runAllocs s rs).1 := by
  induction rs generalizing s with
  | nil => exact hinv
  | cons r rs ih => exact ih _ (allocate_inv s r.nb r.size r.align hinv)

theorem run_above : ∀ x ∈ (runAllocs s rs).2, Above s x := by
  induction rs generalizing s with
  | nil => exact fun x hx => absurd hx List.not_mem_nil
  | cons r rs ih =>
    intro x hx
    rcases List.mem_cons.mp hx with rfl | hx
    · exact allocate_above s r.nb r.size r.align hinv
    · exact above_mono s r.nb r.size r.align hinv x (ih _ (allocate_inv s r.nb r.size r.align hinv) x hx)

theorem run_after : (runAllocs s rs).2.Pairwise After := by
  induction rs generalizing s with
  | nil => exact List.Pairwise.nil
  | cons r rs ih =>
    have hi := allocate_inv s r.nb r.size r.align hinv
    exact List.pairwise_cons.mpr
      ⟨fun y hy => above_allocate s r.nb r.size r.align hinv y (run_above _ rs hi y hy), ih _ hi⟩

theorem sound_run (r : TReq) (x : TRes) (h : Sound s r x) : Sound (runAllocs s rs).1 r x := by
  induction rs generalizing s with
  | nil => exact h
  | cons q rs ih =>
    exact ih _ (allocate_inv s q.nb q.size q.align hinv) (sound_step s q.nb q.size q.align hinv r x h)

theorem run_sound : ∀ p ∈ List.zip rs (runAllocs s rs).2, Sound (runAllocs s rs).1 p.1 p.2 := by
  induction rs generalizing s with
  | nil => exact fun p hp => absurd hp List.not_mem_nil
  | cons q rs ih =>
    have hi := allocate_inv s q.nb q.size q.align hinv
    intro p hp
    rcases List.mem_cons.mp hp with rfl | hp
    · exact sound_run _ rs hi _ _ (sound_alloc s q hinv)
    · exact ih _ hi p hp

end

end Mustache.Proofs.LayoutTemp
