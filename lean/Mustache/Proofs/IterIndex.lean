import Mustache.Model.Iteration

/-! Proofs about what happens inside one task: the unrolled invocation loop visits the offsets of an array
in order, and the entity-index bookkeeping of typed jobs (`arraysInvs`) and of `NonTemplateJob` (`arraysNt`)
numbers the entities of the task's arrays consecutively. Also: arrays whose entities are all distinct are
pairwise disjoint. -/
namespace Mustache.Iteration

theorem unrolledLoop_eq (n : Nat) : ∀ (base ii : Nat),
    unrolledLoop n base ii = (List.range (4 * n)).map (fun o => (base + o, ii + o)) := by
  induction n with
  | zero => exact fun _ _ => rfl
  | succ n ih =>
    intro base ii
    rw [unrolledLoop, ih, (Nat.mul_succ 4 n).trans (Nat.add_comm _ 4), List.range_add, List.map_append,
      List.map_map]
    simp only [Function.comp_def, Nat.add_assoc]
    rfl

theorem unrolledTail_eq (k base ii : Nat) (hk : k < 4) :
    unrolledTail k base ii = (List.range k).map (fun o => (base + o, ii + o)) := by
  match k, hk with
  | 0, _ => rfl
  | 1, _ => rfl
  | 2, _ => rfl
  | 3, _ => rfl

theorem unrolled_eq (count ii : Nat) : unrolled count ii = (List.range count).map (fun o => (o, ii + o)) := by
  rw [unrolled, unrolledLoop_eq, unrolledTail_eq _ _ _ (Nat.mod_lt _ (by decide))]
  conv => rhs; rw [← Nat.div_add_mod count 4, List.range_add, List.map_append, List.map_map]
  simp only [Function.comp_def, Nat.add_assoc, Nat.zero_add]

def arraysLen (arrs : List Arr) : Nat := (arrs.map Arr.len).sum

theorem arraysLen_cons (x : Arr) (rest : List Arr) : arraysLen (x :: rest) = x.len + arraysLen rest := rfl

theorem arraysLen_append (l₁ l₂ : List Arr) : arraysLen (l₁ ++ l₂) = arraysLen l₁ + arraysLen l₂ := by
  simp [arraysLen]

theorem length_expand (x : Arr) : x.expand.length = x.len := by simp [Arr.expand]

theorem length_flatMap_expand (arrs : List Arr) : (arrs.flatMap Arr.expand).length = arraysLen arrs := by
  simp only [List.length_flatMap, length_expand, arraysLen]

theorem arraysInvs_spec (task start : Nat) (arrs : List Arr) : ∀ (n : Nat),
    let vs := arraysInvs task start arrs n
    vs.map (fun v => (v.arch, v.idx)) = arrs.flatMap Arr.expand ∧
    vs.map (·.inTask) = List.range' n (arraysLen arrs) ∧
    vs.map (·.eindex) = List.range' (start + n) (arraysLen arrs) ∧ ∀ v ∈ vs, v.task = task := by
  induction arrs with
  | nil => exact fun n => ⟨rfl, rfl, rfl, List.forall_mem_nil _⟩
  | cons x rest ih =>
    intro n
    obtain ⟨h1, h2, h3, h4⟩ := ih (n + x.len)
    -- cut each right-hand side after the entities of `x` and rewrite the tails with the induction hypothesis;
    -- the heads are then the same maps over `List.range x.len`, component by component
    rw [arraysInvs, arraysLen_cons, ← List.range'_append_1, ← List.range'_append_1, List.flatMap_cons,
      ← h1, ← h2, Nat.add_assoc start n x.len, ← h3, unrolled_eq]
    simp only [List.map_append, List.map_map, Function.comp_def, Arr.expand, List.range'_eq_map_range,
      Nat.add_assoc, List.mem_append, List.mem_map, true_and]
    exact fun v hv => hv.elim (fun ⟨_, _, e⟩ => e ▸ rfl) (h4 v)

theorem arraysNt_spec (task start : Nat) (arrs : List Arr) : ∀ (n : Nat),
    let cs := arraysNt task start arrs n
    cs.flatMap (fun c => Arr.expand ⟨c.arch, c.first, c.len⟩) = arrs.flatMap Arr.expand ∧
    cs.flatMap (fun c => List.range' c.eindex c.len) = List.range' (start + n) (arraysLen arrs) ∧
    cs.flatMap (fun c => List.range' c.inTask c.len) = List.range' n (arraysLen arrs) ∧
    ∀ c ∈ cs, c.task = task := by
  induction arrs with
  | nil => exact fun n => ⟨rfl, rfl, rfl, List.forall_mem_nil _⟩
  | cons x rest ih =>
    intro n
    obtain ⟨h1, h2, h3, h4⟩ := ih (n + x.len)
    rw [arraysNt, arraysLen_cons, ← List.range'_append_1, ← List.range'_append_1, Nat.add_assoc start n x.len,
      ← h2, ← h3]
    exact ⟨congrArg (x.expand ++ ·) h1, rfl, rfl, List.forall_mem_cons.mpr ⟨rfl, h4⟩⟩

/-- two arrays do not share an entity -/
def Arr.Disjoint (x y : Arr) : Prop :=
  x.arch ≠ y.arch ∨ x.first + x.len ≤ y.first ∨ y.first + y.len ≤ x.first

theorem mem_expand (x : Arr) (a i : Nat) : (a, i) ∈ x.expand ↔ a = x.arch ∧ x.first ≤ i ∧ i < x.first + x.len := by
  simp only [Arr.expand, List.mem_map, List.mem_range'_1, Prod.mk.injEq]
  constructor
  · rintro ⟨j, hj, rfl, rfl⟩; exact ⟨rfl, hj⟩
  · rintro ⟨rfl, hj⟩; exact ⟨i, hj, rfl, rfl⟩

/-- non-empty arrays that overlap share the entity at the larger of their first indices -/
theorem disjoint_of_nodup (arrs : List Arr) (hlen : ∀ x ∈ arrs, 1 ≤ x.len)
    (hn : (arrs.flatMap Arr.expand).Nodup) : arrs.Pairwise Arr.Disjoint := by
  rw [List.nodup_iff_pairwise_ne, List.pairwise_flatMap] at hn
  refine hn.2.imp_of_mem fun {x y} hx hy h => ?_
  by_cases ha : x.arch = y.arch
  · refine Or.inr (Decidable.byContradiction fun hc => ?_)
    obtain ⟨h1, h2⟩ := not_or.mp hc
    exact h (x.arch, max x.first y.first)
      ((mem_expand x _ _).mpr ⟨rfl, Nat.le_max_left _ _,
        Nat.max_lt.mpr ⟨Nat.lt_add_of_pos_right (hlen x hx), Nat.lt_of_not_le h1⟩⟩) _
      ((mem_expand y _ _).mpr ⟨ha, Nat.le_max_right _ _,
        Nat.max_lt.mpr ⟨Nat.lt_of_not_le h2, Nat.lt_add_of_pos_right (hlen y hy)⟩⟩) rfl
  · exact Or.inl ha

end Mustache.Iteration
