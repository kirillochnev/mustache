import Mustache.Model.Lifecycle
/-!
# The per-slot automaton on batches of events (C03)

`accepts` over `++`; a batch of constructions into distinct dead slots; a batch of destructions of distinct
live slots; a batch of move-assignments between live slots; constructions that fill exactly a set of
slots left dead.
-/
namespace Mustache.Proofs.Life
open Mustache.Model

theorem accepts_nil (s : SlotState) : accepts s [] = some s := rfl

theorem accepts_cons (s : SlotState) (e : Event) (es : List Event) :
    accepts s (e :: es) = (acceptStep s e).bind (fun s' => accepts s' es) := rfl

theorem accepts_append (s : SlotState) (a b : List Event) :
    accepts s (a ++ b) = (accepts s a).bind (fun s' => accepts s' b) := by
  induction a generalizing s with
  | nil => rfl
  | cons e es ih =>
    simp only [List.cons_append, accepts_cons]
    cases acceptStep s e with
    | none => rfl
    | some s' => simp only [Option.bind_some]; exact ih s'

theorem accepts_append_of {s s' s'' : SlotState} {a b : List Event}
    (ha : accepts s a = some s') (hb : accepts s' b = some s'') : accepts s (a ++ b) = some s'' := by
  rw [accepts_append, ha]; exact hb

theorem slotState_ext {a b : SlotState} (h : ∀ y, a y = true ↔ b y = true) : a = b := by
  funext y
  exact Bool.eq_iff_iff.mpr (h y)

theorem set_same (s : SlotState) (x : LSlot) (b : Bool) : s.set x b x = b := if_pos rfl

theorem set_ne (s : SlotState) {x y : LSlot} (b : Bool) (h : y ≠ x) : s.set x b y = s y := if_neg h

theorem set_true_apply (s : SlotState) (x y : LSlot) : s.set x true y = true ↔ y = x ∨ s y = true := by
  by_cases hy : y = x
  · simp [hy, set_same]
  · simp [hy, set_ne s true hy]

theorem set_false_apply (s : SlotState) (x y : LSlot) : s.set x false y = true ↔ y ≠ x ∧ s y = true := by
  by_cases hy : y = x
  · simp [hy, set_same]
  · simp [hy, set_ne s false hy]

def addAll (s : SlotState) (xs : List LSlot) : SlotState := fun y => s y || xs.contains y
def removeAll (s : SlotState) (xs : List LSlot) : SlotState := fun y => s y && !xs.contains y

theorem addAll_apply (s : SlotState) (xs : List LSlot) (y : LSlot) :
    addAll s xs y = true ↔ s y = true ∨ y ∈ xs := by
  simp [addAll]

theorem removeAll_apply (s : SlotState) (xs : List LSlot) (y : LSlot) :
    removeAll s xs y = true ↔ s y = true ∧ y ∉ xs := by
  simp [removeAll]

theorem addAll_nil (s : SlotState) : addAll s [] = s := by
  funext y; simp [addAll]

theorem removeAll_nil (s : SlotState) : removeAll s [] = s := by
  funext y; simp [removeAll]

theorem addAll_set (s : SlotState) (x : LSlot) (xs : List LSlot) :
    addAll (s.set x true) xs = addAll s (x :: xs) := by
  apply slotState_ext
  intro y
  rw [addAll_apply, addAll_apply, List.mem_cons]
  by_cases hy : y = x
  · subst hy; simp [set_same]
  · simp [set_ne s true hy, hy]

theorem removeAll_set (s : SlotState) (x : LSlot) (xs : List LSlot) :
    removeAll (s.set x false) xs = removeAll s (x :: xs) := by
  apply slotState_ext
  intro y
  rw [removeAll_apply, removeAll_apply, List.mem_cons]
  by_cases hy : y = x
  · subst hy; simp [set_same]
  · simp [set_ne s false hy, hy]

theorem removeAll_congr (s : SlotState) {xs ys : List LSlot} (h : ∀ y, y ∈ xs ↔ y ∈ ys) :
    removeAll s xs = removeAll s ys := by
  apply slotState_ext
  intro y
  rw [removeAll_apply, removeAll_apply, h y]

theorem removeAll_removeAll (s : SlotState) (xs ys : List LSlot) :
    removeAll (removeAll s xs) ys = removeAll s (xs ++ ys) := by
  apply slotState_ext
  intro y
  simp only [removeAll_apply, List.mem_append, not_or, and_assoc]

theorem removeAll_comm (s : SlotState) (xs ys : List LSlot) :
    removeAll (removeAll s xs) ys = removeAll (removeAll s ys) xs := by
  rw [removeAll_removeAll, removeAll_removeAll]
  exact removeAll_congr s (fun y => by rw [List.mem_append, List.mem_append, or_comm])

def Event.isCreate : Event → Bool
  | .construct _ => true | .copyConstruct _ _ => true | .moveConstruct _ _ => true | _ => false

def Event.src? : Event → Option LSlot
  | .copyConstruct _ x => some x | .moveConstruct _ x => some x | .moveAssign _ x => some x | _ => none

theorem acceptStep_create {s : SlotState} {e : Event} (hc : Event.isCreate e = true) (hd : s e.dst = false)
    (hsrc : ∀ x, Event.src? e = some x → s x = true) : acceptStep s e = some (s.set e.dst true) := by
  cases e with
  | construct x => simp only [Event.dst] at hd; simp [acceptStep, hd, Event.dst]
  | copyConstruct d x => simp only [Event.dst] at hd; simp [acceptStep, hd, hsrc x rfl, Event.dst]
  | moveConstruct d x => simp only [Event.dst] at hd; simp [acceptStep, hd, hsrc x rfl, Event.dst]
  | moveAssign d x => cases hc
  | destroy x => cases hc

theorem accepts_creates (evs : List Event) (s : SlotState)
    (hc : ∀ e ∈ evs, Event.isCreate e = true)
    (hnd : (evs.map Event.dst).Nodup)
    (hdead : ∀ e ∈ evs, s e.dst = false)
    (hsrc : ∀ e ∈ evs, ∀ x, Event.src? e = some x → s x = true) :
    accepts s evs = some (addAll s (evs.map Event.dst)) := by
  induction evs generalizing s with
  | nil => rw [List.map_nil, addAll_nil]; rfl
  | cons e es ih =>
    have he : e ∈ e :: es := List.mem_cons_self ..
    rw [List.map_cons, List.nodup_cons] at hnd
    rw [accepts_cons, acceptStep_create (hc e he) (hdead e he) (hsrc e he), Option.bind_some, List.map_cons,
      ← addAll_set]
    refine ih _ (fun e' h' => hc e' (List.mem_cons_of_mem _ h')) hnd.2 ?_ ?_
    · intro e' h'
      rw [set_ne s true (fun (h : e'.dst = e.dst) => hnd.1 (h ▸ List.mem_map_of_mem h'))]
      exact hdead e' (List.mem_cons_of_mem _ h')
    · intro e' h' x hx
      by_cases hxd : x = e.dst
      · rw [hxd, set_same]
      · rw [set_ne s true hxd]; exact hsrc e' (List.mem_cons_of_mem _ h') x hx

theorem accepts_destroys (xs : List LSlot) (s : SlotState) (hnd : xs.Nodup)
    (hlive : ∀ x ∈ xs, s x = true) :
    accepts s (xs.map Event.destroy) = some (removeAll s xs) := by
  induction xs generalizing s with
  | nil => rw [removeAll_nil]; rfl
  | cons x xs ih =>
    rw [List.nodup_cons] at hnd
    simp only [List.map_cons, accepts_cons, acceptStep, hlive x (List.mem_cons_self ..), if_true, Option.bind_some]
    rw [← removeAll_set]
    refine ih _ hnd.2 (fun x' h' => ?_)
    rw [set_ne s false (fun (h : x' = x) => hnd.1 (h ▸ h'))]
    exact hlive x' (List.mem_cons_of_mem _ h')

theorem accepts_moveAssigns (ps : List (LSlot × LSlot)) (s : SlotState)
    (h : ∀ p ∈ ps, s p.1 = true ∧ s p.2 = true) :
    accepts s (ps.map (fun p => Event.moveAssign p.1 p.2)) = some s := by
  induction ps with
  | nil => rfl
  | cons p ps ih =>
    have hp := h p (List.mem_cons_self ..)
    simp only [List.map_cons, accepts_cons, acceptStep, hp.1, hp.2, Bool.and_self, if_true, Option.bind_some]
    exact ih (fun q hq => h q (List.mem_cons_of_mem _ hq))

/-- stated from the state reached: the callers know the slot set `L` of the new world state and that the state before
lacks exactly the slots `raw` of it -/
theorem accepts_fill (L : SlotState) (raw : List LSlot) (evs : List Event)
    (hc : ∀ e ∈ evs, Event.isCreate e = true)
    (hnd : (evs.map Event.dst).Nodup) (hmem : ∀ y, y ∈ evs.map Event.dst ↔ y ∈ raw)
    (hL : ∀ y ∈ raw, L y = true)
    (hsrc : ∀ e ∈ evs, ∀ x, Event.src? e = some x → L x = true ∧ x ∉ raw) :
    accepts (removeAll L raw) evs = some L := by
  rw [accepts_creates evs _ hc hnd]
  · congr 1
    apply slotState_ext
    intro y
    rw [addAll_apply, removeAll_apply, hmem]
    constructor
    · rintro (⟨h, _⟩ | h)
      · exact h
      · exact hL y h
    · intro h
      by_cases hy : y ∈ raw
      · exact Or.inr hy
      · exact Or.inl ⟨h, hy⟩
  · intro e he
    have : e.dst ∈ raw := (hmem _).mp (List.mem_map_of_mem he)
    simp [removeAll, this]
  · intro e he x hx
    rw [removeAll_apply]
    exact hsrc e he x hx

end Mustache.Proofs.Life
