import Mustache.Proofs.IdTableRefine
import Mustache.Proofs.IdTableHist
/-!
# The id table through `applyCommandPack` and the flush

`Rows.applyPack_eq` cuts `WM.applyPack` into its three phases: `packStart` (slot installation / liveness
test), the fold of `packStep` over the commands, `packFinish` (the archetype move and the value writes),
and `Rows.packFinish_sameTable` says that the last phase leaves the id table alone. So on the id table a
pack does: install the slot of a create command, and release / checked-destroy its entity if the pack
contains a `destroyNow`; nothing else (`applyPack_tab`). `flush_tab` folds that over buffers and packs;
`packTab_acts` reads a pack as the flush actions of a table-level history.
-/
namespace Mustache.Proofs.IdTable
open Mustache.Model

variable (info : CompId → CompInfo)

def killsIn (l : List Cmd) : Bool := l.any isKill

/-- what a `destroyNow` command does in a pack: a create pack releases its own handle unchecked,
any other pack goes through the checked `destroyNow` -/
def packKill (isCreate : Bool) (e : Handle) (t : Tab) : Tab := if isCreate then t.release e else t.destroyNow e

theorem kill_tab (e : Handle) (isCreate : Bool) (w : WM) :
    tabOf (Rows.kill info e isCreate w).1 = packKill isCreate e (tabOf w) := by
  cases isCreate with
  | true => exact release_tab w e
  | false => exact destroyNowU_tab info w e

theorem packStep_live (e : Handle) (isCreate : Bool) (acc : WM × PackSt × List Cb) (c : Cmd)
    (hd : acc.2.1.dead = false) :
    tabOf (Rows.packStep info e isCreate acc c).1 = (if isKill c then packKill isCreate e (tabOf acc.1) else tabOf acc.1) ∧
    (Rows.packStep info e isCreate acc c).2.1.dead = isKill c := by
  obtain ⟨w, p, cbs⟩ := acc
  rw [Rows.packStep_eq, show p.dead = false from hd]
  refine ⟨?_, by rw [Rows.pst_dead_eq, show p.dead = false from hd, Bool.false_or]⟩
  cases c with
  | destroyNow _ => exact kill_tab info e isCreate w
  | _ => rfl

theorem packFold_dead (e : Handle) (isCreate : Bool) (body : List Cmd) (acc : WM × PackSt × List Cb)
    (hd : acc.2.1.dead = true) : body.foldl (Rows.packStep info e isCreate) acc = acc := by
  induction body with
  | nil => rfl
  | cons c r ih => rw [List.foldl_cons, Rows.packStep_dead info e isCreate acc.1 acc.2.1 acc.2.2 c hd]; exact ih

theorem packFold_live (e : Handle) (isCreate : Bool) (body : List Cmd) (acc : WM × PackSt × List Cb)
    (hd : acc.2.1.dead = false) :
    tabOf (body.foldl (Rows.packStep info e isCreate) acc).1 =
      (if killsIn body then packKill isCreate e (tabOf acc.1) else tabOf acc.1) ∧
    (body.foldl (Rows.packStep info e isCreate) acc).2.1.dead = killsIn body := by
  induction body generalizing acc with
  | nil => exact ⟨rfl, hd⟩
  | cons c r ih =>
    have ⟨hs1, hs2⟩ := packStep_live info e isCreate acc c hd
    rw [List.foldl_cons]
    show _ = (if (isKill c || killsIn r) = true then _ else _) ∧ _ = (isKill c || killsIn r)
    cases hk : isKill c with
    | true =>
      -- the first `destroyNow` kills the pack: the rest of the fold does nothing
      rw [hk] at hs1 hs2
      rw [packFold_dead info e isCreate r _ hs2]
      exact ⟨hs1, hs2⟩
    | false =>
      rw [hk] at hs1 hs2
      have h := ih _ hs2
      rw [hs1] at h
      exact h

theorem packBody_tab (e : Handle) (isCreate : Bool) (initial : Mask) (sh : Shared) (w : WM) (body : List Cmd) :
    tabOf (Rows.packFinish info e isCreate initial sh
      (body.foldl (Rows.packStep info e isCreate) (w, { final := initial }, []))).1 =
    if killsIn body then packKill isCreate e (tabOf w) else tabOf w :=
  (Rows.packFinish_sameTable info e isCreate initial sh _).tab.trans
    (packFold_live info e isCreate body (w, { final := initial }, []) rfl).1

/-- the id-table effect of one command pack; `hasArch` = the target has an archetype (true for every valid
entity on reachable states) -/
def packTab (t : Tab) (hasArch : Bool) : List Cmd → Tab
  | [] => t
  | .create e _ _ :: rest => if killsIn rest then (t.install e).release e else t.install e
  | first :: rest =>
    if t.valid first.entity && hasArch && killsIn (first :: rest) then t.destroyNow first.entity else t

def packHasArch (w : WM) : List Cmd → Bool
  | [] => false
  | first :: _ => ((w.locOf first.entity).arch).isSome

theorem isCreateCmd_true {c : Cmd} (h : Rows.isCreateCmd c = true) : ∃ e m sh, c = .create e m sh := by
  cases c <;> first | exact ⟨_, _, _, rfl⟩ | cases h

theorem packTab_other (t : Tab) (b : Bool) {first : Cmd} (rest : List Cmd) (h : Rows.isCreateCmd first = false) :
    packTab t b (first :: rest) =
      if t.valid first.entity && b && killsIn (first :: rest) then t.destroyNow first.entity else t := by
  cases first <;> first | rfl | cases h

theorem applyPack_tab (w : WM) (pack : List Cmd) :
    tabOf (w.applyPack info pack).1 = packTab (tabOf w) (packHasArch w pack) pack := by
  cases pack with
  | nil => rfl
  | cons first rest =>
    rw [Rows.applyPack_eq]
    cases hc : Rows.isCreateCmd first with
    | true =>
      obtain ⟨e, m, sh, rfl⟩ := isCreateCmd_true hc
      exact packBody_tab info e true _ sh (Rows.startCreate w e) rest
    | false =>
      rw [packTab_other _ _ rest hc, Rows.packStart_other w first hc, ← isValid_tab]
      cases hv : w.isValid first.entity with
      | false => rfl
      | true =>
        cases ha : (w.locOf first.entity).arch with
        | none => simp only [packHasArch, ha]; rfl
        | some ai => simp only [packHasArch, ha]; exact packBody_tab info first.entity false _ _ w (first :: rest)

/-- id-table effect of a sequence of packs; the flag says whether the target of a non-create pack had an
archetype when the pack was applied -/
def runPacks (t : Tab) (ps : List (Bool × List Cmd)) : Tab := ps.foldl (fun t bp => packTab t bp.1 bp.2) t

theorem packsFold_tab (ps : List (List Cmd)) (acc : WM × List Cb) :
    ∃ bs : List Bool, bs.length = ps.length ∧
      tabOf (ps.foldl (fun (acc : WM × List Cb) p =>
        let (w', c) := acc.1.applyPack info p
        (w', acc.2 ++ c)) acc).1 = runPacks (tabOf acc.1) (bs.zip ps) := by
  induction ps generalizing acc with
  | nil => exact ⟨[], rfl, rfl⟩
  | cons p r ih =>
    simp only [List.foldl_cons]
    rcases ih ((acc.1.applyPack info p).1, acc.2 ++ (acc.1.applyPack info p).2) with ⟨bs, hl, ht⟩
    refine ⟨packHasArch acc.1 p :: bs, by simp [hl], ?_⟩
    rw [ht]
    simp only [List.zip_cons_cons, runPacks, List.foldl_cons, applyPack_tab]

/-- `onUnlock`: on the id table the flush is the sequence of pack effects, buffers in thread order and
packs in log order -/
theorem flush_tab (w : WM) :
    ∃ bs : List Bool, bs.length = (w.buffers.flatMap packs).length ∧
      tabOf (w.flush info).1 = runPacks (tabOf w) (bs.zip (w.buffers.flatMap packs)) := by
  have ⟨bs, hl, ht⟩ :=
    packsFold_tab info (w.buffers.flatMap packs) ({ w with buffers := w.buffers.map (fun _ => []) }, [])
  refine ⟨bs, hl, Eq.trans ?_ ht⟩
  unfold WM.flush
  rw [List.foldl_flatMap]
  rfl

/-- a nested `unlock` is the depth bookkeeping alone; the outermost one goes on with the flush (`flush_tab`) -/
theorem unlock_tab (w : WM) :
    (tabOf w).unlockDepth.lockDepth ≠ 0 → tabOf (w.unlock info).1 = (tabOf w).unlockDepth := by
  intro hd
  have ht : tabOf (if w.lockDepth > 0 then { w with lockDepth := w.lockDepth - 1 } else w) = (tabOf w).unlockDepth :=
    apply_ite tabOf _ _ _
  rw [← ht] at hd ⊢
  exact congrArg (fun r : WM × Bool × List Cb => tabOf r.1) (if_neg hd)

def Tab.act (t : Tab) : FAct → Tab
  | .install h => t.install h
  | .kill h => t.destroyNow h

theorem St_act_tab (s : St) (a : FAct) : (s.act a).tab = Tab.act s.tab a := by cases a <;> rfl

def packActs (hasArch : Bool) : List Cmd → List FAct
  | [] => []
  | .create e _ _ :: rest => if killsIn rest then [.install e, .kill e] else [.install e]
  | first :: rest => if hasArch && killsIn (first :: rest) then [.kill first.entity] else []

theorem packActs_other (b : Bool) {first : Cmd} (rest : List Cmd) (h : Rows.isCreateCmd first = false) :
    packActs b (first :: rest) = if b && killsIn (first :: rest) then [.kill first.entity] else [] := by
  cases first <;> first | rfl | cases h

/-- a pack acts on the id table as its flush actions (the handle of a create command is a handle of this
world and not the null pattern: it was returned by `createLocked`) -/
theorem packTab_acts (t : Tab) (b : Bool) (pack : List Cmd)
    (hc : ∀ e m sh rest, pack = .create e m sh :: rest → e ≠ Handle.null ∧ e.world = t.worldId) :
    packTab t b pack = (packActs b pack).foldl Tab.act t := by
  cases pack with
  | nil => rfl
  | cons first rest =>
    cases hic : Rows.isCreateCmd first with
    | true =>
      -- the release of a create pack is a checked destruction: the install has just made the handle valid
      obtain ⟨e, m, sh, rfl⟩ := isCreateCmd_true hic
      have ⟨hn, hw⟩ := hc e m sh rest rfl
      simp only [packTab, packActs]
      split
      · exact (destroyNow_valid (install_valid t e hn hw)).symm
      · rfl
    | false =>
      -- the checked destruction of an invalid handle does nothing, so the action need not test validity
      rw [packTab_other t b rest hic, packActs_other b rest hic]
      cases hk : (b && killsIn (first :: rest)) with
      | false => rw [Bool.and_assoc, hk, Bool.and_false]; rfl
      | true =>
        rw [Bool.and_assoc, hk, Bool.and_true]
        cases hv : t.valid first.entity with
        | true => rfl
        | false => exact (destroyNow_invalid hv).symm

end Mustache.Proofs.IdTable
