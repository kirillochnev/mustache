import Mustache.Proofs.RefineLists
/-!
# Refinement: what a handle reads in the model is what its ordinal reads in the spec

Under `Inv`, `Bounds`, `Rel` a handle is either invalid and its ordinal (if any) is not alive (`rel_dead`), or it is
valid, has an ordinal, owns a row, and the spec record of the ordinal is the abstraction of that row (`AliveAt`,
`rel_alive`). The five queries (`valid`, `has`, `hasShared`, `get`, `archOf`) follow.
-/
namespace Mustache.Proofs.Refine
open Mustache.Model Mustache.Spec
open Mustache.Proofs.IdTable (tabOf Ghost TInv valid_iff_live_any isValid_tab)
open Mustache.Proofs.Rows

variable (info : CompId → CompInfo) {c : CW} {s : WS}

theorem getComp_invalid {w : WM} {h : Handle} (c : CompId) (hv : w.isValid h = false) : w.getComp h c = none := by
  simp [WM.getComp, hv]
theorem hasComp_invalid {w : WM} {h : Handle} (c : CompId) (hv : w.isValid h = false) : w.hasComp h c = false := by
  unfold WM.hasComp; rw [hv]; rfl
theorem hasShared_invalid {w : WM} {h : Handle} (sid : Nat) (hv : w.isValid h = false) : w.hasShared h sid = false := by
  unfold WM.hasShared; rw [hv]; rfl
theorem archOf_invalid {w : WM} {h : Handle} (hv : w.isValid h = false) : w.archOf h = none := by
  simp [WM.archOf, hv]

theorem valid_issued (hi : Inv c) (hb : Bounds c) {e : Handle} (hv : c.w.isValid e = true) : e ∈ c.issued := by
  rcases hi.tinv with ⟨g, tinv, hiss, _⟩
  have hl := (valid_iff_live_any tinv (Nat.le_of_lt hb.inRange) e).mp (by rw [← isValid_tab]; exact hv)
  exact List.mem_reverse.mp (hiss ▸ tinv.live_issued e hl)

theorem issued_nodup {c : CW} (hi : Inv c) : c.issued.Nodup := by
  rcases hi.tinv with ⟨g, tinv, hiss, _⟩
  have := tinv.fresh.nodup
  rw [hiss] at this
  unfold List.Nodup at this ⊢
  rw [List.pairwise_reverse] at this
  exact this.imp (fun h => Ne.symm h)

/-- the handle `e` is alive: it has the ordinal `k`, owns row `i` of archetype `pi`, and the spec record `ent` of `k`
reads like that row -/
structure AliveAt (c : CW) (s : WS) (e : Handle) (k pi i : Nat) (prow : Row) (ent : SEnt) : Prop where
  valid : c.w.isValid e = true
  ord : ordOf c.issued e = some k
  issued : c.issued[k]? = some e
  row : (c.w.arch pi).rows[i]? = some prow
  own : prow.ent = e
  loc : c.w.locOf e = ⟨some pi, i⟩
  alive : s.alive k = some ent
  rel : entRel ent ⟨(c.w.arch pi).mask.zip prow.vals, absShared c.w.pool (c.w.arch pi).shared⟩

section
variable {c : CW} {s : WS} {e : Handle} {k pi i : Nat} {prow : Row} {ent : SEnt} (ha : AliveAt c s e k pi i prow ent)
include ha

theorem AliveAt.lt : pi < c.w.archs.length := lt_of_row ha.row

theorem AliveAt.maskOk (hi : Inv c) : MaskOk (c.w.arch pi).mask := hi.keys.masks pi ha.lt

theorem AliveAt.vals (hi : Inv c) : prow.vals.length = (c.w.arch pi).mask.length := hi.rows.vals pi i prow ha.row

theorem AliveAt.compSet (hi : Inv c) : compSet ent = (c.w.arch pi).mask := compSet_of_rel ha.rel.1 (ha.vals hi)

theorem AliveAt.sharedIn (hi : Inv c) : SharedIn c.w.pool (c.w.arch pi).shared := hi.shared _ (arch_mem_archs ha.lt)

theorem AliveAt.shared_any (hi : Inv c) (sid : Nat) :
    ent.shared.any (·.1 == sid) = (c.w.arch pi).shared.has sid := by
  have hlen := (ha.sharedIn hi).1.1
  rw [← lookupS_isSome, ha.rel.2 sid, lookupS_absShared _ hlen, Option.isSome_map, Bool.eq_iff_iff]
  exact (Shared.has_iff_get? sid hlen).symm

theorem AliveAt.locArch : (c.w.locOf e).arch = some pi := by rw [ha.loc]

theorem AliveAt.locIdx : (c.w.locOf e).idx = i := by rw [ha.loc]

end

theorem rel_alive (hi : Inv c) (hb : Bounds c) (hr : Rel c s) {e : Handle}
    (hv : c.w.isValid e = true) : ∃ k pi i prow ent, AliveAt c s e k pi i prow ent := by
  have hmem := valid_issued hi hb hv
  cases ho : ordOf c.issued e with
  | none => exact absurd hmem ((ordOf_none_iff _ _).mp ho)
  | some k =>
    have hk := ordOf_some ho
    rcases absEnt_isSome_of_valid hi.live hi.rows hv with ⟨ai, i, r, hrow, hent, hloc, habs⟩
    have := hr.ents k e hk
    rw [habs, optRel_some_right] at this
    rcases this with ⟨ent, hal, hrel⟩
    exact ⟨k, ai, i, r, ent, hv, ho, hk, hrow, hent, hloc, hal, hrel⟩

theorem rel_dead (hr : Rel c s) {e : Handle} (hv : c.w.isValid e = false) :
    s.isAlive (ordOf c.issued e) = false := by
  cases ho : ordOf c.issued e with
  | none => rfl
  | some k =>
    have := hr.ents k e (ordOf_some ho)
    rw [absEnt_invalid hv, optRel_none_right] at this
    simp [WS.isAlive, this]

theorem isAlive_false {s : WS} {o : Option Nat} (h : s.isAlive o = false) : o = none ∨ ∃ k, o = some k ∧ s.alive k = none := by
  cases o with
  | none => exact Or.inl rfl
  | some k => exact Or.inr ⟨k, rfl, Option.not_isSome_iff_eq_none.mp (Bool.eq_false_iff.mp h)⟩

/-- a query: the model reads `m`, the spec reads the record of the handle's ordinal through `f` (`d` when there is
none) -/
theorem read_refines (hi : Inv c) (hb : Bounds c) (hr : Rel c s) (e : Handle) {α : Type}
    (f : SEnt → α) (d m : α) (hdead : c.w.isValid e = false → m = d)
    (halive : ∀ {k pi i prow ent}, AliveAt c s e k pi i prow ent → m = f ent) :
    m = (match ordOf c.issued e with
      | some k => (match s.alive k with | some ent => f ent | none => d)
      | none => d) := by
  cases hv : c.w.isValid e with
  | false =>
    rw [hdead hv]
    rcases isAlive_false (rel_dead hr hv) with ho | ⟨k, ho, hal⟩
    · rw [ho]
    · rw [ho]; simp only [hal]
  | true =>
    rcases rel_alive hi hb hr hv with ⟨k, ai, i, r, ent, ha⟩
    rw [halive ha, ha.ord]
    simp only [ha.alive]

/-- `isEntityValid` -/
theorem valid_refines (hi : Inv c) (hb : Bounds c) (hr : Rel c s) (e : Handle) :
    c.w.isValid e = s.isAlive (ordOf c.issued e) := by
  cases hv : c.w.isValid e with
  | false => exact (rel_dead hr hv).symm
  | true =>
    rcases rel_alive hi hb hr hv with ⟨k, ai, i, r, ent, ha⟩
    rw [ha.ord]; simp [WS.isAlive, ha.alive]

theorem has_refines (hi : Inv c) (hb : Bounds c) (hr : Rel c s) (e : Handle) (comp : CompId) :
    c.w.hasComp e comp = (match ordOf c.issued e with
      | some k => (match s.alive k with | some ent => (compSet ent).contains comp | none => false)
      | none => false) :=
  read_refines hi hb hr e (fun ent => (compSet ent).contains comp) false _ (hasComp_invalid _) fun ha => by
    rw [hasComp_of_loc ha.loc, ha.valid, ha.compSet hi]; rfl

theorem hasShared_refines (hi : Inv c) (hb : Bounds c) (hr : Rel c s) (e : Handle) (sid : Nat) :
    c.w.hasShared e sid = (match ordOf c.issued e with
      | some k => (match s.alive k with | some ent => ent.shared.any (·.1 == sid) | none => false)
      | none => false) :=
  read_refines hi hb hr e (fun ent => ent.shared.any (·.1 == sid)) false _ (hasShared_invalid _) fun ha => by
    rw [hasShared_of_loc ha.loc, ha.valid, Bool.true_and]
    exact (ha.shared_any hi sid).symm

theorem get_refines (hi : Inv c) (hb : Bounds c) (hr : Rel c s) (e : Handle) (comp : CompId) :
    c.w.getComp e comp = (match ordOf c.issued e with
      | some k => (match s.alive k with
        | some ent => (ent.comps.find? (·.1 == comp)).map (·.2)
        | none => none)
      | none => none) := by
  -- elaborated without the expected type: with it pushed in, unifying the two nested `match`es is tried (and fails)
  -- four times, which is slow to check
  have := read_refines hi hb hr e (fun ent => (ent.comps.find? (·.1 == comp)).map (·.2)) none (c.w.getComp e comp)
    (getComp_invalid _) fun ha => by
      rw [getComp_of_loc ha.loc ha.row, ha.valid]
      simp only [if_true]
      rw [ha.rel.1]
      simp only
      rw [find_zip _ _ (ha.vals hi)]
      cases (c.w.arch _).mask.indexOf? comp <;> rfl
  exact this

theorem archOf_refines (hi : Inv c) (hb : Bounds c) (hr : Rel c s) (e : Handle) :
    (c.w.archOf e).isSome = s.isAlive (ordOf c.issued e) := by
  rw [← valid_refines hi hb hr e]
  cases hv : c.w.isValid e with
  | false => rw [archOf_invalid hv]; rfl
  | true =>
    rcases rel_alive hi hb hr hv with ⟨k, ai, i, r, ent, ha⟩
    rw [archOf_of_loc ha.loc, hv]; rfl

end Mustache.Proofs.Refine
