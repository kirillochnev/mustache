import Mustache.Proofs.RefineQuery
/-!
# Refinement: carrying `Inv` and `Rel` from one state to the next

Two kinds of step cover every operation but the flush:
* only control fields move: lock depth, reserved-id counter, buffers (`inv_ctl`, `inv_push`, `rel_push`),
  the issued list (`rel_issue`);
* the control fields stay (`KeepsCtl`) while ids, rows, archetypes and the pool move: `inv_of_keepsCtl` leaves the
  id-table, row and key invariants to prove, `rel_of_ents` the record of every issued handle.
-/
namespace Mustache.Proofs.Refine
open Mustache.Model Mustache.Spec
open Mustache.Proofs.IdTable (tabOf Ghost TInv)
open Mustache.Proofs.Rows

variable (info : CompId → CompInfo) {c : CW} {s : WS}

def PoolExt (p p' : Pool) : Prop := ∀ sid, ∃ ext, poolEntries p' sid = poolEntries p sid ++ ext

theorem PoolExt.refl (p : Pool) : PoolExt p p := fun _ => ⟨[], by simp⟩

theorem PoolExt.of_eq {p p' : Pool} (h : p' = p) : PoolExt p p' := h ▸ PoolExt.refl p

theorem PoolExt.trans {a b c : Pool} (h₁ : PoolExt a b) (h₂ : PoolExt b c) : PoolExt a c := by
  intro sid
  rcases h₁ sid with ⟨e₁, h₁⟩
  rcases h₂ sid with ⟨e₂, h₂⟩
  exact ⟨e₁ ++ e₂, by rw [h₂, h₁, List.append_assoc]⟩

theorem poolGet_ext (w : WM) (sid v : Nat) : PoolExt w.pool (w.poolGet sid v).1.pool := by
  intro sid'
  rw [poolGet_entries]
  by_cases hs : sid' = sid
  · subst hs
    cases (poolEntries w.pool sid').any (·.1 == v)
    · exact ⟨[(v, w.nextInst)], by simp⟩
    · exact ⟨[], by simp⟩
  · exact ⟨[], by simp [hs]⟩

theorem pooled_ext {p p' : Pool} (h : PoolExt p p') {sid inst : Nat}
    (hm : inst ∈ (poolEntries p sid).map (·.2)) : inst ∈ (poolEntries p' sid).map (·.2) := by
  rcases h sid with ⟨ext, he⟩
  rw [he, List.map_append]
  exact List.mem_append_left _ hm

/-- a pooled instance keeps its value: it is found before the new entries -/
theorem instVal_ext {p p' : Pool} (h : PoolExt p p') {sid inst : Nat}
    (hm : inst ∈ (poolEntries p sid).map (·.2)) : instVal p' sid inst = instVal p sid inst := by
  rcases h sid with ⟨ext, he⟩
  unfold instVal
  rw [he, List.find?_append]
  cases hf : (poolEntries p sid).find? (·.2 == inst) with
  | some q => rfl
  | none =>
    rcases List.mem_map.mp hm with ⟨q, hq, hq2⟩
    have := List.find?_eq_none.mp hf q hq
    simp [hq2] at this

theorem SharedIn.ext {p p' : Pool} {sh : Shared} (h : SharedIn p sh) (he : PoolExt p p') : SharedIn p' sh :=
  ⟨h.1, fun q hq => pooled_ext he (h.2 q hq)⟩

theorem absShared_ext {p p' : Pool} {sh : Shared} (h : SharedIn p sh) (he : PoolExt p p') :
    absShared p' sh = absShared p sh :=
  List.map_congr_left (fun q hq => by rw [instVal_ext he (h.2 q hq)])

theorem cmdOk_ext {p p' : Pool} (he : PoolExt p p') {cmd : Cmd} (h : cmdOk p cmd) : cmdOk p' cmd := by
  cases cmd <;> simp only [cmdOk] at h ⊢
  exact ⟨h.1, h.2.ext he⟩

theorem cmdRel_congr {iss iss' : List Handle} {p p' : Pool} {cmd : Cmd} {sc : SCmd}
    (ho : ordOf iss' cmd.entity = ordOf iss cmd.entity)
    (hp : ∀ e m sh, cmd = .create e m sh → absShared p' sh = absShared p sh)
    (h : cmdRel iss p cmd sc) : cmdRel iss' p' cmd sc := by
  unfold cmdRel at h
  split at h
  · exact ⟨ho.trans h.1, h.2.1, fun sid => by rw [hp _ _ _ rfl]; exact h.2.2 sid⟩
  · exact h.trans ho.symm
  · exact h.trans ho.symm
  · exact ⟨h.1.trans ho.symm, h.2⟩
  · exact ⟨h.1.trans ho.symm, h.2⟩
  · exact h.elim

theorem buffers_ext (hi : Inv c) (hr : Rel c s) {p' : Pool} (he : PoolExt c.w.pool p') :
    All2 (All2 (cmdRel c.issued p')) c.w.buffers s.buffers :=
  hr.buffers.mono fun b hb _ hbb => hbb.mono fun cmd hc _ hcs =>
    cmdRel_congr rfl (fun _ _ _ e => absShared_ext (e ▸ (hi.bufKnown b hb cmd hc).2).2 he) hcs

theorem isLocked_iff (w : WM) : w.isLocked = true ↔ 0 < w.lockDepth := by simp [WM.isLocked]

theorem unlocked_depth {w : WM} (hl : w.isLocked = false) : w.lockDepth = 0 :=
  Nat.eq_zero_of_not_pos fun h => by rw [(isLocked_iff w).mpr h] at hl; cases hl

theorem unlocked_spec (hr : Rel c s) (hl : c.w.isLocked = false) : ¬ (s.lockDepth > 0) := by
  rw [hr.lockDepth, unlocked_depth hl]
  exact Nat.lt_irrefl 0

theorem Known.mono {w w' : WM} {iss iss' : List Handle} {e : Handle} (hk : Known ⟨w, iss⟩ e)
    (hw : w'.worldId = w.worldId) (hsub : ∀ x ∈ iss, x ∈ iss') : Known ⟨w', iss'⟩ e := by
  unfold Known at hk ⊢
  simp only at hk ⊢
  rw [hw]
  exact hk.imp_left (hsub e)

theorem Known.ne_new {w : WM} {iss : List Handle} {e h : Handle} (hk : Known ⟨w, iss⟩ e) (hnew : h ∉ iss)
    (hw : h.world = w.worldId) (hn : h ≠ Handle.null) : e ≠ h := by
  rintro rfl
  rcases hk with h1 | h1 | h1
  · exact hnew h1
  · exact h1 hw
  · exact hn h1

theorem createHandles_pad (bufs : List (List Cmd)) (n : Nat) :
    createHandles (bufs ++ List.replicate n []) = createHandles bufs := by
  unfold createHandles
  rw [List.flatten_append, List.flatten_replicate_nil, List.append_nil]

theorem createHandles_of_empty {bufs : List (List Cmd)} (h : ∀ b ∈ bufs, b = []) : createHandles bufs = [] := by
  unfold createHandles
  rw [List.flatten_eq_nil_iff.mpr h]
  rfl

theorem pending_nil_of_unlocked (hi : Inv c) (hd : c.w.lockDepth = 0) {g : Ghost}
    (hp : ∀ h, h ∈ g.pending ↔ h ∈ createHandles c.w.buffers) : g.pending = [] := by
  rw [createHandles_of_empty (hi.bufEmpty hd)] at hp
  exact List.eq_nil_iff_forall_not_mem.mpr (fun h hh => by simpa using (hp h).mp hh)

structure KeepsCtl (w w' : WM) : Prop where
  worldId : w'.worldId = w.worldId
  deps : w'.deps = w.deps
  lockDepth : w'.lockDepth = w.lockDepth
  nthreads : w'.nthreads = w.nthreads
  buffers : w'.buffers = w.buffers
  marked : w'.marked = w.marked
  pool : PoolExt w.pool w'.pool

theorem _root_.Mustache.Proofs.Rows.SameCtl.keeps {w w' : WM} (h : SameCtl w w') (hm : w'.marked = w.marked) : KeepsCtl w w' :=
  ⟨h.worldId, h.deps, h.lockDepth, h.nthreads, h.buffers, hm, PoolExt.of_eq h.pool⟩

theorem _root_.Mustache.Proofs.Rows.SameTable.keeps {w w' : WM} (h : SameTable w w') : KeepsCtl w w' := h.ctl.keeps h.marked

theorem _root_.Mustache.Proofs.Rows.SameCtl.poolInv {w w' : WM} (h : SameCtl w w') (hp : PoolInv w) : PoolInv w' :=
  hp.of_eq h.pool h.nextInst

theorem inv_of_keepsCtl (hi : Inv c) {w' : WM} {iss' : List Handle} (hk : KeepsCtl c.w w')
    (hsub : ∀ x ∈ c.issued, x ∈ iss')
    (htinv : ∃ g : Ghost, TInv (tabOf w') g ∧ g.issued = iss'.reverse ∧
      (∀ h, h ∈ g.pending ↔ h ∈ createHandles c.w.buffers))
    (hrows : RowsOK w') (hkeys : KeysOK w') (hlive : LiveInv w') (hpool : PoolInv w') (hsh : SharedPooled w')
    (hcov : w'.slots.length ≤ w'.locs.length) : Inv ⟨w', iss'⟩ := by
  have hkn : ∀ e, Known c e → Known ⟨w', iss'⟩ e := fun e h => Known.mono (w := c.w) h hk.worldId hsub
  refine
  { tinv := ?_, pendNodup := ?_, rows := hrows, keys := hkeys, live := hlive, pool := hpool, shared := hsh, depsB := ?_
    locsCover := hcov, bufLe := ?_, bufLen := ?_, bufEmpty := ?_, bufKnown := ?_, markedKnown := ?_, markedRange := ?_
    markedSorted := ?_ }
  all_goals simp only [hk.buffers, hk.deps, hk.nthreads, hk.lockDepth, hk.marked, hk.worldId]
  · exact htinv
  · exact hi.pendNodup
  · exact hi.depsB
  · exact hi.bufLe
  · exact hi.bufLen
  · exact hi.bufEmpty
  · exact fun b hb cmd hc => ⟨hkn _ (hi.bufKnown b hb cmd hc).1, cmdOk_ext hk.pool (hi.bufKnown b hb cmd hc).2⟩
  · exact fun h hm => ⟨hkn _ (hi.markedKnown h hm).1, (hi.markedKnown h hm).2⟩
  · exact hi.markedRange
  · exact hi.markedSorted

theorem Rel.alive_isSome (hr : Rel c s) (hlive : LiveInv c.w) (hrows : RowsOK c.w) {o : Nat}
    {h : Handle} (ho : c.issued[o]? = some h) : (s.alive o).isSome = c.w.isValid h := by
  rw [optRel_isSome (hr.ents o h ho), absEnt_isSome_iff hlive hrows]

/-- `Rel` after such a step with the issued list unchanged, the spec's entity table becoming `ents'`: it is enough
that every issued handle reads its ordinal's new record and that none came (back) to life, the reserved handles of
pending creates aside (a marked handle is never one of those: `Rel.markedOld`, `Inv.markedKnown`). The marked sets need
no argument of their own: an ordinal's record is present exactly when its handle is valid. -/
theorem rel_of_ents (hi : Inv c) (hr : Rel c s) {w' : WM} (hk : KeepsCtl c.w w')
    (hrows : RowsOK w') (hlive : LiveInv w') {ents' : List (Option SEnt)} (hlen : ents'.length = s.ents.length)
    (hents : ∀ o h, c.issued[o]? = some h → optRel (ents'.getD o none) (absEnt w' h))
    (hmono : ∀ h ∈ c.issued, w'.isValid h = true → h ∉ createHandles c.w.buffers → c.w.isValid h = true) :
    Rel ⟨w', c.issued⟩ { s with ents := ents' } := by
  have hsome : ∀ o h, c.issued[o]? = some h → (ents'.getD o none).isSome = w'.isValid h := fun o h ho => by
    rw [optRel_isSome (hents o h ho), absEnt_isSome_iff hlive hrows]
  refine
  { len := hlen.trans hr.len, ents := hents, deps := hr.deps.trans hk.deps.symm
    lockDepth := hr.lockDepth.trans hk.lockDepth.symm, nthreads := hr.nthreads.trans hk.nthreads.symm
    buffers := ?_, marked := ?_, markedLt := fun o ho => hlen ▸ hr.markedLt o ho, markedNodup := hr.markedNodup
    markedOld := ?_ }
  · show All2 _ w'.buffers s.buffers
    rw [hk.buffers]; exact buffers_ext hi hr hk.pool
  · intro o
    show (o ∈ s.marked ∧ (ents'.getD o none).isSome = true) ↔ ∃ h ∈ w'.marked, w'.isValid h = true ∧ _
    rw [hk.marked]
    constructor
    · rintro ⟨hm, ha⟩
      have hlt : o < c.issued.length := hr.len ▸ hr.markedLt o hm
      have ho : c.issued[o]? = some c.issued[o] := List.getElem?_eq_getElem hlt
      rw [hsome o _ ho] at ha
      have hv := hmono _ (List.getElem_mem hlt) ha (hr.markedOld o hm _ ho)
      rcases (hr.marked o).mp ⟨hm, (hr.alive_isSome hi.live hi.rows ho).trans hv⟩ with ⟨h, hmk, _, hord⟩
      have : h = c.issued[o] := Option.some.inj ((ordOf_some hord).symm.trans ho)
      exact ⟨h, hmk, this ▸ ha, hord⟩
    · rintro ⟨h, hmk, hv, hord⟩
      have ho := ordOf_some hord
      exact ⟨((hr.marked o).mpr ⟨h, hmk, hmono h (List.mem_of_getElem? ho) hv (hi.markedKnown h hmk).2, hord⟩).1, (hsome o h ho).trans hv⟩
  · intro o ho h hh
    show h ∉ createHandles w'.buffers
    rw [hk.buffers]; exact hr.markedOld o ho h hh

theorem inv_ctl {w : WM} {iss : List Handle} (hi : Inv ⟨w, iss⟩) (iss' : List Handle) (hsub : ∀ x ∈ iss, x ∈ iss')
    (d n : Nat) (b : List (List Cmd)) (t : List (CompId × Nat))
    (htinv : ∃ g : Ghost, TInv (tabOf { w with lockDepth := d, nextEntityId := n, buffers := b, temps := t }) g ∧
      g.issued = iss'.reverse ∧ (∀ h, h ∈ g.pending ↔ h ∈ createHandles b))
    (hnd : (createHandles b).Nodup) (hle : b.length ≤ w.nthreads) (hlen : 0 < d → b.length = w.nthreads)
    (hemp : d = 0 → ∀ x ∈ b, x = [])
    (hkn : ∀ x ∈ b, ∀ cmd ∈ x, Known ⟨w, iss'⟩ cmd.entity ∧ cmdOk w.pool cmd)
    (hmk : ∀ h ∈ w.marked, h ∉ createHandles b) :
    Inv ⟨{ w with lockDepth := d, nextEntityId := n, buffers := b, temps := t }, iss'⟩ :=
  { hi with
    tinv := htinv
    pendNodup := hnd
    rows := ⟨hi.rows.vals, hi.rows.loc⟩
    keys := ⟨hi.keys.masks, hi.keys.distinct⟩
    live := ⟨hi.live.live_in, hi.live.row_live⟩
    pool := hi.pool.of_eq rfl rfl
    bufLe := hle
    bufLen := hlen
    bufEmpty := hemp
    bufKnown := hkn
    markedKnown := fun h hm => ⟨(hi.markedKnown h hm).1.mono rfl hsub, hmk h hm⟩ }

theorem inv_ctl_set {w : WM} {iss : List Handle} (hi : Inv ⟨w, iss⟩) (d n : Nat) (b : List (List Cmd))
    (t : List (CompId × Nat))
    (htinv : ∃ g : Ghost, TInv (tabOf { w with lockDepth := d, nextEntityId := n, buffers := b, temps := t }) g ∧
      g.issued = iss.reverse ∧ (∀ h, h ∈ g.pending ↔ h ∈ createHandles b))
    (hnd : (createHandles b).Nodup) (hle : b.length ≤ w.nthreads) (hlen : 0 < d → b.length = w.nthreads) (hemp : d = 0 → ∀ x ∈ b, x = [])
    (hkn : ∀ x ∈ b, ∀ cmd ∈ x, Known ⟨w, iss⟩ cmd.entity ∧ cmdOk w.pool cmd)
    (hmk : ∀ h ∈ w.marked, h ∉ createHandles b) :
    Inv ⟨{ w with lockDepth := d, nextEntityId := n, buffers := b, temps := t }, iss⟩ :=
  inv_ctl hi iss (fun _ h => h) d n b t htinv hnd hle hlen hemp hkn hmk

theorem inv_set_marked {w : WM} {iss : List Handle} (hi : Inv ⟨w, iss⟩) (dp : List (CompId × Mask)) (mk : List Handle)
    (hdp : DepsBounded dp) (hkn : ∀ h ∈ mk, Known ⟨w, iss⟩ h ∧ h ∉ createHandles w.buffers)
    (hrg : ∀ h ∈ mk, HRange w.worldId h) (hso : mk.Pairwise (fun a b => a.value < b.value)) :
    Inv ⟨{ w with deps := dp, marked := mk }, iss⟩ :=
  { hi with
    rows := ⟨hi.rows.vals, hi.rows.loc⟩
    keys := ⟨hi.keys.masks, hi.keys.distinct⟩
    live := ⟨hi.live.live_in, hi.live.row_live⟩
    pool := hi.pool.of_eq rfl rfl
    depsB := hdp
    markedKnown := hkn
    markedRange := hrg
    markedSorted := hso }

theorem flatten_set_perm {α : Type} (l : List (List α)) (t : Nat) (x : α) (ht : t < l.length) :
    (l.set t (l.getD t [] ++ [x])).flatten.Perm (l.flatten ++ [x]) := by
  induction l generalizing t with
  | nil => simp at ht
  | cons b bs ih =>
    cases t with
    | zero =>
      simp only [List.set_cons_zero, List.getD_cons_zero, List.flatten_cons, List.append_assoc]
      exact List.Perm.append_left b List.perm_append_comm
    | succ t =>
      simp only [List.set_cons_succ, List.getD_cons_succ, List.flatten_cons, List.append_assoc]
      exact List.Perm.append_left b (ih t (by simpa using ht))

/-- the handles reserved by buffered creations after one more command in buffer `t` (a `t` beyond the buffers: nothing
is pushed) -/
theorem createHandles_push (bufs : List (List Cmd)) (t : Nat) (cmd : Cmd) :
    (createHandles (bufs.set t (bufs.getD t [] ++ [cmd]))).Perm
      (createHandles bufs ++ if t < bufs.length then (crH cmd).toList else []) := by
  by_cases ht : t < bufs.length
  · unfold createHandles
    rw [if_pos ht]
    refine ((flatten_set_perm bufs t cmd ht).filterMap crH).trans ?_
    rw [List.filterMap_append]
    cases h : crH cmd <;> simp [h]
  · rw [List.set_eq_of_length_le (Nat.le_of_not_lt ht), if_neg ht, List.append_nil]

theorem mem_push {bufs : List (List Cmd)} {t : Nat} {cmd : Cmd} {b : List Cmd} {x : Cmd}
    (hb : b ∈ bufs.set t (bufs.getD t [] ++ [cmd])) (hx : x ∈ b) : (∃ b' ∈ bufs, x ∈ b') ∨ x = cmd := by
  rcases List.mem_or_eq_of_mem_set hb with h | h
  · exact Or.inl ⟨b, h, hx⟩
  · subst h
    rcases List.mem_append.mp hx with h | h
    · left
      by_cases ht : t < bufs.length
      · refine ⟨bufs.getD t [], ?_, h⟩
        rw [List.getD_eq_getElem?_getD, List.getElem?_eq_getElem ht]
        exact List.getElem_mem ht
      · rw [List.getD_eq_getElem?_getD, List.getElem?_eq_none (Nat.le_of_not_lt ht)] at h
        simp at h
    · right; simpa using h

theorem cmdOk_of_noncreate (p : Pool) {cmd : Cmd} (h : crH cmd = none) : cmdOk p cmd := by
  cases cmd <;> first | trivial | cases h

theorem inv_push (hi : Inv c) (t : Nat) (cmd : Cmd) (hcr : crH cmd = none) (hk : Known c cmd.entity)
    (hl : 0 < c.w.lockDepth) : Inv ⟨c.w.pushCmd t cmd, c.issued⟩ := by
  have hperm : (createHandles (c.w.buffers.set t (c.w.buffers.getD t [] ++ [cmd]))).Perm (createHandles c.w.buffers) := by
    simpa [hcr] using createHandles_push c.w.buffers t cmd
  rcases hi.tinv with ⟨g, tinv, hiss, hpend⟩
  refine inv_ctl_set (w := c.w) hi c.w.lockDepth c.w.nextEntityId _ c.w.temps
    ⟨g, tinv, hiss, fun h => (hpend h).trans hperm.mem_iff.symm⟩ (hperm.nodup_iff.mpr hi.pendNodup) ?_ ?_ ?_ ?_ ?_
  · rw [List.length_set]; exact hi.bufLe
  · rw [List.length_set]; exact hi.bufLen
  · exact fun h => absurd h (Nat.ne_of_gt hl)
  · intro b hb x hx
    rcases mem_push hb hx with ⟨b', hb', hx'⟩ | rfl
    · exact hi.bufKnown b' hb' x hx'
    · exact ⟨hk, cmdOk_of_noncreate _ hcr⟩
  · exact fun h hm hc => (hi.markedKnown h hm).2 (hperm.mem_iff.mp hc)

theorem rel_push (hr : Rel c s) (t : Nat) (cmd : Cmd) (sc : SCmd)
    (hrel : cmdRel c.issued c.w.pool cmd sc)
    (hnm : ∀ e, crH cmd = some e → ∀ o ∈ s.marked, c.issued[o]? ≠ some e) :
    Rel ⟨c.w.pushCmd t cmd, c.issued⟩ (s.push t sc) :=
  { hr with
    buffers := hr.buffers.set t ((hr.buffers.getD t [] [] .nil).append (.cons hrel .nil))
    markedOld := by
      intro o ho h hh hc
      rcases List.mem_append.mp ((createHandles_push c.w.buffers t cmd).mem_iff.mp hc) with hc | hc
      · exact hr.markedOld o ho h hh hc
      · split at hc
        · exact hnm h (Option.mem_toList.mp hc) o ho hh
        · cases hc }

theorem alive_snoc (s : WS) (x : Option SEnt) (o : Nat) :
    WS.alive { s with ents := s.ents ++ [x] } o = if o = s.ents.length then x else s.alive o := by
  unfold WS.alive
  simp only [List.getD_eq_getElem?_getD, List.getElem?_append]
  by_cases h1 : o < s.ents.length
  · simp [h1, Nat.ne_of_lt h1]
  · by_cases h2 : o = s.ents.length
    · simp [h2]
    · have : ¬ o - s.ents.length = 0 :=
        Nat.sub_ne_zero_of_lt (Nat.lt_of_le_of_ne (Nat.le_of_not_lt h1) (Ne.symm h2))
      simp [h1, h2, this]

theorem rel_issue {w : WM} {iss : List Handle} {s : WS} (hr : Rel ⟨w, iss⟩ s) (h : Handle) (x : Option SEnt)
    (hx : optRel x (absEnt w h))
    (hbk : ∀ b ∈ w.buffers, ∀ cmd ∈ b, cmd.entity ≠ h) (hmk : ∀ e ∈ w.marked, e ≠ h) :
    Rel ⟨w, iss ++ [h]⟩ { s with ents := s.ents ++ [x] } := by
  have hlen : s.ents.length = iss.length := hr.len
  have hold : ∀ o ∈ s.marked, WS.alive { s with ents := s.ents ++ [x] } o = s.alive o ∧ (iss ++ [h])[o]? = iss[o]? :=
    fun o ho => by
      have := hr.markedLt o ho
      rw [alive_snoc, if_neg (Nat.ne_of_lt this), List.getElem?_append_left (hlen ▸ this)]
      exact ⟨rfl, rfl⟩
  refine
  { hr with
    len := by show (s.ents ++ [x]).length = (iss ++ [h]).length; simp [hlen]
    ents := ?_, buffers := ?_, marked := ?_
    markedLt := fun o hm => by
      show o < (s.ents ++ [x]).length
      rw [List.length_append]; exact Nat.lt_add_right _ (hr.markedLt o hm)
    markedOld := fun o ho h' hh => hr.markedOld o ho h' ((hold o ho).2 ▸ hh) }
  · intro o h' ho
    have ho' : (iss ++ [h])[o]? = some h' := ho
    rw [alive_snoc, hlen]
    by_cases hlt : o < iss.length
    · rw [List.getElem?_append_left hlt] at ho'
      rw [if_neg (Nat.ne_of_lt hlt)]
      exact hr.ents o h' ho'
    · have : o = iss.length := by
        have := (List.getElem?_eq_some_iff.mp ho').1
        rw [List.length_append] at this
        exact Nat.le_antisymm (Nat.le_of_lt_succ this) (Nat.le_of_not_lt hlt)
      subst this
      rw [List.getElem?_append_right (Nat.le_refl _)] at ho'
      simp only [Nat.sub_self, List.getElem?_cons_zero, Option.some.injEq] at ho'
      rw [if_pos rfl, ← ho']
      exact hx
  · exact hr.buffers.mono fun b hb _ hbb => hbb.mono fun cmd hc _ hcs =>
      cmdRel_congr (ordOf_snoc_ne iss (Ne.symm (hbk b hb cmd hc))) (fun _ _ _ _ => rfl) hcs
  · intro o
    show (o ∈ s.marked ∧ (WS.alive { s with ents := s.ents ++ [x] } o).isSome = true) ↔
      ∃ e ∈ w.marked, w.isValid e = true ∧ ordOf (iss ++ [h]) e = some o
    have : (∃ e ∈ w.marked, w.isValid e = true ∧ ordOf (iss ++ [h]) e = some o) ↔
        ∃ e ∈ w.marked, w.isValid e = true ∧ ordOf iss e = some o :=
      exists_congr fun e => and_congr_right fun he => by rw [ordOf_snoc_ne iss (Ne.symm (hmk e he))]
    rw [this, ← hr.marked o]
    exact and_congr_right fun hm => by rw [(hold o hm).1]

theorem CW.step_fst (c : CW) (op : Op Handle) :
    (c.step info op).1 = ⟨(c.w.step info op).1, issueOut c.issued (c.w.step info op).2.1⟩ := rfl

theorem StepRefines.intro {op : Op Handle} {w' : WM} {out : Out Handle} {cbs : List Cb} {s' : WS}
    {sout : Out Nat} {scbs : List SCb} (hw : c.w.step info op = (w', out, cbs))
    (hs : s.step info (op.mapRef (ordOf c.issued)) = (s', sout, scbs))
    (hi : Inv ⟨w', issueOut c.issued out⟩) (hr : Rel ⟨w', issueOut c.issued out⟩ s')
    (ha : stepAgree ⟨w', issueOut c.issued out⟩ op out cbs sout scbs) : StepRefines info c s op := by
  unfold StepRefines CW.step
  rw [hw, hs]
  exact ⟨hi, hr, ha⟩

theorem agree_nil (c' : CW) {op : Op Handle} (h : isUnlockOp op = false) {out : Out Handle} {sout : Out Nat}
    (ho : outAgree c'.issued out sout) : stepAgree c' op out [] sout [] :=
  ⟨ho, by rw [h]; exact List.Perm.nil⟩

theorem agree_ok_nil (c' : CW) (op : Op Handle) (h : isUnlockOp op = false) :
    stepAgree c' op .ok [] .ok [] := agree_nil c' h trivial

theorem agree_created (w' : WM) (iss : List Handle) (h : Handle) (op : Op Handle) (hu : isUnlockOp op = false) :
    stepAgree ⟨w', iss ++ [h]⟩ op (.created h) [] (.created iss.length) [] :=
  agree_nil _ hu ⟨ordOf_snoc_self iss h, by simp⟩

theorem noop_refines (hi : Inv c) (hr : Rel c s) {op : Op Handle} (hu : isUnlockOp op = false)
    {out : Out Handle} {sout : Out Nat} (hw : c.w.step info op = (c.w, out, []))
    (hs : s.step info (op.mapRef (ordOf c.issued)) = (s, sout, [])) (hiss : issueOut c.issued out = c.issued)
    (ho : outAgree c.issued out sout) : StepRefines info c s op := by
  refine StepRefines.intro info hw hs ?_ ?_ (agree_nil _ hu (by rw [hiss]; exact ho)) <;> rw [hiss]
  · exact hi
  · exact hr

end Mustache.Proofs.Refine
