import Mustache.Proofs.RefinePackExisting
import Mustache.Proofs.RefinePackCreate
/-!
# Refinement, the flush: all packs, by induction

The flush runs on ghost states whose buffers are linear (`lin`): everything still to be applied sits in the first
buffer, in the order of application. One pack (`pack_step`) takes its commands off that buffer on both sides; the
induction over the packs (`flush_packs`) needs the slot table not to outgrow the id range, which is read off the state
after the last pack (the table only grows).
-/
namespace Mustache.Proofs.Refine
open Mustache.Model Mustache.Spec
open Mustache.Proofs.IdTable (tabOf Ghost TInv)
open Mustache.Proofs.Rows

variable (info : CompId → CompInfo)

theorem All2.cons_inv {α β : Type} {R : α → β → Prop} {a : α} {l : List α} {m : List β} (h : All2 R (a :: l) m) :
    ∃ b m', m = b :: m' ∧ R a b ∧ All2 R l m' := by
  cases h with
  | cons hr ht => exact ⟨_, _, rfl, hr, ht⟩

theorem All2.append_inv {α β : Type} {R : α → β → Prop} : ∀ {l₁ l₂ : List α} {m : List β}, All2 R (l₁ ++ l₂) m →
    ∃ m₁ m₂, m = m₁ ++ m₂ ∧ All2 R l₁ m₁ ∧ All2 R l₂ m₂
  | [], _, m, h => ⟨[], m, rfl, .nil, h⟩
  | a :: l₁, l₂, m, h => by
    rcases All2.cons_inv h with ⟨b, m', rfl, hab, ht⟩
    rcases All2.append_inv ht with ⟨m₁, m₂, rfl, h1, h2⟩
    exact ⟨b :: m₁, m₂, rfl, .cons hab h1, h2⟩

theorem All2.flatten {α β : Type} {R : α → β → Prop} {L : List (List α)} {M : List (List β)} (h : All2 (All2 R) L M) :
    All2 R L.flatten M.flatten := by
  induction h with
  | nil => exact .nil
  | cons hr _ ih => simp only [List.flatten_cons]; exact hr.append ih

theorem All2.eq_map {α β : Type} {R : α → β → Prop} {f : α → β} : ∀ {l : List α} {m : List β}, All2 R l m →
    (∀ a ∈ l, ∀ b, R a b → b = f a) → m = l.map f
  | [], _, h, _ => by cases h; rfl
  | a :: l, _, h, hf => by
    rcases All2.cons_inv h with ⟨b, m', rfl, hab, ht⟩
    rw [List.map_cons, hf a (by simp) b hab, All2.eq_map ht (fun x hx y hxy => hf x (by simp [hx]) y hxy)]

def lin {α : Type} (n : Nat) (R : List α) : List (List α) := R :: List.replicate (n - 1) []

theorem lin_length {α : Type} (n : Nat) (R : List α) (hn : 0 < n) : (lin n R).length = n := by
  simp only [lin, List.length_cons, List.length_replicate]; omega

theorem mem_lin_cases {α : Type} {n : Nat} {R x : List α} (hx : x ∈ lin n R) : x = R ∨ x = [] :=
  (List.mem_cons.mp hx).imp_right (fun h => (List.mem_replicate.mp h).2)

theorem mem_lin {α : Type} {n : Nat} {R x : List α} {a : α} (hx : x ∈ lin n R) (ha : a ∈ x) : a ∈ R := by
  rcases mem_lin_cases hx with rfl | rfl
  · exact ha
  · cases ha

theorem lin_flatten {α : Type} (n : Nat) (R : List α) : (lin n R).flatten = R := by
  have : (List.replicate (n - 1) ([] : List α)).flatten = [] :=
    List.flatten_eq_nil_iff.mpr (fun l hl => (List.mem_replicate.mp hl).2)
  rw [lin, List.flatten_cons, this, List.append_nil]

theorem createHandles_lin (n : Nat) (R : List Cmd) : createHandles (lin n R) = R.filterMap crH := by
  unfold createHandles; rw [lin_flatten]

theorem all2_lin {α β : Type} {R : α → β → Prop} {n : Nat} {l : List α} {m : List β} (h : All2 R l m) :
    All2 (All2 R) (lin n l) (lin n m) := .cons h (All2.replicate .nil _)

theorem all2_of_lin {α β : Type} {R : α → β → Prop} {n : Nat} {l : List α} {m : List β}
    (h : All2 (All2 R) (lin n l) (lin n m)) : All2 R l m := by
  rcases All2.cons_inv h with ⟨b, m', heq, hab, _⟩
  cases heq
  exact hab

def IsPack (p : List Cmd) : Prop :=
  ∃ first rest, p = first :: rest ∧ ∀ c ∈ rest, c.entity = first.entity ∧ crH c = none

theorem crH_none_of_not_create {c : Cmd} (h : isCreateCmd c = false) : crH c = none := by
  cases c <;> first | rfl | cases h

theorem filterMap_crH_nil {l : List Cmd} (h : ∀ c ∈ l, crH c = none) : l.filterMap crH = [] :=
  List.filterMap_eq_nil_iff.mpr h

theorem packs_shape (buf : List Cmd) : ∀ p ∈ packs buf, IsPack p := by
  induction buf with
  | nil => intro p hp; cases hp
  | cons c cs ih =>
    have hone : IsPack [c] := ⟨c, [], rfl, fun _ h => nomatch h⟩
    rw [packs_cons']
    cases hp : packs cs with
    | nil => exact fun p hp' => List.mem_singleton.mp hp' ▸ hone
    | cons p ps =>
      rw [hp] at ih
      have ihps : ∀ q ∈ ps, IsPack q := fun q hq => ih q (List.mem_cons_of_mem _ hq)
      cases p with
      | nil => exact fun q hq => (List.mem_cons.mp hq).elim (fun h => h ▸ hone) (ihps q)
      | cons d ds =>
        obtain ⟨f, r, hfr, hall⟩ := ih (d :: ds) (by simp)
        cases hfr
        simp only
        split
        · rename_i hc
          intro q hq
          rcases List.mem_cons.mp hq with rfl | hq
          · refine ⟨c, d :: ds, rfl, fun x hx => ?_⟩
            rcases List.mem_cons.mp hx with rfl | hx'
            · exact ⟨hc.1.symm, crH_none_of_not_create hc.2⟩
            · exact ⟨(hall x hx').1.trans hc.1.symm, (hall x hx').2⟩
          · exact ihps q hq
        · intro q hq
          rcases List.mem_cons.mp hq with rfl | hq
          · exact hone
          · exact ih q hq

/-- read off the id-table effect of a pack (`applyPack_tab`): an installation may grow the table, releases do not -/
theorem applyPack_slots_length (w : WM) (first : Cmd) (rest : List Cmd) :
    (w.applyPack info (first :: rest)).1.slots.length =
      if isCreateCmd first then (startCreate w first.entity).slots.length else w.slots.length := by
  show (tabOf (w.applyPack info (first :: rest)).1).slots.length = _
  rw [Mustache.Proofs.IdTable.applyPack_tab]
  cases hfc : isCreateCmd first with
  | true =>
    obtain ⟨e, m, sh, rfl⟩ := Mustache.Proofs.IdTable.isCreateCmd_true hfc
    show (if _ then ((tabOf w).install e).release e else (tabOf w).install e).slots.length =
      (tabOf (startCreate w e)).slots.length
    rw [startCreate_tab]
    split
    · rw [Mustache.Proofs.IdTable.release_eq_clear1 _ e (startCreate_facts w e).2.2.2]
      exact Mustache.Proofs.IdTable.clear1_length _ e
    · rfl
  | false =>
    rw [Mustache.Proofs.IdTable.packTab_other _ _ rest hfc]
    split
    · exact Mustache.Proofs.IdTable.destroyNow_length _ _
    · rfl

theorem applyPack_slots_mono (w : WM) (pack : List Cmd) : w.slots.length ≤ (w.applyPack info pack).1.slots.length := by
  cases pack with
  | nil => exact Nat.le_refl _
  | cons first rest =>
    rw [applyPack_slots_length]
    split
    · exact Mustache.Proofs.IdTable.install_length_ge (tabOf w) _
    · exact Nat.le_refl _

theorem applyPacks_slots_mono : ∀ (PL : List (List Cmd)) (acc : WM × List Cb),
    acc.1.slots.length ≤ (applyPacks info acc PL).1.slots.length
  | [], _ => Nat.le_refl _
  | P :: PL, acc => by
    rw [applyPacks_cons]
    exact Nat.le_trans (applyPack_slots_mono info acc.1 P)
      (applyPacks_slots_mono PL ((acc.1.applyPack info P).1, acc.2 ++ (acc.1.applyPack info P).2))

theorem pack_step {G : WM} {iss : List Handle} {S : WS} (hi : Inv ⟨G, iss⟩) (hb : Bounds ⟨G, iss⟩) (hr : Rel ⟨G, iss⟩ S)
    (n : Nat) (P R : List Cmd) (SPR : List SCmd) (hGb : G.buffers = lin n (P ++ R)) (hSb : S.buffers = lin n SPR)
    (hP : IsPack P) (hb' : (G.applyPack info P).1.slots.length < 2^30 - 1) :
    ∃ SP SR, SPR = SP ++ SR ∧ PackRefinesPop info G iss S P SP (lin n R) (lin n SR) := by
  rcases hP with ⟨first, rest, rfl, hall⟩
  have hbufs := hr.buffers
  rw [show (⟨G, iss⟩ : CW).w.buffers = lin n ((first :: rest) ++ R) from hGb, hSb] at hbufs
  rcases All2.append_inv (all2_of_lin hbufs) with ⟨SP, SR, rfl, hSP, hSR⟩
  refine ⟨SP, SR, rfl, ?_⟩
  have hmem : (first :: rest) ++ R ∈ G.buffers := by rw [hGb]; exact List.mem_cons_self
  have hbsub : ∀ x ∈ lin n R, ∀ cmd ∈ x, ∃ y ∈ G.buffers, cmd ∈ y :=
    fun x hx cmd hc => ⟨_, hmem, List.mem_append_right _ (mem_lin hx hc)⟩
  have hblen : (lin n R).length = G.buffers.length := by rw [hGb]; simp [lin]
  have hbrel : All2 (All2 (cmdRel iss G.pool)) (lin n R) (lin n SR) := all2_lin hSR
  have hld : 0 < G.lockDepth := by
    rcases Nat.eq_zero_or_pos G.lockDepth with h0 | h0
    · cases hi.bufEmpty h0 _ hmem
    · exact h0
  cases hfc : isCreateCmd first with
  | false =>
    have hall' : ∀ c ∈ first :: rest, c.entity = first.entity ∧ crH c = none := by
      intro c hc
      rcases List.mem_cons.mp hc with rfl | hc'
      · exact ⟨rfl, crH_none_of_not_create hfc⟩
      · exact hall c hc'
    have hSPeq : SP = (first :: rest).map (specCmdRef (ordOf iss first.entity)) :=
      All2.eq_map hSP (fun c hc sc hcs => (hall' c hc).1 ▸ cmdRel_noncreate (hall' c hc).2 hcs)
    rw [hSPeq]
    obtain ⟨hpi, hpr, hpc⟩ := pack_existing_refines info hi hb hr first rest hfc hall'
    have hctl := applyPack_ctl info G (first :: rest)
    have hchP : createHandles (lin n R) = createHandles G.buffers := by
      rw [hGb, createHandles_lin, createHandles_lin, List.filterMap_append,
        filterMap_crH_nil (fun c hc => (hall' c hc).2), List.nil_append]
    refine ⟨?_, ?_, hpc⟩
    · rw [← hctl.lockDepth]
      exact inv_pop hpi _ (by rw [hchP, hctl.buffers]) (by rw [hblen, hctl.buffers]) (by rw [hctl.buffers]; exact hbsub)
        (fun h0 => absurd (hctl.lockDepth ▸ h0) (Nat.ne_of_gt hld))
    · rw [← hctl.lockDepth]
      exact rel_pop hpr _ _ (by rw [hctl.pool]; exact hbrel) (fun h hh => by rw [hctl.buffers, ← hchP]; exact hh)
  | true =>
    cases first with
    | create e m sh =>
      rcases All2.cons_inv hSP with ⟨sc, SPr, rfl, hsc, hSPr⟩
      cases sc with
      | create k m' ssh =>
        obtain ⟨hord, rfl, hssh⟩ := hsc
        have hall : ∀ c ∈ rest, c.entity = e ∧ crH c = none := hall
        have hSPeq : SPr = rest.map (specCmd k) := by
          apply All2.eq_map hSPr
          intro c hc sc hcs
          have := cmdRel_noncreate (hall c hc).2 hcs
          rwa [(hall c hc).1, hord, specCmdRef_some k c (hall c hc).2] at this
        rw [hSPeq]
        have hch : createHandles G.buffers = e :: createHandles (lin n R) := by
          rw [hGb, createHandles_lin, createHandles_lin, List.cons_append, List.filterMap_cons]
          simp only [crH]
          rw [List.filterMap_append, filterMap_crH_nil (fun c hc => (hall c hc).2), List.nil_append]
        have hok := (hi.bufKnown _ hmem (.create e m' sh) (List.mem_append_left _ List.mem_cons_self)).2
        have hb0 : (startCreate G e).slots.length < 2^30 - 1 := by
          rw [applyPack_slots_length] at hb'
          exact hb'
        exact pack_create_refines info hi hb hr e m' sh ssh rest hok.1 hok.2 hssh hall (ordOf_some hord) (lin n R)
          (lin n SR) ⟨hch ▸ List.Perm.refl _, hblen, hbsub, hbrel⟩ hb0
      | _ => exact hsc.elim
    | _ => cases hfc

theorem applyCmd_ctl (T : WS) (d : Nat) (x : List (List SCmd)) (c : SCmd) :
    ({ T with lockDepth := d, buffers := x }).applyCmd info c =
      ({ (T.applyCmd info c).1 with lockDepth := d, buffers := x }, (T.applyCmd info c).2) := by
  -- every branch of `applyCmd` is decided by `alive`, `deps` and Boolean tests on them: once these are fixed both sides
  -- are the same record (`split` is slow to check here, hence `cases` on the tests)
  cases c with
  | create o m sh => rfl
  | destroyNow o =>
    cases o with
    | none => rfl
    | some o =>
      simp only [WS.applyCmd, WS.doDestroy]
      show (match T.alive o with | none => _ | some e => _) = _
      cases T.alive o <;> rfl
  | destroy o =>
    cases o with
    | none => rfl
    | some o =>
      simp only [WS.applyCmd]
      show (if (T.alive o).isSome = true then _ else _) = _
      cases (T.alive o).isSome <;> rfl
  | remove o c =>
    cases o with
    | none => rfl
    | some o =>
      simp only [WS.applyCmd, WS.doRemove]
      show (match T.alive o with | none => _ | some e => _) = _
      cases T.alive o with
      | none => rfl
      | some e =>
        simp only
        cases (!(compSet e).contains c) with
        | true => rfl
        | false =>
          simp only [Bool.false_eq_true, if_false]
          cases (closed T.deps (Mask.erase (compSet e) c) == compSet e) <;> rfl
  | assign o c v =>
    cases o with
    | none => rfl
    | some o =>
      simp only [WS.applyCmd, WS.doAssign]
      show (match T.alive o with | none => _ | some e => _) = _
      cases T.alive o with
      | none => rfl
      | some e =>
        simp only
        cases (compSet e).contains c <;> rfl

theorem specFold_ctl (d : Nat) (x : List (List SCmd)) (l : List SCmd) (T : WS) (a : List SCb) :
    specFold info ({ T with lockDepth := d, buffers := x }, a) l =
      ({ (specFold info (T, a) l).1 with lockDepth := d, buffers := x }, (specFold info (T, a) l).2) := by
  unfold specFold
  refine List.foldl_hom (fun r : WS × List SCb => ({ r.1 with lockDepth := d, buffers := x }, r.2)) (init := (T, a)) ?_
  intro r c
  simp only [applyCmd_ctl]

theorem specFold_lockDepth (l : List SCmd) (T : WS) (a : List SCb) : (specFold info (T, a) l).1.lockDepth = T.lockDepth :=
  congrArg (·.1.lockDepth) (specFold_ctl info T.lockDepth T.buffers l T a)

theorem specFold_buffers (x : List (List SCmd)) (l : List SCmd) (T : WS) (a : List SCb) :
    specFold info ({ T with buffers := x }, a) l =
      ({ (specFold info (T, a) l).1 with buffers := x }, (specFold info (T, a) l).2) := by
  rw [show ({ T with buffers := x } : WS) = { T with lockDepth := T.lockDepth, buffers := x } from rfl, specFold_ctl,
    ← specFold_lockDepth info l T a]

theorem specFold_append (acc : WS × List SCb) (a b : List SCmd) :
    specFold info acc (a ++ b) = specFold info (specFold info acc a) b := by
  unfold specFold; rw [List.foldl_append]

theorem specFold_acc : ∀ (l : List SCmd) (S : WS) (scbs : List SCb),
    specFold info (S, scbs) l = ((specFold info (S, []) l).1, scbs ++ (specFold info (S, []) l).2)
  | [], _, _ => by simp [specFold]
  | c :: l, S, scbs => by
    rw [specFold_cons, specFold_cons]
    simp only [List.nil_append]
    rw [specFold_acc l _ (scbs ++ _), specFold_acc l _ ((S.applyCmd info c).2), List.append_assoc]

theorem flush_packs (iss : List Handle) (n d : Nat) :
    ∀ (PL : List (List Cmd)) (W : WM) (S : WS) (SPR : List SCmd) (cbs : List Cb) (scbs : List SCb),
      (∀ P ∈ PL, IsPack P) →
      Inv ⟨setCtl W d (lin n PL.flatten) W.marked, iss⟩ → Rel ⟨setCtl W d (lin n PL.flatten) W.marked, iss⟩ S →
      S.buffers = lin n SPR →
      (applyPacks info (W, cbs) PL).1.slots.length < 2^30 - 1 → (∀ h ∈ iss, h.ver + 1 < 2^24) →
      cbsAgreeNet iss cbs scbs →
      Inv ⟨setCtl (applyPacks info (W, cbs) PL).1 d (lin n []) (applyPacks info (W, cbs) PL).1.marked, iss⟩ ∧
      Rel ⟨setCtl (applyPacks info (W, cbs) PL).1 d (lin n []) (applyPacks info (W, cbs) PL).1.marked, iss⟩
        { (specFold info (S, scbs) SPR).1 with buffers := lin n [] } ∧
      cbsAgreeNet iss (applyPacks info (W, cbs) PL).2 (specFold info (S, scbs) SPR).2
  | [], W, S, SPR, cbs, scbs, _, hi, hr, hSb, _, _, hcb => by
    have hbufs := hr.buffers
    rw [show (⟨setCtl W d (lin n ([] : List (List Cmd)).flatten) W.marked, iss⟩ : CW).w.buffers = lin n [] from rfl, hSb] at hbufs
    cases all2_of_lin hbufs
    have hS : { S with buffers := lin n [] } = S := by
      cases S; simp only at hSb; subst hSb; rfl
    refine ⟨hi, ?_, hcb⟩
    show Rel _ { S with buffers := lin n [] }
    rw [hS]; exact hr
  | P :: PL, W, S, SPR, cbs, scbs, hPL, hi, hr, hSb, hfin, hnw, hcb => by
    have hflat : (P :: PL).flatten = P ++ PL.flatten := rfl
    rw [hflat] at hi hr
    rw [applyPacks_cons] at hfin ⊢
    have hmono := applyPacks_slots_mono info PL ((W.applyPack info P).1, cbs ++ (W.applyPack info P).2)
    have happly := setCtl_applyPack info (d := d) (b := lin n (P ++ PL.flatten)) W P
    have hb1 : (W.applyPack info P).1.slots.length < 2^30 - 1 := Nat.lt_of_le_of_lt hmono hfin
    have hb0 : Bounds ⟨setCtl W d (lin n (P ++ PL.flatten)) W.marked, iss⟩ :=
      ⟨Nat.lt_of_le_of_lt (applyPack_slots_mono info W P) hb1, hnw⟩
    rcases pack_step info hi hb0 hr n P PL.flatten SPR rfl hSb (hPL P (by simp))
      (by rw [happly]; exact hb1) with ⟨SP, SR, rfl, hpr⟩
    unfold PackRefinesPop at hpr
    rw [happly] at hpr
    obtain ⟨hi1, hr1, hcb1⟩ := hpr
    have ih := flush_packs iss n d PL (W.applyPack info P).1
      { (specFold info (S, []) SP).1 with buffers := lin n SR } SR (cbs ++ (W.applyPack info P).2)
      (scbs ++ (specFold info (S, []) SP).2) (fun Q hQ => hPL Q (by simp [hQ])) hi1 hr1 rfl hfin hnw
      (cbsAgreeNet_append hcb hcb1)
    rw [specFold_append, specFold_acc info SP S scbs]
    rw [specFold_buffers] at ih
    exact ih

end Mustache.Proofs.Refine
