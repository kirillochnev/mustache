import Mustache.Proofs.RowsObs
/-!
# What an operation on ONE entity does to the operand: `Moved`, `Owns`, `LiveInv`, `Outcome`

The steps every operation of the model is made of: `getArchetype`, the move into the archetype found
(`getArch_move`), `setCell`, `allocId`, the insertion of a fresh row. `Moved` / `Owns`: the operand
sits in a row of its own, with known values. `LiveInv`: rows are exactly the live handles. The
operations themselves are in `RowsOps.lean` and `RowsNew.lean`.
-/
namespace Mustache.Proofs.Rows
open Mustache.Model

/-- the operand's location, when it names an archetype, points at the operand's own row
(C01/C02 link: every live handle is located at its row) -/
def Located (w : WM) (e : Handle) : Prop :=
  ∀ pi, (w.locOf e).arch = some pi → InRowAt w e pi (w.locOf e).idx

theorem located_of_row {w : WM} (hok : RowsOK w) {e : Handle} {ai i : Nat} (h : InRowAt w e ai i) :
    Located w e := by
  rcases h with ⟨r, hr, rfl⟩
  intro pi hpi
  rw [hok.locOf hr] at hpi ⊢
  cases hpi
  exact ⟨r, hr, rfl⟩

structure Owns (w' : WM) (e : Handle) (ai : Nat) (vals : List Val) : Prop where
  valid : w'.isValid e = true
  here : ∃ n, w'.locOf e = ⟨some ai, n⟩ ∧ (w'.arch ai).rows[n]? = some ⟨e, vals⟩

theorem Owns.getComp {w' : WM} {e : Handle} {ai : Nat} {vals : List Val} (h : Owns w' e ai vals) (c : CompId) :
    w'.getComp e c = match (w'.arch ai).mask.indexOf? c with
      | none => none
      | some ci => some (vals.getD ci none) := by
  rcases h.here with ⟨n, hl, hr⟩
  rw [getComp_of_loc hl hr c, h.valid]; rfl

theorem Owns.hasComp {w' : WM} {e : Handle} {ai : Nat} {vals : List Val} (h : Owns w' e ai vals) (c : CompId) :
    w'.hasComp e c = (w'.arch ai).mask.contains c := by
  rcases h.here with ⟨n, hl, _⟩
  rw [hasComp_of_loc hl c, h.valid]; rfl

theorem Owns.archOf {w' : WM} {e : Handle} {ai : Nat} {vals : List Val} (h : Owns w' e ai vals) :
    w'.archOf e = some ai := by
  rcases h.here with ⟨n, hl, _⟩
  rw [archOf_of_loc hl, h.valid]; rfl

structure Moved (w w2 : WM) (e : Handle) (ti : Nat) (vals : List Val) : Prop where
  step : Step w w2 e.id
  same : SameTable w w2
  here : ∃ n, w2.locOf e = ⟨some ti, n⟩ ∧ (w2.arch ti).rows[n]? = some ⟨e, vals⟩

theorem Moved.isValid {w w2 : WM} {e : Handle} {ti : Nat} {vals : List Val} (hm : Moved w w2 e ti vals)
    (h : Handle) : w2.isValid h = w.isValid h := hm.same.isValid h

theorem Moved.owns {w w2 : WM} {e : Handle} {ti : Nat} {vals : List Val} (hm : Moved w w2 e ti vals)
    (hv : w.isValid e = true) : Owns w2 e ti vals :=
  ⟨by rw [hm.isValid]; exact hv, hm.here⟩

theorem Moved.getComp {w w2 : WM} {e : Handle} {ti : Nat} {vals : List Val} (hm : Moved w w2 e ti vals)
    (hv : w.isValid e = true) (c : CompId) :
    w2.getComp e c = match (w2.arch ti).mask.indexOf? c with
      | none => none
      | some ci => some (vals.getD ci none) :=
  (hm.owns hv).getComp c

theorem Moved.hasComp {w w2 : WM} {e : Handle} {ti : Nat} {vals : List Val} (hm : Moved w w2 e ti vals)
    (hv : w.isValid e = true) (c : CompId) :
    w2.hasComp e c = (w2.arch ti).mask.contains c :=
  (hm.owns hv).hasComp c

theorem Moved.archOf {w w2 : WM} {e : Handle} {ti : Nat} {vals : List Val} (hm : Moved w w2 e ti vals)
    (hv : w.isValid e = true) : w2.archOf e = some ti :=
  (hm.owns hv).archOf

theorem insertRow_moved {w : WM} (hok : RowsOK w) (ai : Nat) (e : Handle) (vals : List Val)
    (hai : ai < w.archs.length) (hn : e.id ≠ nullId) (hlt : e.id < w.locs.length)
    (hfresh : NotInRow w e.id) (hvals : vals.length = (w.arch ai).mask.length) :
    Moved w (insertRow w ai e vals) e ai vals := by
  refine ⟨⟨rowsOK_insertRow hok ai e vals hai hn hlt hfresh hvals,
    ⟨insertRow_keepsOthers hok ai e vals hai, fun h _ => (insertRow_sameTable w ai e vals).isValid h⟩,
    by rw [insertRow_locs_length]; exact Nat.le_refl _, ?_,
    fun hk => (insertRow_keysSame w ai e vals).keysOK hk⟩, insertRow_sameTable _ _ _ _,
    ⟨_, insertRow_locOf_self w ai e vals hn hlt,
      (insertRow_rows w ai ai _ e vals _ hai).mpr (Or.inr ⟨rfl, rfl, rfl⟩)⟩⟩
  intro x hx hnr aj j r hr
  rcases (insertRow_rows w ai aj j e vals r hai).mp hr with hold | ⟨_, _, rfl⟩
  · exact hnr aj j r hold
  · exact fun h => hx h.symm

theorem Moved.setCell {w w2 : WM} {e : Handle} {ti : Nat} {vals : List Val} (hm : Moved w w2 e ti vals)
    (ci : Nat) (v : Val) :
    Moved w (setCell w2 ti (w2.locOf e).idx ci v) e ti (vals.set ci v) := by
  rcases hm.here with ⟨n, hl, hr⟩
  have hidx : (w2.locOf e).idx = n := by rw [hl]
  rw [hidx]
  refine ⟨hm.step.trans (setCell_step hm.step.ok ti n ci v e.id ?_),
    hm.same.trans (setCell_sameTable _ _ _ _ _), ⟨n, ?_, ?_⟩⟩
  · intro r0 h0; rw [hr] at h0; cases h0; rfl
  · unfold WM.locOf; rw [setCell_locs]; exact hl
  · rw [setCell_rows, if_pos ⟨rfl, rfl⟩, hr]; rfl

/-- the value a row built from the row `prow` of an archetype with mask `pm` holds for component `c` -/
def carried (info : CompId → CompInfo) (pm : Mask) (prow : Row) (skip : Mask) (c : CompId) : Val :=
  match pm.indexOf? c with
  | some i => prow.vals.getD i none
  | none =>
    if skip.contains c then (match (info c).fixed with | some v => some v | none => none)
    else defaultVal info c

/-- values of the row built in an archetype with mask `tm` from the row `prow` of an archetype with
mask `pm` -/
def carry (info : CompId → CompInfo) (tm pm : Mask) (prow : Row) (skip : Mask) : List Val :=
  tm.map (carried info pm prow skip)

theorem moveVals_eq_carry (info : CompId → CompInfo) (w : WM) (t p idx : Nat) (skip : Mask) :
    moveVals info w t p idx skip =
      carry info (w.arch t).mask (w.arch p).mask ((w.arch p).rows.getD idx default) skip := rfl

theorem carry_get (info : CompId → CompInfo) (tm pm : Mask) (prow : Row) (skip : Mask) (c : CompId)
    (h : c ∈ tm) :
    (carry info tm pm prow skip).getD (tm.idxOf c) none = carried info pm prow skip c := by
  have hi := indexOf?_of_mem h
  unfold carry
  rw [List.getD_eq_getElem?_getD, List.getElem?_map, hi.2.2]
  rfl

theorem carry_length (info : CompId → CompInfo) (tm pm : Mask) (prow : Row) (skip : Mask) :
    (carry info tm pm prow skip).length = tm.length := List.length_map _

theorem carried_of_mem (info : CompId → CompInfo) (pm : Mask) (prow : Row) (skip : Mask) (c : CompId)
    (h : c ∈ pm) : carried info pm prow skip c = prow.vals.getD (pm.idxOf c) none := by
  unfold carried; rw [(indexOf?_of_mem h).1]

/-- a component the source row did not have is default-constructed (or left raw when a constructor
argument follows) -/
theorem carried_of_not_mem (info : CompId → CompInfo) (pm : Mask) (prow : Row) (skip : Mask) (c : CompId)
    (h : c ∉ pm) : carried info pm prow skip c =
      if skip.contains c then (match (info c).fixed with | some v => some v | none => none)
      else defaultVal info c := by
  unfold carried; rw [Mask.indexOf?_eq_none.mpr h]

theorem externalMove_moved (info : CompId → CompInfo) {w : WM} (hok : RowsOK w) (target : Nat) (e : Handle)
    (prev prevIdx : Nat) (skip : Mask) (hne : target ≠ prev) (ht : target < w.archs.length)
    (hrow : InRowAt w e prev prevIdx) :
    ∃ w' cbs, w.externalMove info target e prev prevIdx skip = some (w', cbs) ∧
      Moved w w' e target (moveVals info w target prev prevIdx skip) := by
  refine ⟨_, _, externalMove_eq2 info w target e prev prevIdx skip hne, ?_⟩
  rcases hrow with ⟨row, hr, rfl⟩
  rcases archRemove_step info hok prev prevIdx (w.arch target).mask row hr with ⟨hs, hgone⟩
  rcases archRemove_frame info w prev prevIdx (w.arch target).mask with ⟨hsame, halen, hllen, hoth, _⟩
  generalize (w.archRemove info prev prevIdx (w.arch target).mask).1 = w1 at hs hgone hsame halen hllen hoth
  have hm := insertRow_moved hs.ok target row.ent (moveVals info w target prev prevIdx skip)
    (halen ▸ ht) (hok.loc _ _ _ hr).1 (hllen ▸ hok.id_lt hr) hgone
    (by rw [hoth target hne]; exact moveVals_length _ _ _ _ _ _)
  exact ⟨hs.trans hm.step, hsame.trans hm.same, hm.here⟩

theorem externalMove_keysSame (info : CompId → CompInfo) (w : WM) (t : Nat) (e : Handle) (p i : Nat)
    (skip : Mask) (r : WM × List Cb) (h : w.externalMove info t e p i skip = some r) : KeysSame w r.1 := by
  by_cases hne : t = p
  · subst hne; rw [externalMove_self] at h; cases h
  · rw [externalMove_eq2 info w t e p i skip hne] at h; cases h
    exact (archRemove_keysSame info w p i _).trans
      (insertRow_keysSame _ t e _)

/-- the common core of every operation that changes the archetype of an existing entity: look the new
key up; when the lookup returns the entity's own archetype `externalMove` refuses ("to itself"),
otherwise the entity is `Moved` there with the carried-over values -/
theorem getArch_move (info : CompId → CompInfo) {w : WM} (hok : RowsOK w) (m : Mask) (sh : Shared)
    (e : Handle) (pi idx : Nat) (skip : Mask) (prow : Row)
    (hr : (w.arch pi).rows[idx]? = some prow) (he : prow.ent = e) (hmk : KeysOK w → MaskOk m) :
    ((w.getArch m sh).2 = pi ∧
      (w.getArch m sh).1.externalMove info (w.getArch m sh).2 e pi idx skip = none) ∨
    ((w.getArch m sh).2 ≠ pi ∧ ∃ w2 cbs,
      (w.getArch m sh).1.externalMove info (w.getArch m sh).2 e pi idx skip = some (w2, cbs) ∧
      Moved w w2 e (w.getArch m sh).2 (carry info (closedMask w.deps m) (w.arch pi).mask prow skip) ∧
      (w2.arch (w.getArch m sh).2).mask = closedMask w.deps m ∧
      (w2.arch (w.getArch m sh).2).shared.data = sh.data) := by
  by_cases hti : (w.getArch m sh).2 = pi
  · left
    refine ⟨hti, ?_⟩
    rw [hti]; exact externalMove_self info _ _ _ _ _
  · right
    refine ⟨hti, ?_⟩
    have hkey := getArch_key w m sh
    have harch : (w.getArch m sh).1.arch pi = w.arch pi := getArch_arch_lt w m sh pi (lt_of_row hr)
    have hstep := getArch_step hok m sh e.id hmk
    have hsame := getArch_sameTable w m sh
    have hlt := getArch_idx_lt w m sh
    have hvals : moveVals info (w.getArch m sh).1 (w.getArch m sh).2 pi idx skip =
        carry info (closedMask w.deps m) (w.arch pi).mask prow skip := by
      rw [moveVals_eq_carry, hkey.1, harch, List.getD_eq_getElem?_getD, hr]; rfl
    generalize (w.getArch m sh).1 = w1 at *
    generalize (w.getArch m sh).2 = ti at *
    rcases externalMove_moved info hstep.ok ti e pi idx skip hti hlt ⟨prow, by rw [harch]; exact hr, he⟩ with
      ⟨w2, cbs, heq, hm⟩
    have hks := externalMove_keysSame info w1 ti e pi idx skip _ heq
    rw [hvals] at hm
    exact ⟨w2, cbs, heq, ⟨hstep.trans hm.step, hsame.trans hm.same, hm.here⟩,
      by rw [(hks.key ti).1]; exact hkey.1, by rw [(hks.key ti).2]; exact hkey.2⟩

/-- `getArchetype` followed by `Archetype::insert` of a handle whose id owns no row -/
theorem getArch_insert (info : CompId → CompInfo) {w : WM} (hok : RowsOK w) (m : Mask) (sh : Shared)
    (e : Handle) (skip : Mask) (hmk : MaskOk m) (hn : e.id ≠ nullId) (hlt : e.id < w.locs.length)
    (hfresh : NotInRow w e.id) :
    ∃ vals, Moved w ((w.getArch m sh).1.archInsert info (w.getArch m sh).2 e skip).1 e
      (w.getArch m sh).2 vals := by
  have hs := getArch_step hok m sh e.id (fun _ => hmk)
  rcases archInsert_eq info (w.getArch m sh).1 (w.getArch m sh).2 e skip with ⟨vals, heq, hlen⟩
  rw [heq]
  have hm := insertRow_moved hs.ok _ e vals (getArch_idx_lt w m sh) hn (by rw [getArch_locs]; exact hlt)
    (getArch_notInRow m sh hfresh) hlen
  exact ⟨vals, hs.trans hm.step, (getArch_sameTable w m sh).trans hm.same, hm.here⟩

theorem alloc_insert {w : WM} (hok : RowsOK w) (ha : AllocOK w) (ai : Nat) (vals : List Val)
    (hai : ai < w.archs.length) (hvals : vals.length = (w.arch ai).mask.length) :
    Step w (insertRow (w.allocId).1 ai (w.allocId).2 vals) (w.allocId).2.id ∧
    Owns (insertRow (w.allocId).1 ai (w.allocId).2 vals) (w.allocId).2 ai vals ∧
    ∀ aj, ((insertRow (w.allocId).1 ai (w.allocId).2 vals).arch aj).mask = (w.arch aj).mask ∧
          ((insertRow (w.allocId).1 ai (w.allocId).2 vals).arch aj).shared = (w.arch aj).shared := by
  have hs1 := allocId_step hok ha.fresh
  have hai1 : ai < (w.allocId).1.archs.length := by rw [allocId_archs]; exact hai
  have hm := insertRow_moved hs1.ok ai (w.allocId).2 vals hai1 ha.notNull ha.inRange
    (allocId_notInRow ha.fresh) (by rw [allocId_arch]; exact hvals)
  refine ⟨hs1.trans hm.step, hm.owns (allocId_valid w ha.notNull), fun aj => ?_⟩
  have := insertRow_mask (w.allocId).1 ai aj (w.allocId).2 vals
  rw [allocId_arch] at this; exact this

structure LiveInv (w : WM) : Prop where
  live_in : ∀ e : Handle, w.isValid e = true → ∃ ai i, InRowAt w e ai i
  row_live : ∀ (ai i : Nat) (r : Row), (w.arch ai).rows[i]? = some r → w.isValid r.ent = true

theorem liveInv_init : LiveInv ({} : WM) := by
  constructor
  · intro e h; simp [WM.isValid] at h
  · intro ai i r h; simp [WM.arch] at h

theorem LiveInv.located {w : WM} (hl : LiveInv w) (hok : RowsOK w) {e : Handle} (hv : w.isValid e = true) :
    Located w e :=
  let ⟨_, _, hrow⟩ := hl.live_in e hv
  located_of_row hok hrow

theorem isValid_slot {w : WM} {h : Handle} (hv : w.isValid h = true) :
    ∃ s, w.slots[h.id]? = some s ∧ s.idf = h.id ∧ s.ver = h.ver := by
  unfold WM.isValid at hv
  cases hs : w.slots[h.id]? with
  | none => rw [hs] at hv; simp at hv
  | some s =>
    rw [hs] at hv
    simp only [Bool.and_eq_true, beq_iff_eq] at hv
    exact ⟨s, rfl, hv.2.2, hv.2.1⟩

theorem valid_same_id {w : WM} {e x : Handle} (he : w.isValid e = true) (hx : w.isValid x = true)
    (hid : x.id = e.id) : x = e := by
  rcases isValid_slot he with ⟨s, hs, _, hver⟩
  rcases isValid_slot hx with ⟨s', hs', _, hver'⟩
  rw [hid, hs] at hs'
  cases hs'
  unfold WM.isValid at he hx
  simp only [Bool.and_eq_true, beq_iff_eq] at he hx
  cases e; cases x
  simp only at hid hver hver' he hx ⊢
  rw [hid, ← hver, ← hver', he.1.2, hx.1.2]

/-- `LiveInv` through a step on `id`: what is left to show concerns the handles and rows of `id` only -/
theorem liveInv_step {w w' : WM} {id : Nat} (hs : Step w w' id) (hl : LiveInv w)
    (hin : ∀ x : Handle, x.id = id → w'.isValid x = true → ∃ ai i, InRowAt w' x ai i)
    (hrow : ∀ (aj j : Nat) (r : Row), (w'.arch aj).rows[j]? = some r → r.ent.id = id →
      w'.isValid r.ent = true) : LiveInv w' := by
  constructor
  · intro x hx
    by_cases hid : x.id = id
    · exact hin x hid hx
    · rw [hs.frame.valid x hid] at hx
      rcases hl.live_in x hx with ⟨aj, j, r, hr, rfl⟩
      rcases hs.frame.keeps aj j r hr hid with ⟨⟨j', hr', _⟩, _⟩
      exact ⟨aj, j', r, hr', rfl⟩
  · intro aj j r hr
    by_cases hid : r.ent.id = id
    · exact hrow aj j r hr hid
    · -- the id owned a row before (else it would own none now): that row is this one
      have hex : ∃ (ak k : Nat) (r0 : Row), (w.arch ak).rows[k]? = some r0 ∧ r0.ent.id = r.ent.id := by
        apply Classical.byContradiction
        intro hno
        have hn : NotInRow w r.ent.id := fun ak k r0 h0 hh => hno ⟨ak, k, r0, h0, hh⟩
        exact hs.others r.ent.id hid hn aj j r hr rfl
      rcases hex with ⟨ak, k, r0, h0, hid0⟩
      rcases hs.frame.keeps ak k r0 h0 (by rw [hid0]; exact hid) with ⟨⟨k', hr0', _⟩, _⟩
      rcases hs.ok.unique hr0' hr hid0 with ⟨rfl, rfl⟩
      have hrr : r0 = r := by rw [hr0'] at hr; exact Option.some.inj hr
      subst hrr
      rw [hs.frame.valid r0.ent hid]
      exact hl.row_live ak k r0 h0

theorem liveInv_owns {w w' : WM} {e : Handle} {ai : Nat} {vals : List Val} (hs : Step w w' e.id)
    (hl : LiveInv w) (ho : Owns w' e ai vals) : LiveInv w' := by
  rcases ho.here with ⟨n, _, hrow⟩
  refine liveInv_step hs hl (fun x hid hx => ?_) (fun aj j r hr hid => ?_)
  · rw [valid_same_id ho.valid hx hid]
    exact ⟨ai, n, _, hrow, rfl⟩
  · rcases hs.ok.unique hr hrow hid with ⟨rfl, rfl⟩
    rw [hrow] at hr; cases hr
    exact ho.valid

theorem liveInv_of_same {w w' : WM} (hl : LiveInv w) (hrows : ∀ ai, (w'.arch ai).rows = (w.arch ai).rows)
    (hv : ∀ h, w'.isValid h = w.isValid h) : LiveInv w' := by
  constructor
  · intro e he
    rw [hv] at he
    rcases hl.live_in e he with ⟨ai, i, r, hr, hre⟩
    exact ⟨ai, i, r, by rw [hrows]; exact hr, hre⟩
  · intro ai i r hr
    rw [hrows] at hr; rw [hv]; exact hl.row_live ai i r hr

/-- an operation on a valid entity `e` either leaves rows and validity alone, or ends with `e` valid
and owning a row -/
def Outcome (w w' : WM) (e : Handle) : Prop :=
  Step w w' e.id ∧
  (((∀ ai, (w'.arch ai).rows = (w.arch ai).rows) ∧ ∀ h, w'.isValid h = w.isValid h) ∨
    ∃ ti vals, Owns w' e ti vals)

theorem Outcome.liveInv {w w' : WM} {e : Handle} (h : Outcome w w' e) (hl : LiveInv w) :
    LiveInv w' := by
  rcases h with ⟨hs, ⟨hr, hv⟩ | ⟨ti, vals, ho⟩⟩
  · exact liveInv_of_same hl hr hv
  · exact liveInv_owns hs hl ho

theorem outcome_same {w : WM} (hok : RowsOK w) (e : Handle) : Outcome w w e :=
  ⟨Step.refl hok _, Or.inl ⟨fun _ => rfl, fun _ => rfl⟩⟩

/-- a state that differs only outside `archs`/`locs`/the id table: a recorded command, a pooled value -/
theorem Outcome.of_same {w w' : WM} (hok : RowsOK w) (e : Handle) (ha : w'.archs = w.archs)
    (hl : w'.locs = w.locs) (hs : ∀ h, w'.isValid h = w.isValid h) : Outcome w w' e :=
  ⟨Step.of_same hok e.id ha hl hs, Or.inl ⟨fun ai => by rw [arch_def, arch_def, ha], hs⟩⟩

/-- the lookup alone (the move was refused "to itself") -/
theorem getArch_outcome {w : WM} (hok : RowsOK w) (m : Mask) (sh : Shared) (e : Handle)
    (hmk : KeysOK w → MaskOk m) : Outcome w (w.getArch m sh).1 e :=
  ⟨getArch_step hok m sh e.id hmk, Or.inl ⟨getArch_rows w m sh, (getArch_sameTable w m sh).isValid⟩⟩

theorem Moved.outcome {w w2 : WM} {e : Handle} {ti : Nat} {vals : List Val} (hm : Moved w w2 e ti vals)
    (hv : w.isValid e = true) : Outcome w w2 e :=
  ⟨hm.step, Or.inr ⟨ti, vals, hm.owns hv⟩⟩

theorem Outcome.trans_same {w w1 w2 : WM} {e : Handle} (h₁ : Outcome w w1 e)
    (hsame : (∀ ai, (w1.arch ai).rows = (w.arch ai).rows) ∧ ∀ h, w1.isValid h = w.isValid h)
    (h₂ : Outcome w1 w2 e) : Outcome w w2 e := by
  refine ⟨h₁.1.trans h₂.1, ?_⟩
  rcases h₂.2 with ⟨hr, hv⟩ | ho
  · exact Or.inl ⟨fun ai => (hr ai).trans (hsame.1 ai), fun h => (hv h).trans (hsame.2 h)⟩
  · exact Or.inr ho

end Mustache.Proofs.Rows
