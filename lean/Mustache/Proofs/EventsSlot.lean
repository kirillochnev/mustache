import Mustache.Proofs.EventsBasic
/-!
What `registerEventType<T>()` + one access to the slot (`withSlot`) does to the abstraction `lookup`:
exactly the list of `(m, T)` is rewritten by `f`, every other `(manager, type)` keeps its list —
whatever the order in which managers meet the types.
-/
namespace Mustache.Proofs.Events
open Mustache.Model.Events

def SlotsBounded (s : State) : Prop :=
  ∀ (m : Nat) (mg : Mgr), s.mgrs[m]? = some mg → mg.slots.length ≤ s.typeIds.length

theorem slotsBounded_iff {s : State} :
    SlotsBounded s ↔ ∀ mg ∈ s.mgrs, mg.slots.length ≤ s.typeIds.length :=
  ⟨fun h mg hm => (List.getElem?_of_mem hm).elim fun i hi => h i mg hi,
    fun h _ mg hm => h mg (List.mem_of_getElem? hm)⟩

def afterSlot (s : State) (m : Nat) (mg : Mgr) (T : TypeName) (f : List Rcv → List Rcv) : State :=
  { s with
    typeIds := (register s.typeIds T).1,
    mgrs := s.mgrs.set m
      { mg with slots := (ensureSlot mg.slots (register s.typeIds T).2).set (register s.typeIds T).2
                            (some (f (slotList mg.slots (register s.typeIds T).2))) } }


section
variable {s : State} {m r : Nat}

theorem mgrAlive_iff : mgrAlive s m = true ↔ ∃ mg, s.mgrs[m]? = some mg ∧ mg.alive = true := by
  unfold mgrAlive
  cases s.mgrs[m]? with
  | none => simp
  | some mg => simp

theorem rcvAlive_iff : rcvAlive s r = true ↔ ∃ ri, s.rcvs[r]? = some ri ∧ ri.alive = true := by
  unfold rcvAlive
  cases s.rcvs[r]? with
  | none => simp
  | some ri => simp

theorem mgrAlive_of_mem_lookup {T : Model.Events.TypeName} : r ∈ lookup s m T → mgrAlive s m = true := by
  unfold lookup lookupIn mgrAlive
  cases s.mgrs[m]? with
  | none => exact fun h => nomatch h
  | some mg =>
    dsimp only
    cases mg.alive with
    | true => exact fun _ => rfl
    | false => exact fun h => nomatch h

end


section
variable {ids : List Model.Events.TypeName} {mg : Mgr} (T T' : Model.Events.TypeName)

/-- The list found by `withSlot` is the abstraction's list: a type registered just now gets the next
id, where a bounded table has nothing yet. -/
theorem lookupIn_eq_slotList (hb : mg.slots.length ≤ ids.length) (ha : mg.alive = true) :
    lookupIn ids mg T = slotList mg.slots (register ids T).2 := by
  unfold lookupIn
  rw [if_pos ha]
  rcases register_cases ids T with ⟨i, hi, hr⟩ | ⟨hn, hr⟩
  · rw [hi, hr]
  · rw [hn, hr]; exact (slotList_of_length_le hb).symm

theorem lookupIn_register (hb : mg.slots.length ≤ ids.length) :
    lookupIn (register ids T).1 mg T' = lookupIn ids mg T' := by
  by_cases h : T' = T
  · cases ha : mg.alive with
    | false => unfold lookupIn; rw [ha]; rfl
    | true =>
      rw [h, lookupIn_eq_slotList T hb ha]
      unfold lookupIn
      rw [if_pos ha, register_idOf]
  · unfold lookupIn
    rw [idOf_register, if_neg h]

theorem lookupIn_access (x : List Rcv) (ha : mg.alive = true) :
    lookupIn (register ids T).1
        { mg with slots := (ensureSlot mg.slots (register ids T).2).set (register ids T).2 (some x) } T' =
      if T' = T then x else lookupIn ids mg T' := by
  unfold lookupIn
  rw [if_pos ha, if_pos ha, idOf_register]
  by_cases h : T' = T
  · rw [if_pos h, if_pos h]
    exact slotList_set_self ensureSlot_id_lt
  · rw [if_neg h, if_neg h]
    cases hj : idOf ids T' with
    | none => rfl
    | some j => exact (slotList_set_ne (register_id_ne h hj)).trans slotList_ensureSlot

end


section
variable {s : State} {m : Nat} {mg : Mgr} (T : Model.Events.TypeName) (f : List Rcv → List Rcv)

/-- `withSlot` never hits the undefined-behaviour branch on an existing manager -/
theorem withSlot_eq (hmg : s.mgrs[m]? = some mg) :
    withSlot s m T f =
      some (afterSlot s m mg T f, (register s.typeIds T).2, slotList mg.slots (register s.typeIds T).2) := by
  unfold withSlot afterSlot
  rw [hmg]
  simp only [ensureSlot_self]

theorem lookup_eq_slotList (hb : SlotsBounded s) (hmg : s.mgrs[m]? = some mg) (ha : mg.alive = true) :
    lookup s m T = slotList mg.slots (register s.typeIds T).2 := by
  unfold lookup
  rw [hmg]
  exact lookupIn_eq_slotList T (hb m mg hmg) ha

theorem afterSlot_mgr_self (hmg : s.mgrs[m]? = some mg) :
    (afterSlot s m mg T f).mgrs[m]? =
      some { mg with slots := (ensureSlot mg.slots (register s.typeIds T).2).set (register s.typeIds T).2
                                (some (f (slotList mg.slots (register s.typeIds T).2))) } :=
  List.getElem?_set_self (List.getElem?_eq_some_iff.mp hmg).1

theorem afterSlot_mgr_other {m' : Nat} (hne : m' ≠ m) :
    (afterSlot s m mg T f).mgrs[m']? = s.mgrs[m']? :=
  List.getElem?_set_ne (Ne.symm hne)

theorem afterSlot_mgrAlive (hmg : s.mgrs[m]? = some mg) (m' : Nat) :
    mgrAlive (afterSlot s m mg T f) m' = mgrAlive s m' := by
  unfold mgrAlive
  by_cases hne : m' = m
  · subst hne; rw [afterSlot_mgr_self T f hmg, hmg]
  · rw [afterSlot_mgr_other T f hne]

theorem lookup_afterSlot (hb : SlotsBounded s) (hmg : s.mgrs[m]? = some mg) (ha : mg.alive = true)
    (m' : Nat) (T' : Model.Events.TypeName) :
    lookup (afterSlot s m mg T f) m' T' =
      if m' = m ∧ T' = T then f (lookup s m' T') else lookup s m' T' := by
  by_cases hm : m' = m
  · subst hm
    rw [lookup, afterSlot_mgr_self T f hmg]
    show lookupIn (register s.typeIds T).1 _ T' = _
    rw [lookupIn_access T T' _ ha]
    by_cases hT : T' = T
    · rw [if_pos hT, if_pos ⟨rfl, hT⟩, hT, lookup_eq_slotList T hb hmg ha]
    · rw [if_neg hT, if_neg (fun h => hT h.2), lookup, hmg]
  · rw [if_neg (fun h => hm h.1), lookup, lookup, afterSlot_mgr_other T f hm]
    cases h : s.mgrs[m']? with
    | none => rfl
    | some mg' => exact lookupIn_register T T' (hb m' mg' h)

theorem afterSlot_bounded (hb : SlotsBounded s) (hmg : s.mgrs[m]? = some mg) :
    SlotsBounded (afterSlot s m mg T f) := by
  have hle := register_length_le s.typeIds T
  refine slotsBounded_iff.mpr fun mg' h => (List.mem_or_eq_of_mem_set h).elim
    (fun h => Nat.le_trans (slotsBounded_iff.mp hb mg' h) hle) fun h => ?_
  rw [h, List.length_set, ensureSlot_length]
  exact Nat.max_le.mpr ⟨Nat.le_trans (hb m mg hmg) hle, register_id_lt s.typeIds T⟩

end

end Mustache.Proofs.Events
