import Mustache.Proofs.RowsOps
/-!
# Operations that add entities (`create`, `clone`, the builder's `begin()…end()`) or drop many
(`update`, `clearArchetype`); the id-table hypotheses in terms of the C01 invariant
-/
namespace Mustache.Proofs.Rows
open Mustache.Model

/-- values `Archetype::insert(entity, {})` gives a new row: every component default-constructed -/
theorem archInsert_default_vals (info : CompId → CompInfo) (w : WM) (ai : Nat) (e : Handle) :
    ∃ vals, (w.archInsert info ai e []).1 = insertRow w ai e vals ∧
      vals.length = (w.arch ai).mask.length ∧
      ∀ c ∈ (w.arch ai).mask, vals.getD ((w.arch ai).mask.idxOf c) none = defaultVal info c := by
  refine ⟨_, rfl, List.length_map _, ?_⟩
  intro c hc
  have hi := indexOf?_of_mem hc
  rw [List.getD_eq_getElem?_getD, List.getElem?_map, hi.2.2]
  have hne : (([] : Mask) == (w.arch ai).mask) = false := by
    cases hm : (w.arch ai).mask with
    | nil => rw [hm] at hc; cases hc
    | cons x xs => rfl
  simp [hne]

theorem create_locked (info : CompId → CompInfo) (w : WM) (t : Nat) (mask : Mask) (sh : Shared)
    (hl : w.isLocked = true) :
    w.create info t mask sh = ((w.createLocked t mask sh).1, (w.createLocked t mask sh).2, []) := by
  unfold WM.create; rw [if_pos hl]

theorem create_unlocked (info : CompId → CompInfo) {w : WM} (hok : RowsOK w) (ha : AllocOK w) (t : Nat)
    (mask : Mask) (sh : Shared) (hl : w.isLocked = false) (hmok : MaskOk mask) :
    ∃ ai vals,
      Step w (w.create info t mask sh).1 (w.create info t mask sh).2.1.id ∧
      Owns (w.create info t mask sh).1 (w.create info t mask sh).2.1 ai vals ∧
      ((w.create info t mask sh).1.arch ai).mask = closedMask w.deps mask ∧
      ((w.create info t mask sh).1.arch ai).shared.data = sh.data ∧
      (∀ c ∈ closedMask w.deps mask, vals.getD ((closedMask w.deps mask).idxOf c) none = defaultVal info c) ∧
      NotInRow w (w.create info t mask sh).2.1.id := by
  have hs0 := getArch_step hok mask sh ((w.getArch mask sh).1.allocId).2.id (fun _ => hmok)
  have ha1 : AllocOK (w.getArch mask sh).1 :=
    ha.congr (getArch_sameTable w mask sh) (by rw [getArch_locs]) (fun _ h => getArch_notInRow mask sh h)
  have hkey := getArch_key w mask sh
  have hai := getArch_idx_lt w mask sh
  have hh : ((w.getArch mask sh).1.allocId).2 = (w.allocId).2 :=
    (allocId_congr (getArch_sameTable w mask sh) (by rw [getArch_locs])).1
  have hcreate : w.create info t mask sh =
      ((((w.getArch mask sh).1.allocId).1.archInsert info (w.getArch mask sh).2
          ((w.getArch mask sh).1.allocId).2 []).1, ((w.getArch mask sh).1.allocId).2,
       (((w.getArch mask sh).1.allocId).1.archInsert info (w.getArch mask sh).2
          ((w.getArch mask sh).1.allocId).2 []).2) := by
    unfold WM.create
    simp only [hl, Bool.false_eq_true, if_false]
  rw [hcreate]
  generalize (w.getArch mask sh).1 = w1 at *
  generalize (w.getArch mask sh).2 = ai at *
  rcases archInsert_default_vals info (w1.allocId).1 ai (w1.allocId).2 with ⟨vals, heq, hlen, hvals⟩
  rw [allocId_arch] at hlen hvals
  rcases alloc_insert hs0.ok ha1 ai vals hai hlen with ⟨hstep, howns, hmask⟩
  rw [heq]
  refine ⟨ai, vals, hs0.trans hstep, howns, by rw [(hmask _).1]; exact hkey.1,
    by rw [(hmask _).2]; exact hkey.2, by rw [hkey.1] at hvals; exact hvals, ?_⟩
  rw [hh]; exact ha.fresh

theorem clone_invalid (w : WM) (e : Handle) (hv : w.isValid e = false) : w.clone e = (w, none) := by
  unfold WM.clone; rw [hv]; rfl

theorem clone_spec {w : WM} (hok : RowsOK w) (ha : AllocOK w) (e : Handle) (hv : w.isValid e = true)
    {ai idx : Nat} {prow : Row} (hr : (w.arch ai).rows[idx]? = some prow) (he : prow.ent = e) :
    (w.clone e).2 = some (w.allocId).2 ∧
    Step w (w.clone e).1 (w.allocId).2.id ∧
    Owns (w.clone e).1 (w.allocId).2 ai prow.vals ∧
    ((w.clone e).1.arch ai).mask = (w.arch ai).mask ∧
    ((w.clone e).1.arch ai).shared = (w.arch ai).shared ∧
    NotInRow w (w.allocId).2.id := by
  have hloc := hok.locOf hr
  rw [he] at hloc
  have hla : (w.locOf e).arch = some ai := by rw [hloc]
  have hidx : (w.locOf e).idx = idx := by rw [hloc]
  have hclone : w.clone e = (insertRow (w.allocId).1 ai (w.allocId).2 prow.vals, some (w.allocId).2) := by
    unfold WM.clone
    simp only [hv, Bool.not_true, Bool.false_eq_true, if_false, hla, hidx]
    unfold insertRow
    simp only [allocId_arch, List.getD_eq_getElem?_getD, hr, Option.getD_some]
  rw [hclone]
  rcases alloc_insert hok ha ai prow.vals (lt_of_row hr) (hok.vals ai idx prow hr) with ⟨hs, ho, hm⟩
  exact ⟨rfl, hs, ho, (hm ai).1, (hm ai).2, ha.fresh⟩

/-- `begin()….end()`: `allocId`, the archetype of the argument types, `Archetype::insert` with every
constructor skipped, then one `setCell` per argument -/
theorem buildNewU_spec (info : CompId → CompInfo) {w : WM} (hok : RowsOK w) (ha : AllocOK w)
    (adds : List (CompId × Option Nat)) :
    (w.buildNewU info adds).2.1 = (w.allocId).2 ∧
    Step w (w.buildNewU info adds).1 (w.allocId).2.id ∧
    ∃ ti vals, Owns (w.buildNewU info adds).1 (w.allocId).2 ti vals := by
  have hs1 := allocId_step hok ha.fresh
  have hvalid := allocId_valid w ha.notNull
  -- the part after `allocId`, for any mask / skip set
  have tail := fun (m skip : Mask) (hm : MaskOk m) =>
    getArch_insert info hs1.ok m Shared.null (w.allocId).2 skip hm ha.notNull ha.inRange
      (allocId_notInRow ha.fresh)
  refine ⟨by cases adds <;> rfl, ?_⟩
  unfold WM.buildNewU
  by_cases hempty : adds.isEmpty = true
  · simp only [hempty, if_true]
    rcases tail [] [] List.Pairwise.nil with ⟨vals, hm⟩
    exact ⟨hs1.trans hm.step, _, _, hm.owns hvalid⟩
  · simp only [hempty, Bool.false_eq_true, if_false]
    rcases tail (Mask.ofList (adds.map (·.1))) (Mask.ofList (adds.map (·.1))) (Mask.sorted_ofList _) with ⟨vals, hm⟩
    have h' := (builderLoop_explicit info _ adds _ _ [] hm rfl).1
    exact ⟨hs1.trans h'.step, _, _, h'.owns hvalid⟩

/-- what every `destroyNow` preserves, `update()` preserves: it is a loop of them -/
theorem update_fold (info : CompId → CompInfo) (R : WM → WM → Prop) (hrefl : ∀ a, R a a)
    (htrans : ∀ a b c, R a b → R b c → R a c) (hstep : ∀ a h, R a (a.destroyNowU info h).1)
    (hmarked : ∀ a : WM, R a { a with marked := [] }) (w : WM) : R w (w.update info).1 := by
  unfold WM.update
  split
  · exact hrefl w
  · have key := foldl_rel (fun a b : WM × List Cb => R a.1 b.1) (fun a => hrefl a.1)
      (fun _ _ _ h₁ h₂ => htrans _ _ _ h₁ h₂)
      (fun (acc : WM × List Cb) h =>
        let (w', c) := acc.1.destroyNowU info h
        (w', acc.2 ++ c)) (fun a h => hstep a.1 h) w.marked (w, [])
    exact htrans _ _ _ key (hmarked _)

/-- the release loop of `clearArchetype` over a list of rows -/
def clearLoop (w : WM) (rows : List Row) : WM :=
  rows.foldl (fun (w : WM) r =>
    let w := { w with locs := w.locs.set r.ent.id ⟨none, (w.locOf r.ent).idx⟩ }
    { w with slots := w.slots.set r.ent.id ⟨if w.empty ≠ 0 then w.next else r.ent.id + 1, (r.ent.ver + 1) % 2^24⟩,
             next := r.ent.id, empty := w.empty + 1 }) w

theorem clearLoop_spec (rows : List Row) (w : WM) :
    (clearLoop w rows).archs = w.archs ∧ (clearLoop w rows).worldId = w.worldId ∧
    (clearLoop w rows).locs.length = w.locs.length ∧
    ∀ id, (∀ r ∈ rows, r.ent.id ≠ id) →
      (clearLoop w rows).locs[id]? = w.locs[id]? ∧ (clearLoop w rows).slots[id]? = w.slots[id]? := by
  induction rows generalizing w with
  | nil => exact ⟨rfl, rfl, rfl, fun _ _ => ⟨rfl, rfl⟩⟩
  | cons r rows ih =>
    unfold clearLoop
    rw [List.foldl_cons]
    have := ih ({ ({ w with locs := w.locs.set r.ent.id ⟨none, (w.locOf r.ent).idx⟩ } : WM) with
      slots := w.slots.set r.ent.id ⟨if w.empty ≠ 0 then w.next else r.ent.id + 1, (r.ent.ver + 1) % 2^24⟩,
      next := r.ent.id, empty := w.empty + 1 })
    unfold clearLoop at this
    refine ⟨this.1, this.2.1, ?_, ?_⟩
    · rw [this.2.2.1]; exact List.length_set
    · intro id hid
      have h1 := this.2.2.2 id (fun r' hr' => hid r' (List.mem_cons_of_mem _ hr'))
      have hne : r.ent.id ≠ id := hid r List.mem_cons_self
      rw [h1.1, h1.2]
      exact ⟨List.getElem?_set_ne hne, List.getElem?_set_ne hne⟩

theorem isValid_congr {w w' : WM} {h : Handle} (h1 : w'.worldId = w.worldId)
    (h2 : w'.slots[h.id]? = w.slots[h.id]?) : w'.isValid h = w.isValid h := by
  unfold WM.isValid; rw [h1, h2]

theorem clearArch_fst (info : CompId → CompInfo) (w : WM) (ai : Nat) :
    (w.clearArch info ai).1 = (clearLoop w (w.arch ai).rows).setArch ai { w.arch ai with rows := [] } := rfl

theorem keysSame_clearArch (info : CompId → CompInfo) (w : WM) (ai : Nat) :
    KeysSame w (w.clearArch info ai).1 := by
  rw [clearArch_fst]
  have hl := clearLoop_spec (w.arch ai).rows w
  have harch : ∀ aj, (clearLoop w (w.arch ai).rows).arch aj = w.arch aj := arch_congr hl.1
  refine ⟨by rw [archs_length_setArch, hl.1], fun aj => ?_⟩
  have := setArch_rows_key (clearLoop w (w.arch ai).rows) ai [] aj
  rw [harch, harch] at this
  exact this

/-- `clearArchetype(ai)`: the invariant survives; rows of the other archetypes, their locations and the
validity of their owners are untouched; the cleared archetype is empty -/
theorem clearArch_spec (info : CompId → CompInfo) {w : WM} (hok : RowsOK w) (ai : Nat) :
    RowsOK (w.clearArch info ai).1 ∧
    ((w.clearArch info ai).1.arch ai).rows = [] ∧
    (∀ aj, aj ≠ ai → (w.clearArch info ai).1.arch aj = w.arch aj) ∧
    (∀ (aj j : Nat) (r : Row), aj ≠ ai → (w.arch aj).rows[j]? = some r →
      (w.clearArch info ai).1.locs[r.ent.id]? = some ⟨some aj, j⟩ ∧
      (w.clearArch info ai).1.isValid r.ent = w.isValid r.ent) := by
  rw [clearArch_fst]
  have hl := clearLoop_spec (w.arch ai).rows w
  have harch : ∀ aj, (clearLoop w (w.arch ai).rows).arch aj = w.arch aj := arch_congr hl.1
  have hoth : ∀ aj, aj ≠ ai →
      ((clearLoop w (w.arch ai).rows).setArch ai { w.arch ai with rows := [] }).arch aj = w.arch aj := by
    intro aj hne; rw [arch_setArch_ne _ _ _ _ hne, harch]
  have hempty : (((clearLoop w (w.arch ai).rows).setArch ai { w.arch ai with rows := [] }).arch ai).rows = [] := by
    by_cases hlt : ai < w.archs.length
    · rw [arch_setArch_same _ _ _ (by rw [hl.1]; exact hlt)]
    · rw [arch_of_ge _ ai (by rw [archs_length_setArch, hl.1]; exact Nat.le_of_not_lt hlt)]
  -- ids of rows outside `ai` are not touched by the loop
  have hkeep : ∀ (aj j : Nat) (r : Row), aj ≠ ai → (w.arch aj).rows[j]? = some r →
      (clearLoop w (w.arch ai).rows).locs[r.ent.id]? = w.locs[r.ent.id]? ∧
      (clearLoop w (w.arch ai).rows).slots[r.ent.id]? = w.slots[r.ent.id]? := by
    intro aj j r hne hr
    refine hl.2.2.2 r.ent.id (fun r' hr' hid => ?_)
    rcases List.getElem?_of_mem hr' with ⟨k, hk⟩
    exact hne (hok.unique hk hr hid).1.symm
  have hwid := hl.2.1
  generalize clearLoop w (w.arch ai).rows = w1 at *
  refine ⟨⟨?_, ?_⟩, hempty, hoth, ?_⟩
  · intro aj j r hr
    by_cases hne : aj = ai
    · subst hne; rw [hempty] at hr; cases hr
    · rw [hoth aj hne] at hr ⊢; exact hok.vals aj j r hr
  · intro aj j r hr
    by_cases hne : aj = ai
    · subst hne; rw [hempty] at hr; cases hr
    · rw [hoth aj hne] at hr
      rw [locs_setArch, (hkeep aj j r hne hr).1]
      exact hok.loc aj j r hr
  · intro aj j r hne hr
    have h2 := hkeep aj j r hne hr
    exact ⟨by rw [locs_setArch, h2.1]; exact (hok.loc aj j r hr).2, isValid_congr hwid h2.2⟩

/-- C01 `freelist_wf`: the head of a non-empty free list is a table slot that does not store its own id -/
def FreeHeadFree (w : WM) : Prop := w.empty ≠ 0 → ∃ s, w.slots[w.next]? = some s ∧ s.idf ≠ w.next

/-- `AllocOK` from: rows = live handles, `locations_` covers `entities_`, the table is smaller than
the null id, the free-list head is free -/
theorem allocOK_of_table {w : WM} (hl : LiveInv w) (hcov : w.slots.length ≤ w.locs.length)
    (hsmall : w.slots.length < nullId) (hhead : FreeHeadFree w) : AllocOK w := by
  by_cases he : w.empty = 0
  · refine ⟨?_, ?_, ?_⟩ <;> rw [allocId_grow w he]
    · intro ai i r hr hid
      exact Nat.lt_irrefl _ (hid ▸ isValid_id_lt (hl.row_live ai i r hr))
    · exact Nat.ne_of_lt hsmall
    · exact Nat.lt_of_le_of_lt hcov (by rw [List.length_append]; exact Nat.lt_succ_self _)
  · rcases hhead he with ⟨s, hs, hidf⟩
    have hlt : w.next < w.slots.length := (List.getElem?_eq_some_iff.mp hs).1
    refine ⟨?_, ?_, ?_⟩ <;> rw [allocId_pop w he s hs]
    · intro ai i r hr hid
      rcases isValid_slot (hl.row_live ai i r hr) with ⟨s', hs', hidf', _⟩
      simp only at hid
      rw [hid, hs] at hs'
      cases hs'
      exact hidf (hidf'.trans hid)
    · exact Nat.ne_of_lt (Nat.lt_trans hlt hsmall)
    · exact Nat.lt_of_lt_of_le hlt (by rw [List.length_set]; exact hcov)

theorem freeHeadNot_of_table {w : WM} (hhead : FreeHeadFree w) {e : Handle} (hv : w.isValid e = true) :
    FreeHeadNot w e.id := by
  intro he hn
  rcases hhead he with ⟨s, hs, hidf⟩
  rcases isValid_slot hv with ⟨s', hs', hidf', _⟩
  rw [← hn, hs] at hs'
  cases hs'
  exact hidf (hidf'.trans hn.symm)

end Mustache.Proofs.Rows
