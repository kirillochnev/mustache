import Mustache.Proofs.LifeBuild
/-!
# `applyCommandPack`, first half: the fold over the commands of a pack with the lifecycle ghost state (C03)

`packLifeStep` carries, next to the model's folding state, the buffer index of the assign command that supplies each
value and the events performed so far. `LifeFold` is the invariant of that fold.
-/
namespace Mustache.Proofs.Life
open Mustache.Model Mustache.Proofs.Rows

variable (info : CompId → CompInfo)

theorem packLifeStep_proj (e : Handle) (isCreate : Bool) (acc : PackLife)
    (ck : Cmd × Nat) (cbs : List Cb) :
    (packLifeStep info e isCreate acc ck).w = (packStep info e isCreate (acc.w, acc.p, cbs) ck.1).1 ∧
    (packLifeStep info e isCreate acc ck).p = (packStep info e isCreate (acc.w, acc.p, cbs) ck.1).2.1 := by
  obtain ⟨c, k⟩ := ck
  cases hd : acc.p.dead with
  | true => rw [packStep_dead info e isCreate acc.w acc.p cbs c hd, packLifeStep, if_pos hd]; exact ⟨rfl, rfl⟩
  | false =>
    have hnd : ¬ acc.p.dead = true := hd ▸ Bool.false_ne_true
    rw [packStep_eq, hd]
    unfold packLifeStep pst
    rw [if_neg hnd, if_neg hnd]
    cases c with
    | destroyNow _ => cases isCreate <;> exact ⟨rfl, rfl⟩
    | remove _ c =>
      dsimp only
      split
      · split <;> exact ⟨rfl, rfl⟩
      · exact ⟨rfl, rfl⟩
    | assign _ c v =>
      dsimp only
      split <;> exact ⟨rfl, rfl⟩
    | _ => exact ⟨rfl, rfl⟩

theorem lifeFold_proj (e : Handle) (isCreate : Bool) (body : List Cmd) (o : Nat)
    (acc : PackLife) (cbs : List Cb) :
    ((body.zipIdx o).foldl (packLifeStep info e isCreate) acc).w =
      (body.foldl (packStep info e isCreate) (acc.w, acc.p, cbs)).1 ∧
    ((body.zipIdx o).foldl (packLifeStep info e isCreate) acc).p =
      (body.foldl (packStep info e isCreate) (acc.w, acc.p, cbs)).2.1 := by
  induction body generalizing o acc cbs with
  | nil => exact ⟨rfl, rfl⟩
  | cons c cs ih =>
    rw [List.zipIdx_cons, List.foldl_cons, List.foldl_cons]
    have hp := packLifeStep_proj info e isCreate acc (c, o) cbs
    have := ih (o + 1) (packLifeStep info e isCreate acc (c, o)) (packStep info e isCreate (acc.w, acc.p, cbs) c).2.2
    rw [hp.1, hp.2] at this
    exact this

/-- invariant of the fold: `S0` is the slot set the pack started from, `w1` the state after the pack's start; until the
entity is destroyed no event has happened and archetypes and locations are those of `w1`; the recorded value sources
against the final set; a component of the initial set that got a value or left the set is marked replaced -/
structure LifeFold (t : Nat) (F S0 : SlotState) (w1 : WM) (initial : Mask) (acc : PackLife) : Prop where
  masks : MasksOk acc.w
  ok : accepts S0 acc.evs = some (live acc.w F)
  alive : acc.p.dead = false → acc.evs = [] ∧ acc.w.archs = w1.archs ∧ acc.w.locs = w1.locs
  fin : MaskOk acc.p.final
  keys : acc.srcIdx.map (·.1) = acc.p.src.map (·.1)
  nodup : (acc.srcIdx.map (·.1)).Nodup
  sub : ∀ c ∈ acc.srcIdx.map (·.1), c ∈ acc.p.final
  touched : ∀ c ∈ initial, c ∈ acc.srcIdx.map (·.1) ∨ c ∉ acc.p.final → c ∈ acc.p.replaced
  temps : ∀ ck ∈ acc.srcIdx, F (.temp t ck.2 ck.1) = true

theorem map_fst_filter_ne {β : Type} (l : List (CompId × β)) (c : CompId) :
    (l.filter (fun x => x.1 != c)).map (·.1) = (l.map (·.1)).filter (fun x => x != c) :=
  (List.filter_map (f := Prod.fst) (p := (· != c)) (l := l)).symm

theorem mem_filter_ne {l : List CompId} {c x : CompId} :
    x ∈ l.filter (fun y => y != c) ↔ x ∈ l ∧ x ≠ c := by
  simp [List.mem_filter]

/-- `destroyNow` (the only command that performs events) and `destroy` write the state, `remove` and `assign` the ghost
state -/
theorem packLifeStep_inv (t : Nat) (F : SlotState) (hF : TempOnly F) (S0 : SlotState)
    (w1 : WM) (initial : Mask) (e : Handle) (isCreate : Bool) (acc : PackLife) (ck : Cmd × Nat)
    (h : LifeFold t F S0 w1 initial acc)
    (hck : ∀ e' c v, ck.1 = Cmd.assign e' c v → F (.temp t ck.2 c) = true) :
    LifeFold t F S0 w1 initial (packLifeStep info e isCreate acc ck) := by
  unfold packLifeStep
  split
  · exact h
  · cases hc : ck.1 with
    | create _ _ _ => exact h
    | destroyNow _ =>
      simp only
      split
      · exact { h with
          masks := (shapeEq_release _ e).masksOk h.masks
          ok := h.ok.trans (congrArg some ((shapeEq_release _ e).live F).symm)
          alive := fun hh => by cases hh }
      · have hdn := destroyNowU_accepts info acc.w F hF e h.masks
        exact { h with masks := hdn.2, ok := accepts_append_of h.ok hdn.1, alive := fun hh => by cases hh }
    | destroy x => exact { h with masks := fun a => h.masks a }
    | remove _ c =>
      simp only
      split
      · split
        · rename_i hfc hnc
          -- the closure brings `c` back: the set becomes the closure of the rest, which contains the old one
          have hcn : c ∈ closedMask acc.w.deps (Mask.erase acc.p.final c) := by simpa using hnc
          have hsup : ∀ x, x ∈ acc.p.final → x ∈ closedMask acc.w.deps (Mask.erase acc.p.final c) := by
            intro x hx
            by_cases hxc : x = c
            · rw [hxc]; exact hcn
            · exact mem_closedMask_of_mem _ _ _ ((mem_erase _ _ _).mpr ⟨hx, hxc⟩)
          exact { h with
            fin := maskOk_closedMask _ (maskOk_erase h.fin c)
            sub := fun x hx => hsup x (h.sub x hx)
            touched := fun x hi hx => h.touched x hi (hx.imp_right fun hx hxf => hx (hsup x hxf)) }
        · refine { h with
            fin := maskOk_closedMask _ (maskOk_erase h.fin c), keys := ?_, nodup := ?_, sub := ?_, touched := ?_,
            temps := ?_ }
          · simp only [map_fst_filter_ne, h.keys]
          · rw [map_fst_filter_ne]; exact h.nodup.filter _
          · intro x hx
            rw [map_fst_filter_ne, mem_filter_ne] at hx
            exact mem_closedMask_of_mem _ _ _ ((mem_erase _ _ _).mpr ⟨h.sub x hx.1, hx.2⟩)
          · intro x hi hx
            by_cases hxc : x = c
            · exact (mem_insert _ _ _).mpr (Or.inl hxc)
            · refine (mem_insert _ _ _).mpr (Or.inr (h.touched x hi (hx.imp (fun hk => ?_) (fun hx hxf => hx ?_))))
              · rw [map_fst_filter_ne, mem_filter_ne] at hk
                exact hk.1
              · exact mem_closedMask_of_mem _ _ _ ((mem_erase _ _ _).mpr ⟨hxf, hxc⟩)
          · intro ck' hck'
            exact h.temps ck' (List.mem_filter.mp hck').1
      · exact h
    | assign e' c v =>
      simp only
      have hkeys : (acc.srcIdx.filter (fun x => x.1 != c) ++ [(c, ck.2)]).map (·.1) =
          (acc.p.src.filter (fun x => x.1 != c) ++ [(c, v)]).map (·.1) := by
        simp only [List.map_append, map_fst_filter_ne, h.keys, List.map_cons, List.map_nil]
      have hnd : ((acc.srcIdx.filter (fun x => x.1 != c) ++ [(c, ck.2)]).map (·.1)).Nodup := by
        rw [List.map_append, map_fst_filter_ne, List.map_cons, List.map_nil, List.nodup_append]
        refine ⟨h.nodup.filter _, by simp, ?_⟩
        intro a ha b hb
        rw [List.mem_singleton.mp hb]
        exact (mem_filter_ne.mp ha).2
      have hmem : ∀ x, x ∈ (acc.srcIdx.filter (fun x => x.1 != c) ++ [(c, ck.2)]).map (·.1) →
          (x ∈ acc.srcIdx.map (·.1) ∧ x ≠ c) ∨ x = c := by
        intro x hx
        rw [List.map_append, List.mem_append, map_fst_filter_ne, mem_filter_ne] at hx
        exact hx.imp id (fun hx => by simpa using hx)
      have htemps : ∀ ck' ∈ acc.srcIdx.filter (fun x => x.1 != c) ++ [(c, ck.2)],
          F (.temp t ck'.2 ck'.1) = true := by
        intro ck' hck'
        rcases List.mem_append.mp hck' with h1 | h1
        · exact h.temps ck' (List.mem_filter.mp h1).1
        · rw [List.mem_singleton.mp h1]
          exact hck e' c v hc
      split
      · rename_i hfc
        have hcf : c ∈ acc.p.final := by simpa using hfc
        refine { h with keys := hkeys, nodup := hnd, sub := ?_, touched := ?_, temps := htemps }
        · intro x hx
          rcases hmem x hx with hx | hx
          · exact h.sub x hx.1
          · rw [hx]; exact hcf
        · intro x hi hx
          by_cases hxc : x = c
          · exact (mem_insert _ _ _).mpr (Or.inl hxc)
          · exact (mem_insert _ _ _).mpr (Or.inr (h.touched x hi
              (hx.imp_left fun hk => ((hmem x hk).resolve_right hxc).1)))
      · rename_i hfc
        have hcf : c ∉ acc.p.final := by simpa using hfc
        refine { h with
          fin := maskOk_closedMask _ (maskOk_insert h.fin c), keys := hkeys, nodup := hnd, sub := ?_, touched := ?_,
          temps := htemps }
        · intro x hx
          apply mem_closedMask_of_mem
          rcases hmem x hx with hx | hx
          · exact (mem_insert _ _ _).mpr (Or.inr (h.sub x hx.1))
          · exact (mem_insert _ _ _).mpr (Or.inl hx)
        · intro x hi hx
          refine h.touched x hi ?_
          rcases hx with hk | hnf
          · rcases hmem x hk with hk | hk
            · exact Or.inl hk.1
            · rw [hk]; exact Or.inr hcf
          · exact Or.inr fun hxf => hnf (mem_closedMask_of_mem _ _ _ ((mem_insert _ _ _).mpr (Or.inr hxf)))

theorem lifeFold_inv (t : Nat) (F : SlotState) (hF : TempOnly F) (S0 : SlotState)
    (w1 : WM) (initial : Mask) (e : Handle) (isCreate : Bool) (body : List (Cmd × Nat)) (acc : PackLife)
    (h : LifeFold t F S0 w1 initial acc)
    (hbody : ∀ ck ∈ body, ∀ e' c v, ck.1 = Cmd.assign e' c v → F (.temp t ck.2 c) = true) :
    LifeFold t F S0 w1 initial (body.foldl (packLifeStep info e isCreate) acc) := by
  induction body generalizing acc with
  | nil => exact h
  | cons ck cks ih =>
    rw [List.foldl_cons]
    exact ih _ (packLifeStep_inv info t F hF S0 w1 initial e isCreate acc ck h
      (hbody ck (List.mem_cons_self ..))) (fun ck' hck' => hbody ck' (List.mem_cons_of_mem _ hck'))

end Mustache.Proofs.Life
