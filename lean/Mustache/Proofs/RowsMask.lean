import Mustache.Proofs.ClosureMask
/-!
# `MaskOk`, the mask lemmas of `ClosureMask` with explicit arguments, and positions in a mask
-/
namespace Mustache.Proofs.Rows
open Mustache.Model

/-- a `ComponentIdMask`: strictly increasing list of component ids; unfolds to `Model.Sorted`, so a term of
either type is accepted for the other -/
def MaskOk (m : Mask) : Prop := List.Pairwise (· < ·) m

theorem maskOk_nodup {m : Mask} (h : MaskOk m) : m.Nodup := sorted_nodup h

theorem mem_insert (m : Mask) (c x : CompId) : x ∈ Mask.insert m c ↔ x = c ∨ x ∈ m := Mask.mem_insert

theorem maskOk_insert {m : Mask} (h : MaskOk m) (c : CompId) : MaskOk (Mask.insert m c) := Mask.sorted_insert h

theorem mem_ofList (l : List CompId) (x : CompId) : x ∈ Mask.ofList l ↔ x ∈ l := Mask.mem_ofList

theorem mem_erase (m : Mask) (c x : CompId) : x ∈ Mask.erase m c ↔ x ∈ m ∧ x ≠ c := Mask.mem_erase

theorem maskOk_erase {m : Mask} (h : MaskOk m) (c : CompId) : MaskOk (Mask.erase m c) := Mask.sorted_erase h

theorem mem_diff (a b : Mask) (x : CompId) : x ∈ Mask.diff a b ↔ x ∈ a ∧ x ∉ b := Mask.mem_diff

theorem mem_closedMask_of_mem (deps : List (CompId × Mask)) (m : Mask) (x : CompId) (h : x ∈ m) :
    x ∈ closedMask deps m := subset_closedMask h

theorem maskOk_closedMask (deps : List (CompId × Mask)) {m : Mask} (h : MaskOk m) :
    MaskOk (closedMask deps m) := sorted_closedMask h

theorem indexOf?_of_mem {m : Mask} {c : CompId} (h : c ∈ m) :
    m.indexOf? c = some (m.idxOf c) ∧ m.idxOf c < m.length ∧ m[m.idxOf c]? = some c := by
  have hlt : m.idxOf c < m.length := List.idxOf_lt_length_iff.mpr h
  refine ⟨by simp [Mask.indexOf?, hlt], hlt, ?_⟩
  rw [List.getElem?_eq_getElem hlt, List.getElem_idxOf hlt]

theorem indexOf?_some {m : Mask} {c : CompId} {i : Nat} (h : m.indexOf? c = some i) :
    c ∈ m ∧ i = m.idxOf c := by
  unfold Mask.indexOf? at h
  simp only at h
  split at h
  · rename_i hlt
    cases h
    exact ⟨List.idxOf_lt_length_iff.mp hlt, rfl⟩
  · cases h

theorem idxOf_ne {m : Mask} {c c' : CompId} (h : c ∈ m) (h' : c' ∈ m) (hne : c ≠ c') :
    m.idxOf c ≠ m.idxOf c' := by
  intro e
  have a := (indexOf?_of_mem h).2.2
  have b := (indexOf?_of_mem h').2.2
  rw [e, b] at a
  cases a
  exact hne rfl


end Mustache.Proofs.Rows
