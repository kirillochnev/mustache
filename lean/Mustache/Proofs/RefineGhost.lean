import Mustache.Proofs.RowsCtl
import Mustache.Proofs.RefineRun
/-!
# Refinement, the flush: `applyCommandPack` does not read `lockDepth` / `buffers`

`setCtl w d b mk` (`Proofs/RowsCtl.lean`) replaces the two fields (and `marked`); every piece of `applyPack` commutes with
it. This lets the flush be run on "ghost" states that still carry the not-yet-applied commands in `buffers` (so that
`Inv` — whose id-table part names the reserved handles through the buffered create commands — holds after every pack).
-/
namespace Mustache.Proofs.Refine
open Mustache.Model Mustache.Spec
open Mustache.Proofs.Rows

variable (info : CompId → CompInfo)

variable (d : Nat) (b : List (List Cmd)) (mk : List Handle)

theorem setCtl_packSetVal (ti idx : Nat) (w : WM) (c : CompId) (v : Val) :
    packSetVal ti idx (setCtl w d b mk) c v = setCtl (packSetVal ti idx w c v) d b mk := by
  unfold packSetVal
  simp only [setCtl_arch]
  cases (w.arch ti).mask.indexOf? c <;> rfl

theorem setCtl_packStart (w : WM) (first : Cmd) :
    packStart (setCtl w d b mk) first = (packStart w first).map (fun r => (setCtl r.1 d b mk, r.2.1, r.2.2)) := by
  cases hfc : isCreateCmd first with
  | true => cases first <;> first | rfl | cases hfc
  | false =>
    rw [packStart_other _ _ hfc, packStart_other _ _ hfc]
    simp only [setCtl_isValid, setCtl_locOf, setCtl_arch]
    by_cases hv : (!w.isValid first.entity) = true
    · simp only [hv, if_true, Option.map_none]
    · simp only [hv, Bool.false_eq_true, if_false]
      cases (w.locOf first.entity).arch <;> rfl

theorem packStart_marked {w : WM} {first : Cmd} {r : WM × Mask × Shared} (h : packStart w first = some r) :
    r.1.marked = w.marked := by
  cases hfc : isCreateCmd first with
  | true => cases first <;> first | (cases h; rfl) | cases hfc
  | false =>
    rw [packStart_other _ _ hfc] at h
    split at h
    · cases h
    · split at h <;> cases h
      rfl

theorem setCtl_kill (e : Handle) (isCreate : Bool) (w : WM) :
    kill info e isCreate (setCtl w d b mk) = (setCtl (kill info e isCreate w).1 d b mk, (kill info e isCreate w).2) := by
  cases isCreate with
  | true => exact congrArg (·, []) (setCtl_release d b mk w e)
  | false => exact setCtl_destroyNowU info d b mk w e

theorem kill_marked (e : Handle) (isCreate : Bool) (w : WM) : (kill info e isCreate w).1.marked = w.marked := by
  cases isCreate with
  | true => show (w.release e).marked = w.marked; unfold WM.release; simp only; split <;> rfl
  | false => exact destroyNowU_marked info w e

/-- the `marked` set is read by `destroy`, so `setCtl` keeps it here -/
theorem setCtl_cmdWorld (e : Handle) (isCreate dead : Bool) (w : WM) (c : Cmd) :
    cmdWorld info e isCreate dead (setCtl w d b w.marked) c =
      (setCtl (cmdWorld info e isCreate dead w c).1 d b (cmdWorld info e isCreate dead w c).1.marked,
        (cmdWorld info e isCreate dead w c).2) := by
  cases c with
  | destroyNow e' =>
    cases dead with
    | true => rfl
    | false => simp only [cmdWorld, Bool.false_eq_true, if_false, setCtl_kill, kill_marked]
  | destroy h => cases dead <;> rfl
  | create e' m sh => rfl
  | remove e' c' => rfl
  | assign e' c' v => rfl

theorem setCtl_packFold (e : Handle) (isCreate : Bool) (l : List Cmd) (w : WM) (p : PackSt) (cbs : List Cb) :
    l.foldl (packStep info e isCreate) (setCtl w d b w.marked, p, cbs) =
      (setCtl (l.foldl (packStep info e isCreate) (w, p, cbs)).1 d b (l.foldl (packStep info e isCreate) (w, p, cbs)).1.marked,
        (l.foldl (packStep info e isCreate) (w, p, cbs)).2) :=
  List.foldl_hom (fun r : WM × PackSt × List Cb => (setCtl r.1 d b r.1.marked, r.2)) (init := (w, p, cbs))
    (g₁ := packStep info e isCreate) (g₂ := packStep info e isCreate) fun r c => by
      have hdeps : (setCtl r.1 d b r.1.marked).deps = r.1.deps := rfl
      rw [packStep_eq, packStep_eq, setCtl_cmdWorld, hdeps]

theorem fold_setCtl {α : Type} (F : WM × List Cb → α → WM × List Cb)
    (hF : ∀ W cbs x, F (setCtl W d b mk, cbs) x = (setCtl (F (W, cbs) x).1 d b mk, (F (W, cbs) x).2)) (l : List α) (W : WM)
    (cbs : List Cb) :
    l.foldl F (setCtl W d b mk, cbs) = (setCtl (l.foldl F (W, cbs)).1 d b mk, (l.foldl F (W, cbs)).2) :=
  List.foldl_hom (fun r : WM × List Cb => (setCtl r.1 d b mk, r.2)) (init := (W, cbs)) fun r x => hF r.1 r.2 x

theorem setCtl_packTarget (e : Handle) (isCreate : Bool) (initial : Mask) (sh : Shared) (w : WM) (p : PackSt) :
    packTarget e isCreate initial sh (setCtl w d b mk) p =
      (setCtl (packTarget e isCreate initial sh w p).1 d b mk, (packTarget e isCreate initial sh w p).2) := by
  unfold packTarget
  simp only [setCtl_locOf]
  split
  · rfl
  · exact setCtl_getArch ..

theorem setCtl_packMoved (e : Handle) (isCreate : Bool) (initial : Mask) (sh : Shared) (w : WM) (p : PackSt) :
    packMoved info e isCreate initial sh (setCtl w d b mk) p =
      (setCtl (packMoved info e isCreate initial sh w p).1 d b mk, (packMoved info e isCreate initial sh w p).2) := by
  unfold packMoved
  simp only [setCtl_packTarget, setCtl_locOf]
  generalize packTarget e isCreate initial sh w p = g
  cases isCreate with
  | true => simp only [if_true, setCtl_archInsert]
  | false =>
    simp only [Bool.false_eq_true, if_false]
    cases (g.1.locOf e).arch with
    | none => rfl
    | some pi =>
      simp only
      by_cases hc : (pi = g.2 || initial == p.final) = true
      · simp only [hc, if_true]
      · simp only [hc, Bool.false_eq_true, if_false, setCtl_externalMove]
        cases g.1.externalMove info g.2 e pi (g.1.locOf e).idx (Mask.ofList (p.src.map (·.1))) <;> rfl

theorem setCtl_packLoops (e : Handle) (isCreate : Bool) (initial : Mask) (p : PackSt) (ti : Nat) (W1 : WM)
    (cbs1 cbs : List Cb) :
    packLoops info e isCreate initial p ti (setCtl W1 d b mk) cbs1 cbs =
      (setCtl (packLoops info e isCreate initial p ti W1 cbs1 cbs).1 d b mk,
        (packLoops info e isCreate initial p ti W1 cbs1 cbs).2) := by
  have h2 := fun sup idx => fold_setCtl d b mk (packStaleStep info e sup ti idx) (fun W c x => by
    unfold packStaleStep
    simp only
    by_cases hs : sup.contains x = true
    · simp only [hs, if_true]
    · simp only [hs, Bool.false_eq_true, if_false, setCtl_packSetVal])
  have h3 := fun tmask idx => fold_setCtl d b mk (packSupplyStep info e tmask ti idx) (fun W c x => by
    unfold packSupplyStep
    by_cases hs : tmask.contains x.1 = true
    · simp only [hs, if_true, setCtl_packSetVal]
    · simp only [hs, Bool.false_eq_true, if_false])
  unfold packLoops
  simp only [setCtl_arch, setCtl_locOf, h2, h3]

theorem setCtl_packFinish (e : Handle) (isCreate : Bool) (initial : Mask) (sh : Shared) (w : WM) (p : PackSt)
    (cbs : List Cb) :
    packFinish info e isCreate initial sh (setCtl w d b mk, p, cbs) =
      (setCtl (packFinish info e isCreate initial sh (w, p, cbs)).1 d b mk,
        (packFinish info e isCreate initial sh (w, p, cbs)).2) := by
  rw [packFinish_eq, packFinish_eq]
  cases p.dead with
  | true => rfl
  | false => simp only [Bool.false_eq_true, if_false, setCtl_packTarget, setCtl_packMoved, setCtl_packLoops]

theorem packFinish_setMarked (e : Handle) (isCreate : Bool) (initial : Mask) (sh : Shared) (w : WM) (p : PackSt)
    (cbs : List Cb) :
    packFinish info e isCreate initial sh ({ w with marked := mk }, p, cbs) =
      ({ (packFinish info e isCreate initial sh (w, p, cbs)).1 with marked := mk },
        (packFinish info e isCreate initial sh (w, p, cbs)).2) := by
  have hctl := packFinish_ctl info e isCreate initial sh (w, p, cbs)
  rw [← setCtl_self w.lockDepth w.buffers mk rfl rfl, setCtl_packFinish, setCtl_self _ _ _ hctl.lockDepth hctl.buffers]

theorem setCtl_applyPack (w : WM) (pack : List Cmd) :
    (setCtl w d b w.marked).applyPack info pack =
      (setCtl (w.applyPack info pack).1 d b (w.applyPack info pack).1.marked, (w.applyPack info pack).2) := by
  cases pack with
  | nil => rfl
  | cons first rest =>
    rw [applyPack_eq, applyPack_eq, setCtl_packStart]
    cases hps : packStart w first with
    | none => rfl
    | some r =>
      obtain ⟨w1, initial0, sh⟩ := r
      have hdeps : (setCtl w1 d b w.marked).deps = w1.deps := rfl
      have hm1 : w1.marked = w.marked := packStart_marked hps
      simp only [Option.map_some]
      rw [hdeps, ← hm1, setCtl_packFold, setCtl_packFinish, (packFinish_sameTable info _ _ _ _ _).marked]

end Mustache.Proofs.Refine
