import Mustache.Proofs.RefinePackTools
/-!
# Refinement, the flush: a pack that starts with a deferred creation

The reserved handle is installed in the id table (`startCreate`); the entity then gets its row (alive at the end:
`installed_refines`) or is released again at once (`stillborn_refines`). Either way its create command leaves the
(ghost) buffers, so that the reserved handles stay the buffered creations.
-/
namespace Mustache.Proofs.Refine
open Mustache.Model Mustache.Spec
open Mustache.Proofs.IdTable (tabOf Ghost TInv)
open Mustache.Proofs.Rows

variable (info : CompId → CompInfo)

theorem startCreate_arch (w : WM) (e : Handle) (ai : Nat) : (startCreate w e).arch ai = w.arch ai := rfl

theorem startCreate_tab (w : WM) (e : Handle) : tabOf (startCreate w e) = (tabOf w).install e := rfl

/-- installing the reserved handle `e`: the handles that become or stay valid are read off the ghost -/
theorem startCreate_step {w : WM} {iss : List Handle} (hi : Inv ⟨w, iss⟩) (hb : Bounds ⟨w, iss⟩) {e : Handle}
    (hpe : e ∈ createHandles w.buffers) (hb1 : (startCreate w e).slots.length < 2^30 - 1) :
    Step w (startCreate w e) e.id := by
  have hok := hi.rows
  have hf := startCreate_facts w e
  have hvalid : ∀ h : Handle, h.id ≠ e.id → (startCreate w e).isValid h = w.isValid h := fun h hne => by
    rcases hi.tinv with ⟨g, tinv, _, hpend⟩
    rw [Bool.eq_iff_iff, valid_iff_ghost tinv (Nat.le_of_lt hb.inRange),
      valid_iff_ghost (startCreate_tab w e ▸ Mustache.Proofs.IdTable.install_inv tinv ((hpend e).mpr hpe)) (Nat.le_of_lt hb1)]
    exact ⟨fun hh => (List.mem_cons.mp hh).resolve_left (fun he => hne (he ▸ rfl)), List.mem_cons_of_mem _⟩
  refine ⟨⟨?_, ?_⟩, ⟨?_, hvalid⟩, ?_, ?_, fun hk => (KeysSame.of_archs hf.1).keysOK hk⟩
  · intro ai i r hr
    rw [startCreate_arch] at hr ⊢
    exact hok.vals ai i r hr
  · intro ai i r hr
    rw [startCreate_arch] at hr
    refine ⟨(hok.loc ai i r hr).1, ?_⟩
    rw [hf.2.1 _ (hok.id_lt hr)]
    exact (hok.loc ai i r hr).2
  · intro aj j r hr _
    refine ⟨⟨j, by rw [startCreate_arch]; exact hr, ?_⟩, rfl, rfl⟩
    rw [hf.2.1 _ (hok.id_lt hr)]
    exact (hok.loc aj j r hr).2
  · simp only [startCreate, WM.ensureId, List.length_append]; omega
  · intro x _ hn ai i r hr
    rw [startCreate_arch] at hr
    exact hn ai i r hr

theorem startCreate_ctl (w : WM) (e : Handle) : SameCtl w (startCreate w e) := ⟨rfl, rfl, rfl, rfl, rfl, rfl, rfl, rfl, rfl⟩

theorem startCreate_marked (w : WM) (e : Handle) : (startCreate w e).marked = w.marked := rfl

theorem startCreate_cover {w : WM} (e : Handle) (h : w.slots.length ≤ w.locs.length) :
    (startCreate w e).slots.length ≤ (startCreate w e).locs.length := by
  simp only [startCreate, WM.ensureId, List.length_set, List.length_append, List.length_replicate]
  omega

/-- `b'` and `sb'` are the (ghost) buffers of the two sides once the creation of the reserved handle `e` has left them -/
structure Popped (w : WM) (iss : List Handle) (e : Handle) (b' : List (List Cmd)) (sb' : List (List SCmd)) : Prop where
  perm : (createHandles w.buffers).Perm (e :: createHandles b')
  len : b'.length = w.buffers.length
  sub : ∀ x ∈ b', ∀ cmd ∈ x, ∃ y ∈ w.buffers, cmd ∈ y
  rel : All2 (All2 (cmdRel iss w.pool)) b' sb'

theorem Popped.pending {w : WM} {iss : List Handle} {e : Handle} {b' : List (List Cmd)} {sb' : List (List SCmd)}
    (h : Popped w iss e b' sb') : e ∈ createHandles w.buffers := h.perm.mem_iff.mpr List.mem_cons_self

/-- the relation after the reserved handle `e` (ordinal `k`) went through its creation: every other issued handle
reads the record it read before, and no other handle came to life -/
theorem rel_install {w : WM} {iss : List Handle} {s : WS} (hi : Inv ⟨w, iss⟩) (hb : Bounds ⟨w, iss⟩) (hr : Rel ⟨w, iss⟩ s)
    {w' : WM} {e : Handle} {k : Nat} (hk : iss[k]? = some e) (hs : Step w w' e.id)
    (hctl : SameCtl w w') (hmk : w'.marked = w.marked) (hlive : LiveInv w')
    (hvalid : ∀ h, h ≠ e → w'.isValid h = w.isValid h) {b' : List (List Cmd)} {sb' : List (List SCmd)}
    (hpop : Popped w iss e b' sb') (x : Option SEnt) (hx : optRel x (absEnt w' e)) :
    Rel ⟨setCtl w' w.lockDepth b' w'.marked, iss⟩ { s.setEnt k x with buffers := sb' } := by
  have hrel : Rel ⟨w', iss⟩ (s.setEnt k x) := by
    refine rel_of_ents (c := ⟨w, iss⟩) hi hr (hctl.keeps hmk) hs.ok hlive (List.length_set ..) (fun o h ho => ?_)
      (fun h _ hv hnp => (hvalid h (fun heq => hnp (heq ▸ hpop.pending))).symm.trans hv)
    have hklt : k < s.ents.length := by rw [hr.len]; exact (List.getElem?_eq_some_iff.mp hk).1
    show optRel ((s.setEnt k x).alive o) _
    rw [setEnt_alive]
    by_cases hok : o = k
    · subst hok
      rw [if_pos ⟨rfl, hklt⟩, Option.some.inj (ho.symm.trans hk)]
      exact hx
    · have hnd := issued_nodup (c := ⟨w, iss⟩) hi
      have hne : h ≠ e := fun heq =>
        hok ((List.getElem?_inj (List.getElem?_eq_some_iff.mp ho).1 hnd).mp (ho.trans (heq ▸ hk.symm)))
      have : absEnt w' h = absEnt w h := by
        by_cases hid : h.id = e.id
        · -- a handle with the id of a reserved handle is not valid
          have hinv : w.isValid h = false := by
            cases hv : w.isValid h with
            | false => rfl
            | true =>
              rcases hi.tinv with ⟨g, tinv, hiss, hpend⟩
              have hl := (valid_iff_ghost tinv (Nat.le_of_lt hb.inRange) h).mp hv
              exact absurd (tinv.pend_unique e ((hpend e).mpr hpop.pending) h (tinv.live_issued h hl) hid) hne
          rw [absEnt_invalid hinv, absEnt_invalid ((hvalid h hne).trans hinv)]
        · exact absEnt_step hi.rows hi.live hi.shared hs.frame (PoolExt.of_eq hctl.pool) h hid
      rw [if_neg (fun hh => hok hh.1), this]
      exact hr.ents o h ho
  have := rel_pop hrel b' sb' (by rw [hctl.pool]; exact hpop.rel)
    (fun h hh => by rw [hctl.buffers]; exact hpop.perm.mem_iff.mpr (List.mem_cons_of_mem _ hh))
  rwa [hctl.lockDepth] at this

/-- handles are reserved under lock only -/
theorem pending_locked {c : CW} (hi : Inv c) {e : Handle} (hpe : e ∈ createHandles c.w.buffers) : 0 < c.w.lockDepth := by
  rcases Nat.eq_zero_or_pos c.w.lockDepth with h0 | h0
  · rw [createHandles_of_empty (hi.bufEmpty h0)] at hpe; cases hpe
  · exact h0

/-- the invariant after a step on the reserved handle `e` that takes it out of the pending set (ghost `g'`), seen
through buffers `b'` from which its create command is gone -/
theorem inv_popped {w : WM} {iss : List Handle} (hi : Inv ⟨w, iss⟩) {w' : WM} {e : Handle} (hs : Step w w' e.id)
    (hctl : SameCtl w w') (hmk : w'.marked = w.marked) (b' : List (List Cmd)) {g g' : Ghost}
    (hpend : ∀ h, h ∈ g.pending ↔ h ∈ createHandles w.buffers) (htinv' : TInv (tabOf w') g')
    (hiss' : g'.issued = iss.reverse) (hpend' : ∀ y, y ∈ g'.pending ↔ y ∈ g.pending ∧ y ≠ e)
    (hlive : LiveInv w') (hsh' : SharedPooled w') (hcov : w'.slots.length ≤ w'.locs.length)
    {sb' : List (List SCmd)} (hpop : Popped w iss e b' sb') :
    Inv ⟨setCtl w' w.lockDepth b' w'.marked, iss⟩ := by
  have hld0 : 0 < w.lockDepth := pending_locked (c := ⟨w, iss⟩) hi hpop.pending
  have hnd' : (e :: createHandles b').Nodup := hpop.perm.nodup_iff.mp hi.pendNodup
  have hsub : ∀ h ∈ createHandles b', h ∈ createHandles w.buffers := fun h hh =>
    hpop.perm.mem_iff.mpr (List.mem_cons_of_mem _ hh)
  have htab : tabOf (setCtl w' w.lockDepth b' w'.marked) = tabOf w' := by
    unfold tabOf; rw [← hctl.lockDepth]; rfl
  exact
  { tinv := ⟨g', htab ▸ htinv', hiss', fun y => by
      show y ∈ g'.pending ↔ y ∈ createHandles b'
      rw [hpend', hpend y, hpop.perm.mem_iff, List.mem_cons]
      exact ⟨fun h => h.1.resolve_left h.2, fun h => ⟨Or.inr h, fun he => (List.nodup_cons.mp hnd').1 (he ▸ h)⟩⟩⟩
    pendNodup := (List.nodup_cons.mp hnd').2
    rows := ⟨hs.ok.vals, hs.ok.loc⟩
    keys := ⟨(hs.keys hi.keys).masks, (hs.keys hi.keys).distinct⟩
    live := ⟨hlive.live_in, hlive.row_live⟩
    pool := hi.pool.of_eq hctl.pool hctl.nextInst
    shared := hsh'
    depsB := by show DepsBounded w'.deps; rw [hctl.deps]; exact hi.depsB
    locsCover := hcov
    bufLe := by show b'.length ≤ w'.nthreads; rw [hpop.len, hctl.nthreads]; exact hi.bufLe
    bufLen := fun _ => by show b'.length = w'.nthreads; rw [hpop.len, hctl.nthreads]; exact hi.bufLen hld0
    bufEmpty := fun h0 => by have : w.lockDepth = 0 := h0; omega
    bufKnown := by
      intro b hb1 cmd hc
      rcases hpop.sub b hb1 cmd hc with ⟨y, hy, hcy⟩
      refine ⟨(hi.bufKnown y hy cmd hcy).1.mono hctl.worldId (fun _ h => h), ?_⟩
      show cmdOk w'.pool cmd
      rw [hctl.pool]; exact (hi.bufKnown y hy cmd hcy).2
    markedKnown := by
      show ∀ y ∈ w'.marked, Known ⟨_, iss⟩ y ∧ y ∉ createHandles b'
      rw [hmk]
      intro y hy
      exact ⟨(hi.markedKnown y hy).1.mono hctl.worldId (fun _ h => h), fun hc => (hi.markedKnown y hy).2 (hsub y hc)⟩
    markedRange := by show ∀ y ∈ w'.marked, HRange w'.worldId y; rw [hmk, hctl.worldId]; exact hi.markedRange
    markedSorted := by show w'.marked.Pairwise _; rw [hmk]; exact hi.markedSorted }

section
variable {w : WM} {iss : List Handle} {s : WS} (hi : Inv ⟨w, iss⟩) (hb : Bounds ⟨w, iss⟩) (hr : Rel ⟨w, iss⟩ s)
  {w' : WM} {e : Handle} {k : Nat} (hk : iss[k]? = some e)
  (hs : Step w w' e.id) (hctl : SameCtl w w') (hmk : w'.marked = w.marked)
  (hcov : w'.slots.length ≤ w'.locs.length) (hb' : w'.slots.length < 2^30 - 1)
  (b' : List (List Cmd)) (sb' : List (List SCmd))
  (hpop : Popped w iss e b' sb')
include hi hb hr hk hs hctl hmk hcov hb' hpop

theorem installed_refines {ai : Nat} {vals : List Val} (htab : tabOf w' = (tabOf w).install e) (ho : Owns w' e ai vals)
    (hsh' : SharedPooled w') (x : SEnt) (hx : optRel (some x) (absEnt w' e)) :
    Inv ⟨setCtl w' w.lockDepth b' w'.marked, iss⟩ ∧
    Rel ⟨setCtl w' w.lockDepth b' w'.marked, iss⟩ { s.setEnt k (some x) with buffers := sb' } := by
  rcases hi.tinv with ⟨g, tinv, hiss, hpend⟩
  have htinv' : TInv (tabOf w') (g.install e) := htab ▸ Mustache.Proofs.IdTable.install_inv tinv ((hpend e).mpr hpop.pending)
  have hlive' := liveInv_owns hs hi.live ho
  have hinv' := inv_popped hi hs hctl hmk b' hpend htinv' hiss
    (fun y => by show y ∈ g.pending.filter (· ≠ e) ↔ _; rw [List.mem_filter]; simp)
    hlive' hsh' hcov hpop
  refine ⟨hinv', rel_install hi hb hr hk hs hctl hmk hlive' (fun y hne => ?_) hpop (some x) hx⟩
  rw [Bool.eq_iff_iff, valid_iff_ghost htinv' (Nat.le_of_lt hb'), valid_iff_ghost tinv (Nat.le_of_lt hb.inRange) y]
  show y ∈ e :: g.live ↔ _
  rw [List.mem_cons]
  exact ⟨fun hh => hh.resolve_left hne, Or.inr⟩

/-- the reserved handle `e` is installed and released at once (created and destroyed inside one pack) -/
theorem stillborn_refines (htab : tabOf w' = ((tabOf w).install e).release e)
    (hrows : ∀ ai, (w'.arch ai).rows = (w.arch ai).rows) (hsh' : SharedPooled w') :
    Inv ⟨setCtl w' w.lockDepth b' w'.marked, iss⟩ ∧
    Rel ⟨setCtl w' w.lockDepth b' w'.marked, iss⟩ { s.setEnt k none with buffers := sb' } := by
  rcases hi.tinv with ⟨g, tinv, hiss, hpend⟩
  have hp : e ∈ g.pending := (hpend e).mpr hpop.pending
  have htinv' : TInv (tabOf w') ((g.install e).destroy e) :=
    htab ▸ Mustache.Proofs.IdTable.release_inv (Mustache.Proofs.IdTable.install_inv tinv hp)
      (by show e ∈ e :: g.live; simp) (hb.noWrap e (List.mem_of_getElem? hk))
  have hnl : e ∉ g.live := tinv.pend_not_live e hp
  have hvalid : ∀ y, w'.isValid y = w.isValid y := by
    intro y
    rw [Bool.eq_iff_iff, valid_iff_ghost htinv' (Nat.le_of_lt hb'), valid_iff_ghost tinv (Nat.le_of_lt hb.inRange) y]
    show y ∈ (e :: g.live).filter (· ≠ e) ↔ _
    rw [List.mem_filter, List.mem_cons]
    constructor
    · rintro ⟨h1 | h1, h2⟩
      · exact absurd h1 (by simpa using h2)
      · exact h1
    · intro h1
      exact ⟨Or.inr h1, by simpa using (fun he : y = e => hnl (he ▸ h1))⟩
  have hlive' := liveInv_of_same hi.live hrows hvalid
  have hinv' := inv_popped hi hs hctl hmk b' hpend htinv' hiss
    (fun y => by show y ∈ g.pending.filter (· ≠ e) ↔ _; rw [List.mem_filter]; simp)
    hlive' hsh' hcov hpop
  refine ⟨hinv', ?_⟩
  have hev : w'.isValid e = false := by
    rw [hvalid e]
    cases hv : w.isValid e with
    | false => rfl
    | true => exact absurd hpop.pending (valid_not_pending (c := ⟨w, iss⟩) hi hb hv)
  exact rel_install hi hb hr hk hs hctl hmk hlive' (fun y _ => hvalid y) hpop none (by rw [absEnt_invalid hev]; trivial)

end

/-- the row insertion of a creating pack, into the archetype `ti` the lookup of the final set returns -/
theorem created_moved {w : WM} (hok : RowsOK w) (e : Handle) (hfresh : NotInRow w e.id)
    (hlt : e.id < w.locs.length) (hn : e.id ≠ nullId) (initial : Mask) (sh : Shared) (pf : PackSt) (hfok : MaskOk pf.final)
    (hfcl : ClosedUnder w.deps pf.final) :
    ∃ W0 ti W1, w.getArch pf.final sh = (W0, ti) ∧
      packMoved info e true initial sh w pf = (W1, insCbs info pf.final (Mask.ofList (pf.src.map (·.1))) e) ∧
      Moved W0 W1 e ti (insVals info pf.final (Mask.ofList (pf.src.map (·.1)))) ∧ KeysSame W0 W1 ∧
      (W0.arch ti).mask = pf.final := by
  have hcm : closedMask w.deps pf.final = pf.final := closedMask_eq_self hfok hfcl
  have hkey := getArch_key w pf.final sh
  rw [hcm] at hkey
  have hai := getArch_idx_lt w pf.final sh
  refine ⟨(w.getArch pf.final sh).1, (w.getArch pf.final sh).2,
    insertRow (w.getArch pf.final sh).1 (w.getArch pf.final sh).2 e (insVals info pf.final (Mask.ofList (pf.src.map (·.1)))),
    rfl, ?_, ?_, insertRow_keysSame _ _ _ _, hkey.1⟩
  · unfold packMoved
    simp only [if_true, packTarget_create]
    rw [archInsert_form, hkey.1]
  · apply insertRow_moved (rowsOK_getArch hok pf.final sh) _ e _ hai hn
    · rw [Mustache.Proofs.Rows.getArch_locs]; exact hlt
    · exact getArch_notInRow pf.final sh hfresh
    · rw [hkey.1, insVals_length]

section
variable {w : WM} {iss : List Handle} {s : WS} (hi : Inv ⟨w, iss⟩) (hb : Bounds ⟨w, iss⟩) (hr : Rel ⟨w, iss⟩ s)
  (e : Handle) {k : Nat} (hk : iss[k]? = some e)
  (b' : List (List Cmd)) (sb' : List (List SCmd))
  (hpop : Popped w iss e b' sb')
  (hb0 : (startCreate w e).slots.length < 2^30 - 1)
  (mk : Bool) {S' : WS} {scbs : List SCb} (hfr : FrameK s S' k)
  (hmk : S'.marked = if mk then insertNat s.marked k else s.marked)
include hi hb hr hk hpop hb0 hfr hmk

/-- install, look the archetype up, insert the row, write the values, then the marks, against a spec state whose
record of the ordinal satisfies the pack invariant -/
theorem create_alive (sh : Shared) (hshin : SharedIn w.pool sh) (initial : Mask) (pf : PackSt) {entn : SEnt}
    (haln : S'.alive k = some entn) (hshn : ∀ sid, lookupS entn.shared sid = lookupS (absShared w.pool sh) sid)
    (hpinv : PInv info w.deps (initial.map (fun c => (c, defaultVal info c))) [] k pf entn scbs) :
    Inv ⟨setCtl (packFinish info e true initial sh (startCreate w e, pf, [])).1 w.lockDepth b'
      (if mk then insertSorted w.marked e else w.marked), iss⟩ ∧
    Rel ⟨setCtl (packFinish info e true initial sh (startCreate w e, pf, [])).1 w.lockDepth b'
      (if mk then insertSorted w.marked e else w.marked), iss⟩ { S' with buffers := sb' } ∧
    cbsAgreeNet iss (packFinish info e true initial sh (startCreate w e, pf, [])).2 scbs := by
  have hord : ordOf iss e = some k := ordOf_unique (issued_nodup (c := ⟨w, iss⟩) hi) hk
  have hsf := startCreate_facts w e
  have hstep0 := startCreate_step hi hb hpop.pending hb0
  have hnid : e.id ≠ nullId := by
    have : e.id < (startCreate w e).slots.length := hsf.2.2.2
    show e.id ≠ 2^30 - 1
    omega
  have hfcl : ClosedUnder w.deps pf.final :=
    hpinv.closedF.elim (fun h => by rw [h]; intro x hx; cases hx) id
  obtain ⟨W0, ti, W1, hg, hpm, hm1, hks1, hmask0⟩ := created_moved info hstep0.ok e
    (fun ai i r hr' => pending_notInRow (c := ⟨w, iss⟩) hi hb hpop.pending ai i r hr') hsf.2.2.1 hnid initial sh pf
    hpinv.sorted hfcl
  have hic : ∀ x, x ∈ (initial.map (fun c => (c, defaultVal info c))).map (·.1) ↔ x ∈ initial :=
    fun x => by simp [List.map_map, Function.comp_def]
  obtain ⟨vals, hmX, hksX, hrow, hcb⟩ := hpinv.finish info hord true initial hic rfl List.nodup_nil sh (startCreate w e)
    (by rw [packTarget_create, hg]) hpm hm1 (by rw [(hks1.key _).1]; exact hmask0)
    ⟨insVals_length info _ _, fun y hy hns => by
      rw [insVals_get info pf.final _ y hy hns, find_map_key]
      by_cases h : y ∈ initial <;> simp [h]⟩
    (by rw [insCbs_eq, cbAbs_assign_map hord]; simp [moveEvs])
  have hstep1 := getArch_step hstep0.ok pf.final sh e.id (fun _ => hpinv.sorted)
  have hst1 := getArch_sameTable (startCreate w e) pf.final sh
  have hkey := getArch_key (startCreate w e) pf.final sh
  have hAK1 : AllKeys (fun _ s => SharedIn w.pool s) ((startCreate w e).getArch pf.final sh).1 :=
    AllKeys.getArch (P := fun _ s => SharedIn w.pool s) (w := startCreate w e) hi.shared pf.final sh hshin
  rw [hg] at hstep1 hst1 hkey hAK1
  generalize (packFinish info e true initial sh (startCreate w e, pf, [])).1 = X at *
  have hsameX : SameTable (startCreate w e) X := hst1.trans hmX.same
  have hkeysX : KeysSame W0 X := hks1.trans hksX
  have hvalid0 : (startCreate w e).isValid e = true := by
    rw [Mustache.Proofs.IdTable.isValid_tab, startCreate_tab]
    apply Mustache.Proofs.IdTable.install_valid _ e _ (pending_facts (c := ⟨w, iss⟩) hi hpop.pending).1
    intro hnull
    rw [hnull] at hnid
    exact hnid rfl
  have hownX := hmX.owns (by rw [hst1.isValid]; exact hvalid0)
  have htilt : ti < X.archs.length := by rcases hmX.here with ⟨n, _, hr'⟩; exact lt_of_row hr'
  have hshX : SharedIn w.pool (X.arch ti).shared := (hAK1.keysSame hkeysX) _ (arch_mem_archs htilt)
  have hx' : optRel (some entn) (absEnt X e) := by
    rw [owns_absEnt hownX]
    refine ⟨by rw [(hksX.key ti).1, (hks1.key ti).1, hmask0]; exact hrow, fun sid => ?_⟩
    rw [hshn sid, hsameX.pool, shared_eq_of_data hi.pool hshX hshin (by rw [(hkeysX.key ti).2]; exact hkey.2)]
    rfl
  have hXm : X.marked = w.marked := hsameX.marked
  have hXs : X.slots.length < 2^30 - 1 := by rw [hsameX.slots]; exact hb0
  have hcore := installed_refines hi hb hr hk ((hstep0.trans hstep1).trans hmX.step)
    ((startCreate_ctl w e).trans hsameX.ctl) hXm
    (by rw [hsameX.slots]; exact Nat.le_trans (startCreate_cover e hi.locsCover) ((hstep1.trans hmX.step).llen))
    hXs b' sb' hpop ((SameTable.tab hsameX).trans (startCreate_tab w e)) hownX
    (by show AllKeys (fun _ s => SharedIn X.pool s) X; rw [hsameX.pool]; exact hAK1.keysSame hkeysX) entn hx'
  have hvX' : (setCtl X w.lockDepth b' X.marked).isValid e = true := hownX.valid
  have hbX' : Bounds ⟨setCtl X w.lockDepth b' X.marked, iss⟩ := ⟨hXs, hb.noWrap⟩
  have hmd := pack_marked mk sb' hcore.1 hcore.2 hk (valid_range (c := ⟨_, iss⟩) hbX' hvX')
    (valid_not_pending (c := ⟨_, iss⟩) hcore.1 hbX' hvX') hfr haln hmk
  rw [← hXm]
  exact ⟨hmd.1, hmd.2, hcb⟩

/-- install and release at once, then the marks, against a spec state where the ordinal is dead and the events balance
against the empty set -/
theorem create_dead (hal : S'.alive k = none) (hbal : CbBal info [] k [] [] scbs) :
    Inv ⟨setCtl ((startCreate w e).release e) w.lockDepth b' (if mk then insertSorted w.marked e else w.marked), iss⟩ ∧
    Rel ⟨setCtl ((startCreate w e).release e) w.lockDepth b' (if mk then insertSorted w.marked e else w.marked), iss⟩
      { S' with buffers := sb' } ∧
    cbsAgreeNet iss [] scbs := by
  have hlt : e.id < (startCreate w e).slots.length := (startCreate_facts w e).2.2.2
  have hstep0 := startCreate_step hi hb hpop.pending hb0
  have hrl := release_archs_locs (startCreate w e) e hlt
  have hctl : SameCtl w ((startCreate w e).release e) := (startCreate_ctl w e).trans (release_ctl _ e)
  have hDs := release_slots_length (startCreate w e) e hlt
  have hDm : ((startCreate w e).release e).marked = w.marked := kill_marked info e true (startCreate w e)
  have hcore := stillborn_refines hi hb hr hk (hstep0.trans (release_step hstep0.ok e hlt)) hctl hDm
    (by rw [hDs, hrl.2.1]; exact startCreate_cover e hi.locsCover) (by rw [hDs]; exact hb0)
    b' sb' hpop (by rw [Mustache.Proofs.IdTable.release_tab, startCreate_tab])
    (fun ai => by rw [release_arch _ e hlt]; rfl)
    (by
      show ∀ a ∈ ((startCreate w e).release e).archs, SharedIn ((startCreate w e).release e).pool a.shared
      rw [hrl.1, hctl.pool]; exact hi.shared)
  rw [← hDm]
  generalize (startCreate w e).release e = D at *
  have hmd := pack_marked mk sb' hcore.1 hcore.2 hk
    ⟨by have := hb0; omega, by
      show e.world = D.worldId; rw [hctl.worldId]; exact (pending_facts (c := ⟨w, iss⟩) hi hpop.pending).1⟩
    (List.nodup_cons.mp (hpop.perm.nodup_iff.mp hi.pendNodup)).1 hfr hal hmk
  exact ⟨hmd.1, hmd.2, cbsAgreeNet_of (mc := []) rfl (pack_agree_dead info hbal List.nodup_nil)⟩

end

/-- a pack `create e m sh :: rest` whose reserved handle has ordinal `k`, its commands leaving the buffers -/
theorem pack_create_refines {w : WM} {iss : List Handle} {s : WS} (hi : Inv ⟨w, iss⟩) (hb : Bounds ⟨w, iss⟩)
    (hr : Rel ⟨w, iss⟩ s) (e : Handle) (m : Mask) (sh : Shared) (ssh : List (Nat × Nat)) (rest : List Cmd) (hm : MaskOk m)
    (hshin : SharedIn w.pool sh) (hssh : ∀ sid, lookupS ssh sid = lookupS (absShared w.pool sh) sid)
    (hall : ∀ c ∈ rest, c.entity = e ∧ crH c = none) {k : Nat} (hk : iss[k]? = some e)
    (b' : List (List Cmd)) (sb' : List (List SCmd))
    (hpop : Popped w iss e b' sb')
    (hb0 : (startCreate w e).slots.length < 2^30 - 1) :
    PackRefinesPop info w iss s (.create e m sh :: rest) (.create k m ssh :: rest.map (specCmd k)) b' sb' := by
  unfold PackRefinesPop
  have hklt : k < s.ents.length := by rw [hr.len]; exact (List.getElem?_eq_some_iff.mp hk).1
  have hdeps0 : (startCreate w e).deps = w.deps := rfl
  -- the model side: the command fold in closed form
  have hbf := bodyFold info e true (startCreate w e) rest false { final := closedMask w.deps m } (fun c hc => (hall c hc).1)
  rw [bodyState_init, Bool.false_or, hdeps0] at hbf
  rw [applyPack_eq, packStart_create]
  simp only [isCreateCmd, if_true, Cmd.entity, hdeps0, packInit_create]
  rw [hbf]
  -- the spec side: the creation, then the pack invariant along the same commands
  have hstep : s.applyCmd info (.create k m ssh) =
      (s.setEnt k (some ⟨rebuild info [] (closedMask w.deps m) [], ssh⟩), cbDiff info k [] (closedMask w.deps m)) := by
    simp only [WS.applyCmd]
    rw [hr.deps]; rfl
  rw [specFold_cons, hstep, List.nil_append]
  obtain ⟨hsp, hfr, hmk⟩ := spec_body_fold info (ic := (closedMask w.deps m).map (fun c => (c, defaultVal info c)))
    (shr := ssh) hi.depsB s.marked rest false { final := closedMask w.deps m }
    (s.setEnt k (some ⟨rebuild info [] (closedMask w.deps m) [], ssh⟩)) (cbDiff info k [] (closedMask w.deps m))
    (.alive _ (setEnt_alive_self s hklt _) rfl
      (pinv_init_created info ssh (maskOk_closedMask w.deps hm) (closedMask_closed hi.depsB m)))
    (by show k < (s.ents.set k _).length; rw [List.length_set]; exact hklt) hr.deps rfl (fun c hc => (hall c hc).2)
  have hfr := (frameK_setEnt s k _).trans hfr
  generalize rest.foldl (pst w.deps) { final := closedMask w.deps m } = pf at *
  generalize markedBy w.deps { final := closedMask w.deps m } rest = mk at *
  generalize specFold info (s.setEnt k (some ⟨rebuild info [] (closedMask w.deps m) [], ssh⟩),
    cbDiff info k [] (closedMask w.deps m)) (rest.map (specCmd k)) = Sr at *
  cases hsp with
  | dead hd hal hbal =>
    rw [packFinish_dead info _ _ _ _ _ _ _ hd, hd, bodyState_dead, startCreate_marked, setCtl_marked]
    exact create_dead info hi hb hr e hk b' sb' hpop hb0 mk hfr hmk hal hbal
  | alive entn haln hshn hpinv =>
    rw [hpinv.alive, bodyState_alive, packFinish_setMarked, startCreate_marked, setCtl_marked]
    exact create_alive info hi hb hr e hk b' sb' hpop hb0 mk hfr hmk sh hshin _ pf haln
      (fun sid => by rw [hshn]; exact hssh sid) hpinv

end Mustache.Proofs.Refine
