import Mustache.Proofs.RefineBasic
/-!
# Refinement: list facts

Association lists read by key (`lookupS`, the shared part of a record; `zip` of a mask with a row, its component
part; the spec's `rebuild`), the callback lists of a move, the marked set (`insertSorted`, `insertNat`).
-/
namespace Mustache.Proofs.Refine
open Mustache.Model Mustache.Spec
open Mustache.Proofs.Rows

variable (info : CompId → CompInfo)

abbrev Pool := List (Nat × List (Nat × Nat))

theorem lookupS_cons (p : Nat × Nat) (t : List (Nat × Nat)) (sid : Nat) :
    lookupS (p :: t) sid = if sid = p.1 then some p.2 else lookupS t sid := by
  unfold lookupS
  rw [List.find?_cons]
  by_cases h : sid = p.1
  · rw [if_pos h, h, beq_self_eq_true]; rfl
  · rw [if_neg h, beq_false_of_ne (Ne.symm h)]

theorem lookupS_eq_lookK (l : List (Nat × Nat)) (k : Nat) : lookupS l k = lookK l k := by
  induction l with
  | nil => rfl
  | cons p t ih => obtain ⟨a, b⟩ := p; rw [lookupS_cons, ih]; rfl

theorem zip_ofPairs (l : List (Nat × Nat)) : (Shared.ofPairs l).ids.zip (Shared.ofPairs l).data = l :=
  (List.zip_of_prod rfl rfl).symm

theorem lookupS_absShared (pool : List (Nat × List (Nat × Nat))) {sh : Shared} (h : sh.ids.length = sh.data.length)
    (sid : Nat) : lookupS (absShared pool sh) sid = (sh.get? sid).map (instVal pool sid) := by
  obtain ⟨l, rfl⟩ := Shared.exists_pairs h
  rw [Shared.get?_ofPairs, ← lookupS_eq_lookK]
  unfold lookupS absShared
  rw [zip_ofPairs, find?_map_fst (fun p => (p.1, instVal pool p.1 p.2)) (fun _ => rfl)]
  cases hf : l.find? (·.1 == sid) with
  | none => rfl
  | some p => exact congrArg (fun k => some (instVal pool k p.2)) (find?_fst_some hf).2

theorem lookupS_isSome (l : List (Nat × Nat)) (sid : Nat) : (lookupS l sid).isSome = l.any (·.1 == sid) := by
  unfold lookupS
  rw [Option.isSome_map, List.isSome_find?]

theorem lookupS_setShared (l : List (Nat × Nat)) (sid v sid' : Nat) :
    lookupS (setShared l sid v) sid' = if sid' = sid then some v else lookupS l sid' := by
  unfold lookupS setShared
  rw [find?_fst_upsert]
  split <;> rfl

theorem lookupS_filter_ne (l : List (Nat × Nat)) (sid sid' : Nat) :
    lookupS (l.filter (·.1 != sid)) sid' = if sid' = sid then none else lookupS l sid' := by
  unfold lookupS
  rw [find?_filter_key l (· != sid)]
  by_cases hs : sid' = sid
  · rw [if_pos hs, if_neg (by simp [hs])]; rfl
  · rw [if_neg hs, if_pos (by simpa using hs)]

theorem shared_nil_of_lookups {l : List (Nat × Nat)} (h : ∀ sid, lookupS l sid = none) : l = [] := by
  cases l with
  | nil => rfl
  | cons p t =>
    have := h p.1
    rw [lookupS_cons, if_pos rfl] at this
    cases this

theorem absShared_nil_iff {p : Pool} {sh : Shared} (hwf : sh.WF) : absShared p sh = [] ↔ sh.ids = [] := by
  unfold absShared
  rw [List.map_eq_nil_iff, List.zip_eq_nil_iff]
  refine ⟨fun h => h.elim id fun hd => ?_, Or.inl⟩
  exact List.eq_nil_of_length_eq_zero (by rw [hwf.1, hd]; rfl)

theorem contains_false_iff {m : Mask} {c : CompId} : m.contains c = false ↔ c ∉ m := by
  simp

theorem map_fst_zip_eq {m : List Nat} {v : List Val} (h : v.length = m.length) : (m.zip v).map (·.1) = m :=
  List.map_fst_zip (Nat.le_of_eq h.symm)

theorem compSet_of_rel {ent : SEnt} {pm : Mask} {vals : List Val} (h : ent.comps = pm.zip vals)
    (hl : vals.length = pm.length) : compSet ent = pm := by
  unfold compSet; rw [h]; exact map_fst_zip_eq hl

theorem zip_eq_map : ∀ {m : List Nat} {vals : List Val}, m.Nodup → vals.length = m.length →
    m.zip vals = m.map (fun x => (x, vals.getD (m.idxOf x) none))
  | [], _, _, _ => rfl
  | a :: t, [], _, h => nomatch h
  | a :: t, x :: xs, hn, hl => by
    have hn' := List.nodup_cons.mp hn
    rw [List.zip_cons_cons, List.map_cons, List.idxOf_cons_self, zip_eq_map hn'.2 (Nat.succ.inj hl)]
    refine congrArg _ (List.map_congr_left fun y hy => ?_)
    rw [List.idxOf_cons, beq_false_of_ne fun (e : a = y) => hn'.1 (e ▸ hy)]
    rfl

theorem find_zip_some {m : List Nat} {vals : List Val} (hl : vals.length = m.length) {x : Nat} (hx : x ∈ m) :
    (m.zip vals).find? (·.1 == x) = some (x, vals.getD (m.idxOf x) none) := by
  induction m generalizing vals with
  | nil => cases hx
  | cons a t ih =>
    cases vals with
    | nil => cases hl
    | cons v vs =>
      rw [List.zip_cons_cons, List.find?_cons, List.idxOf_cons]
      by_cases hax : a = x
      · rw [hax, beq_self_eq_true]; rfl
      · rw [beq_false_of_ne hax]
        exact ih (Nat.succ.inj hl) ((List.mem_cons.mp hx).resolve_left (Ne.symm hax))

theorem find_zip_none {m : List Nat} {vals : List Val} {x : Nat} (hx : x ∉ m) :
    (m.zip vals).find? (·.1 == x) = none :=
  List.find?_eq_none.mpr fun _ hp e => hx (beq_iff_eq.mp e ▸ (List.of_mem_zip hp).1)

theorem find_zip (m : List Nat) (v : List Val) (h : v.length = m.length) (c : Nat) :
    ((m.zip v).find? (·.1 == c)).map (·.2) =
      (match Mask.indexOf? m c with | none => none | some ci => some (v.getD ci none)) := by
  by_cases hc : c ∈ m
  · rw [find_zip_some h hc, (indexOf?_of_mem hc).1]; rfl
  · rw [find_zip_none hc, Mask.indexOf?_eq_none.mpr hc]; rfl

theorem zip_eq_rebuild {tm : Mask} {vals : List Val} (hn : tm.Nodup) (hl : vals.length = tm.length)
    (old given : List (CompId × Val))
    (h : ∀ x ∈ tm, rebuildEntry info old given x = (x, vals.getD (tm.idxOf x) none)) :
    tm.zip vals = rebuild info old tm given := by
  rw [zip_eq_map hn hl, rebuild_eq]
  apply List.map_congr_left
  intro x hx
  exact (h x hx).symm

theorem rebuildEntry_zip_filter (pm : Mask) (pvals : List Val) (hl : pvals.length = pm.length) (f : CompId → Bool)
    (given : List (CompId × Val)) (x : CompId) :
    rebuildEntry info ((pm.zip pvals).filter (fun p => f p.1)) given x =
      if x ∈ pm ∧ f x = true then (x, pvals.getD (pm.idxOf x) none)
      else match given.find? (·.1 == x) with
        | some p => p
        | none => (x, defaultVal info x) := by
  unfold rebuildEntry
  rw [find?_filter_key]
  by_cases hk : x ∈ pm ∧ f x = true
  · rw [if_pos hk.2, if_pos hk, find_zip_some hl hk.1]
  · have : (if f x = true then (pm.zip pvals).find? (·.1 == x) else none) = none := by
      by_cases hf : f x = true
      · rw [if_pos hf, find_zip_none (fun hx => hk ⟨hx, hf⟩)]
      · rw [if_neg hf]
    rw [if_neg hk, this]
    rfl

theorem rebuildEntry_zip (pm : Mask) (pvals : List Val) (hl : pvals.length = pm.length) (given : List (CompId × Val))
    (x : CompId) :
    rebuildEntry info (pm.zip pvals) given x =
      if x ∈ pm then (x, pvals.getD (pm.idxOf x) none)
      else match given.find? (·.1 == x) with
        | some p => p
        | none => (x, defaultVal info x) := by
  simpa only [List.filter_eq_self.mpr fun _ _ => rfl, and_true] using
    rebuildEntry_zip_filter info pm pvals hl (fun _ => true) given x

theorem given_find (adds : List (CompId × Option Nat)) (x : CompId) :
    (adds.map (fun p => (p.1, storedVal info p.1 p.2))).find? (·.1 == x) =
      (adds.find? (·.1 == x)).map (fun p => (p.1, storedVal info p.1 p.2)) :=
  find?_map_fst (fun p => (p.1, storedVal info p.1 p.2)) (fun _ => rfl) adds x

/-- the value a moved row holds for a component of the target mask: carried over, else raw when a constructor argument
follows, else default-constructed -/
theorem carry_getD (tm pm : Mask) (prow : Row) (skip : Mask) (x : CompId) (hx : x ∈ tm) :
    (carry info tm pm prow skip).getD (tm.idxOf x) none =
      if x ∈ pm then prow.vals.getD (pm.idxOf x) none
      else if skip.contains x then (match (info x).fixed with | some v => some v | none => none)
      else defaultVal info x := by
  rw [carry_get info tm pm prow skip x hx]
  by_cases hxp : x ∈ pm
  · rw [if_pos hxp, carried_of_mem info pm prow skip x hxp]
  · rw [if_neg hxp]
    exact carried_of_not_mem info pm prow skip x hxp

theorem storedOf_none (comp : CompId) : storedOf info comp none = defaultVal info comp := by
  unfold storedOf defaultVal
  cases (info comp).fixed <;> rfl

theorem cbAbs_assign_map {iss : List Handle} {e : Handle} {k : Nat} (hk : ordOf iss e = some k) (l : List CompId) :
    (l.map (Cb.assign · e)).map (cbAbs iss) = (l.map (fun x => ((true, x, k) : SCb))).map some := by
  simp only [List.map_map]
  apply List.map_congr_left
  intro x _
  simp [cbAbs, hk]

theorem cbAbs_remove_map {iss : List Handle} {e : Handle} {k : Nat} (hk : ordOf iss e = some k) (l : List CompId) :
    (l.map (Cb.remove · e)).map (cbAbs iss) = (l.map (fun x => ((false, x, k) : SCb))).map some := by
  simp only [List.map_map]
  apply List.map_congr_left
  intro x _
  simp [cbAbs, hk]

theorem cbsAgree_append {iss : List Handle} {a b : List Cb} {x y : List SCb} (h1 : cbsAgree iss a x)
    (h2 : cbsAgree iss b y) : cbsAgree iss (a ++ b) (x ++ y) := by
  unfold cbsAgree at *
  rw [List.map_append, List.map_append]
  exact h1.append h2

theorem cbDiff_nil_left (o : Nat) (tm : Mask) :
    cbDiff info o [] tm = (tm.filter (fun c => (info c).callbacks && !([] : Mask).contains c)).map
      (fun x => ((true, x, o) : SCb)) := by
  unfold cbDiff; simp

theorem cbDiff_nil_right (k : Nat) (pm : Mask) :
    cbDiff info k pm [] = (pm.filter (fun c => (info c).callbacks && !([] : Mask).contains c)).map
      (fun x => ((false, x, k) : SCb)) := by
  unfold cbDiff; rfl

theorem filter_none_of_subset {pm tm : Mask} (hsub : ∀ x ∈ pm, x ∈ tm) :
    pm.filter (fun c => (info c).callbacks && !tm.contains c) = [] := by
  rw [List.filter_eq_nil_iff]
  intro c hc
  have := hsub c hc
  simp [this]

theorem cbDiff_self (o : Nat) (m : Mask) : cbDiff info o m m = [] := by
  unfold cbDiff
  rw [filter_none_of_subset info fun _ h => h]
  rfl

theorem cbsAgree_move {iss : List Handle} {e : Handle} {k : Nat} (hk : ordOf iss e = some k) (pm tm : Mask)
    {as : List CompId} (has : as.Perm (tm.filter (fun c => (info c).callbacks && !pm.contains c))) :
    cbsAgree iss (as.map (Cb.assign · e) ++ (pm.filter (fun c => (info c).callbacks && !tm.contains c)).map (Cb.remove · e))
      (cbDiff info k pm tm) := by
  unfold cbsAgree cbDiff
  rw [List.map_append, List.map_append, cbAbs_assign_map hk, cbAbs_remove_map hk]
  exact (((has.map _).map _).append_right _)

/-- the `afterAssign` callbacks of a move to `tm` that leaves the components `xs` (those of `skip` that are new) to
its caller: the move fires for the new components outside `skip`, the caller for those of `xs` that arrive; together,
for every new component once -/
theorem new_cbs_perm {pm tm skip : Mask} {xs : List CompId} (htn : tm.Nodup) (hxn : xs.Nodup)
    (hskip : ∀ c, c ∉ pm → (c ∈ skip ↔ c ∈ xs)) (hdisj : ∀ c ∈ xs, c ∉ pm) :
    (tm.filter (fun c => !pm.contains c && (info c).callbacks && !skip.contains c) ++
      xs.filter (fun c => tm.contains c && (info c).callbacks)).Perm
    (tm.filter (fun c => (info c).callbacks && !pm.contains c)) := by
  refine .trans ?_ (List.filter_append_perm (skip.contains ·) (tm.filter fun c => (info c).callbacks && !pm.contains c))
  refine List.perm_append_comm.trans (.append ?_ (.of_eq ?_))
  · rw [List.perm_ext_iff_of_nodup (hxn.sublist List.filter_sublist)
      ((htn.sublist List.filter_sublist).sublist List.filter_sublist)]
    intro c
    simp only [List.mem_filter, Bool.and_eq_true, List.contains_iff_mem, Bool.not_eq_true', contains_false_iff]
    exact ⟨fun ⟨hc, ht, hcb⟩ => ⟨⟨ht, hcb, hdisj c hc⟩, (hskip c (hdisj c hc)).mpr hc⟩,
      fun ⟨⟨ht, hcb, hp⟩, hs⟩ => ⟨(hskip c hp).mp hs, ht, hcb⟩⟩
  · rw [List.filter_filter]
    exact List.filter_congr fun c _ => by
      cases pm.contains c <;> cases (info c).callbacks <;> cases skip.contains c <;> rfl

theorem value_inj {wid : Nat} {a b : Handle} (ha : HRange wid a) (hb : HRange wid b) (h : a.value = b.value) : a = b := by
  obtain ⟨ai, av, aw⟩ := a
  obtain ⟨bi, bv, bw⟩ := b
  obtain ⟨ha1, rfl⟩ := ha
  obtain ⟨hb1, rfl⟩ := hb
  simp only [Handle.value] at h ha1 hb1
  have : ai = bi ∧ av = bv := by omega
  rw [this.1, this.2]

theorem mem_insertSorted_imp {l : List Handle} {h y : Handle} (hy : y ∈ insertSorted l h) : y = h ∨ y ∈ l := by
  induction l with
  | nil => exact Or.inl (List.mem_singleton.mp hy)
  | cons b u ih =>
    unfold insertSorted at hy
    split at hy
    · exact List.mem_cons.mp hy
    · split at hy
      · exact Or.inr hy
      · exact (List.mem_cons.mp hy).elim (fun e => Or.inr (e ▸ List.mem_cons_self ..))
          fun e => (ih e).imp_right (List.mem_cons_of_mem _)

theorem mem_insertSorted {wid : Nat} {l : List Handle} {h : Handle} (hl : ∀ x ∈ l, HRange wid x) (hh : HRange wid h)
    (x : Handle) :
    x ∈ insertSorted l h ↔ x = h ∨ x ∈ l := by
  induction l with
  | nil => exact List.mem_singleton.trans (or_iff_left (List.not_mem_nil)).symm
  | cons a t ih =>
    unfold insertSorted
    split
    · exact List.mem_cons
    · split
      · rename_i h2
        rw [value_inj hh (hl a (List.mem_cons_self ..)) h2]
        exact (or_iff_right_of_imp fun e => e ▸ List.mem_cons_self ..).symm
      · rw [List.mem_cons, ih fun y hy => hl y (List.mem_cons_of_mem _ hy), List.mem_cons]
        exact or_left_comm

theorem sorted_insertSorted {l : List Handle} (h : Handle) (hs : l.Pairwise (fun a b => a.value < b.value)) :
    (insertSorted l h).Pairwise (fun a b => a.value < b.value) := by
  induction l with
  | nil => exact List.pairwise_singleton _ _
  | cons a t ih =>
    have hs' := List.pairwise_cons.mp hs
    unfold insertSorted
    split
    · rename_i h1
      exact List.pairwise_cons.mpr ⟨fun y hy => (List.mem_cons.mp hy).elim (· ▸ h1) fun hy' =>
        Nat.lt_trans h1 (hs'.1 y hy'), hs⟩
    · split
      · exact hs
      · rename_i h1 h2
        refine List.pairwise_cons.mpr ⟨fun y hy => ?_, ih hs'.2⟩
        rcases mem_insertSorted_imp hy with rfl | hy'
        · exact Nat.lt_of_le_of_ne (Nat.le_of_not_lt h1) (Ne.symm h2)
        · exact hs'.1 y hy'

theorem mem_insertNat (l : List Nat) (k x : Nat) : x ∈ insertNat l k ↔ x = k ∨ x ∈ l := by
  unfold insertNat
  split
  · rename_i h
    exact (or_iff_right_of_imp fun e => e ▸ List.contains_iff_mem.mp h).symm
  · rw [List.mem_append, List.mem_singleton]; exact or_comm

theorem nodup_insertNat {l : List Nat} (h : l.Nodup) (k : Nat) : (insertNat l k).Nodup := by
  unfold insertNat
  split
  · exact h
  · rename_i hc
    exact List.nodup_append.mpr ⟨h, List.pairwise_singleton _ _, fun a ha b hb e =>
      hc (List.contains_iff_mem.mpr (List.mem_singleton.mp hb ▸ e ▸ ha))⟩

end Mustache.Proofs.Refine
