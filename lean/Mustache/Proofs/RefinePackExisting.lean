import Mustache.Proofs.RefinePackTools
/-!
# Refinement, the flush: a pack on an existing entity (no creation)

Three cases: the target is not alive when the pack is applied (skipped on both sides), the pack destroys it
(`destroyNowU_valid_refines`), or it is alive at the end (one move, `moved_inv'` / `moved_rel`).
-/
namespace Mustache.Proofs.Refine
open Mustache.Model Mustache.Spec
open Mustache.Proofs.IdTable (tabOf Ghost TInv)
open Mustache.Proofs.Rows

variable (info : CompId → CompInfo)

theorem specFold_skip (S : WS) (o : Option Nat) (hdead : S.isAlive o = false) :
    ∀ (body : List Cmd) (scbs : List SCb), (∀ c ∈ body, crH c = none) →
      specFold info (S, scbs) (body.map (specCmdRef o)) = (S, scbs)
  | [], _, _ => rfl
  | c :: rest, scbs, hall => by
    have hnc := hall c (by simp)
    have hstep : S.applyCmd info (specCmdRef o c) = (S, []) := by
      cases o with
      | none => cases c <;> first | rfl | cases hnc
      | some k =>
        have hal : S.alive k = none := by
          cases h : S.alive k with
          | none => rfl
          | some x => simp [WS.isAlive, h] at hdead
        rw [specCmdRef_some k c hnc]
        exact applyCmd_dead info hal c hnc
    simp only [List.map_cons, specFold_cons, hstep, List.append_nil]
    exact specFold_skip S o hdead rest scbs (fun c' hc' => hall c' (by simp [hc']))

theorem Moved.rfl' {w : WM} (hok : RowsOK w) {e : Handle} {pi i : Nat} {prow : Row} (hloc : w.locOf e = ⟨some pi, i⟩)
    (hrow : (w.arch pi).rows[i]? = some prow) (hent : prow.ent = e) : Moved w w e pi prow.vals := by
  refine ⟨Step.refl hok _, SameTable.refl w, ⟨i, hloc, ?_⟩⟩
  rw [hrow]
  cases prow
  simp only at hent
  subst hent
  rfl

theorem allKeys_packTarget {w : WM} {iss : List Handle} (hi : Inv ⟨w, iss⟩) (e : Handle) (isCreate : Bool)
    (initial : Mask) (sh : Shared) (hshin : SharedIn w.pool sh) (p : PackSt) :
    AllKeys (fun _ s => SharedIn w.pool s) (packTarget e isCreate initial sh w p).1 := by
  rcases packTarget_cases e isCreate initial sh w p with ⟨_, _, pi, _, ht⟩ | ht
  · rw [ht]; exact hi.shared
  · rw [ht]; exact AllKeys.getArch (P := fun _ s => SharedIn w.pool s) (w := w) hi.shared p.final sh hshin

section
variable {w : WM} {iss : List Handle} {s : WS} (hi : Inv ⟨w, iss⟩) (hb : Bounds ⟨w, iss⟩) (hr : Rel ⟨w, iss⟩ s)
  {e : Handle} {k pi i : Nat} {prow : Row} {ent : SEnt} (ha : AliveAt ⟨w, iss⟩ s e k pi i prow ent)
include hi ha

/-- the single move of a pack on an existing entity; the target is the entity's own archetype when the component set
did not change (the archetype may predate a dependency declaration: no lookup, no move, no event), else the archetype
of the final (closed) set (`getArch_move_cases`) -/
theorem packMoved_existing (pf : PackSt) (hfok : MaskOk pf.final)
    (hfcl0 : pf.final = (w.arch pi).mask ∨ ClosedUnder w.deps pf.final) :
    ∃ W0 ti W1 cbs1 vals1,
      packTarget e false (w.arch pi).mask (w.arch pi).shared w pf = (W0, ti) ∧
      packMoved info e false (w.arch pi).mask (w.arch pi).shared w pf = (W1, cbs1) ∧
      Moved w W1 e ti vals1 ∧ KeysSame W0 W1 ∧ (W1.arch ti).mask = pf.final ∧
      (W1.arch ti).shared.data = (w.arch pi).shared.data ∧ CarriedRow info ((w.arch pi).mask.zip prow.vals) pf vals1 ∧
      cbs1.map (cbAbs iss) = (moveEvs info k pf.final (w.arch pi).mask (Mask.ofList (pf.src.map (·.1)))).map some := by
  have hplen : prow.vals.length = (w.arch pi).mask.length := ha.vals hi
  by_cases hfin : pf.final = (w.arch pi).mask
  · have hT := packTarget_stay e (w.arch pi).mask (w.arch pi).shared w pf pi hfin.symm ha.locArch
    rw [hfin, moveEvs_self]
    exact ⟨w, pi, w, [], prow.vals, hT, packMoved_stay info e _ _ w pf pi ha.locArch hT,
      Moved.rfl' hi.rows ha.loc ha.row ha.own, KeysSame.refl w, rfl, rfl,
      ⟨hfin ▸ hplen, fun x hx _ => by rw [find_zip_some hplen (hfin ▸ hx), hfin]⟩, rfl⟩
  · have hcm : closedMask w.deps pf.final = pf.final := closedMask_eq_self hfok (hfcl0.resolve_left hfin)
    have hkey := getArch_key w pf.final (w.arch pi).shared
    rcases getArch_move_cases info hi ha pf.final hfok (w.arch pi).shared (ha.sharedIn hi)
      (Mask.ofList (pf.src.map (·.1))) with ⟨_, _, hcl, _⟩ | ⟨w2, cbs, hsome, hmv, hks, _, hcbs⟩
    · exact absurd (hcm.symm.trans hcl) hfin
    · rw [hcm] at hmv hcbs hkey
      refine ⟨_, _, w2, cbs, _, packTarget_ne e false _ _ w pf (Ne.symm hfin), ?_, hmv, hks,
        by rw [(hks.key _).1]; exact hkey.1, by rw [(hks.key _).2]; exact hkey.2,
        ⟨carry_length info _ _ _ _, fun x hx hns => ?_⟩, ?_⟩
      · rw [packMoved_changed info e _ _ w pf pi (Ne.symm hfin) ha.locArch, ha.locIdx, hsome]
      · rw [carry_getD info _ _ _ _ x hx]
        by_cases hxp : x ∈ (w.arch pi).mask
        · rw [if_pos hxp, find_zip_some hplen hxp]
        · rw [if_neg hxp, find_zip_none hxp, contains_false_iff.mpr hns]; rfl
      · rw [hcbs, List.map_append, moveEvs, List.map_append, cbAbs_assign_map ha.ord, cbAbs_remove_map ha.ord]

include hb hr

/-- `destroyNow` of the alive entity, then the marks, against a spec state where the ordinal is dead and the events
balance against the empty set -/
theorem existing_dead (mk : Bool) {S' : WS} {scbs : List SCb}
    (hal : S'.alive k = none) (hbal : CbBal info (w.arch pi).mask k [] [] scbs) (hfr : FrameK s S' k)
    (hmk : S'.marked = if mk then insertNat s.marked k else s.marked) :
    Inv ⟨{ (w.destroyNowU info e).1 with marked := if mk then insertSorted w.marked e else w.marked }, iss⟩ ∧
    Rel ⟨{ (w.destroyNowU info e).1 with marked := if mk then insertSorted w.marked e else w.marked }, iss⟩ S' ∧
    cbsAgreeNet iss (w.destroyNowU info e).2 scbs := by
  have hctl := destroyNowU_ctl info w e
  have hcore := destroyNowU_valid_refines info (c := ⟨w, iss⟩) hi hb hr ha.issued ha.valid
  have hm := pack_marked mk s.buffers hcore.1 hcore.2 ha.issued
    (by rw [hctl.worldId]; exact valid_range (c := ⟨w, iss⟩) hb ha.valid)
    (by rw [hctl.buffers]; exact valid_not_pending (c := ⟨w, iss⟩) hi hb ha.valid) hfr hal hmk
  rw [destroyNowU_marked] at hm
  refine ⟨hm.1, rel_same_buffers hm.2 hfr.buffers, cbsAgreeNet_of (mc := moveEvs info k [] (w.arch pi).mask []) ?_
    (pack_agree_dead info hbal (maskOk_nodup (ha.maskOk hi)))⟩
  rw [destroyNowU_cbs info ha.valid ha.loc ha.row, ha.own, cbAbs_remove_map ha.ord]
  rfl

/-- one move, the two value loops, then the marks, against a spec state whose record of the ordinal satisfies the
pack invariant -/
theorem existing_alive (pf : PackSt) (mk : Bool) {S' : WS} {scbs : List SCb}
    {entn : SEnt} (haln : S'.alive k = some entn) (hshn : entn.shared = ent.shared)
    (hpinv : PInv info w.deps ent.comps (w.arch pi).mask k pf entn scbs) (hfr : FrameK s S' k)
    (hmk : S'.marked = if mk then insertNat s.marked k else s.marked) :
    Inv ⟨{ (packFinish info e false (w.arch pi).mask (w.arch pi).shared (w, pf, [])).1 with
      marked := if mk then insertSorted w.marked e else w.marked }, iss⟩ ∧
    Rel ⟨{ (packFinish info e false (w.arch pi).mask (w.arch pi).shared (w, pf, [])).1 with
      marked := if mk then insertSorted w.marked e else w.marked }, iss⟩ S' ∧
    cbsAgreeNet iss (packFinish info e false (w.arch pi).mask (w.arch pi).shared (w, pf, [])).2 scbs := by
  have hplen : prow.vals.length = (w.arch pi).mask.length := ha.vals hi
  have hshin := ha.sharedIn hi
  have hcomps : ent.comps = (w.arch pi).mask.zip prow.vals := ha.rel.1
  have hic : ∀ x, x ∈ ent.comps.map (·.1) ↔ x ∈ (w.arch pi).mask := fun x => by rw [hcomps, map_fst_zip_eq hplen]
  obtain ⟨W0, ti, W1, cbs1, vals1, hpt, hpm, hm1, hks1, hmask1, hdata1, hrow1, hcb1⟩ :=
    packMoved_existing info hi ha pf hpinv.sorted hpinv.closedF
  obtain ⟨vals, hmX, hksX, hrow, hcb⟩ := hpinv.finish info ha.ord false (w.arch pi).mask hic rfl
    (maskOk_nodup (ha.maskOk hi)) (w.arch pi).shared w hpt hpm hm1 hmask1 (hcomps ▸ hrow1) hcb1
  have hAK := allKeys_packTarget hi e false (w.arch pi).mask (w.arch pi).shared hshin pf
  rw [hpt] at hAK
  generalize (packFinish info e false (w.arch pi).mask (w.arch pi).shared (w, pf, [])).1 = X at *
  have hinvX : Inv ⟨X, iss⟩ := moved_inv' hi ha.valid hAK hmX (hks1.trans hksX)
  have htilt : ti < X.archs.length := by rcases hmX.here with ⟨n, _, hr'⟩; exact lt_of_row hr'
  have hshX : SharedIn w.pool (X.arch ti).shared := by
    have := hinvX.shared _ (arch_mem_archs htilt); rw [← hmX.same.pool]; exact this
  have hrelX : Rel ⟨X, iss⟩ (s.setEnt k (some entn)) :=
    moved_rel (sh := (w.arch pi).shared) hi hr ha.issued ha.valid hshin hmX hshX (by rw [(hksX.key ti).2]; exact hdata1)
      entn (by rw [(hksX.key ti).1, hmask1]; exact hrow) (fun sid => by rw [hshn]; exact ha.rel.2 sid)
  have hvX : X.isValid e = true := (hmX.same.isValid _).trans ha.valid
  have hbX : Bounds ⟨X, iss⟩ := ⟨by show X.slots.length < _; rw [hmX.same.slots]; exact hb.inRange, hb.noWrap⟩
  have hm := pack_marked mk s.buffers hinvX hrelX ha.issued (valid_range (c := ⟨X, iss⟩) hbX hvX)
    (valid_not_pending (c := ⟨X, iss⟩) hinvX hbX hvX) hfr haln hmk
  rw [← hmX.same.marked]
  exact ⟨hm.1, rel_same_buffers hm.2 hfr.buffers, hcb⟩

end

theorem pack_existing_refines {w : WM} {iss : List Handle} {s : WS} (hi : Inv ⟨w, iss⟩) (hb : Bounds ⟨w, iss⟩)
    (hr : Rel ⟨w, iss⟩ s) (first : Cmd) (rest : List Cmd) (hfc : isCreateCmd first = false)
    (hall : ∀ c ∈ first :: rest, c.entity = first.entity ∧ crH c = none) :
    PackRefines info w iss s (first :: rest) ((first :: rest).map (specCmdRef (ordOf iss first.entity))) := by
  unfold PackRefines
  rw [applyPack_eq, packStart_other w first hfc]
  cases hv : w.isValid first.entity with
  | false =>
    -- the target is not alive: skipped on both sides
    rw [specFold_skip info s _ (by rw [← valid_refines (c := ⟨w, iss⟩) hi hb hr]; exact hv) _ _ (fun c hc => (hall c hc).2)]
    exact ⟨hi, hr, cbsAgreeNet_nil iss⟩
  | true =>
    obtain ⟨k, pi, i, prow, ent, ha⟩ := rel_alive (c := ⟨w, iss⟩) hi hb hr hv
    -- the model side: the command fold in closed form
    have hbf := bodyFold info first.entity false w (first :: rest) false { final := (w.arch pi).mask }
      (fun c hc => (hall c hc).1)
    rw [bodyState_init, Bool.false_or] at hbf
    simp only [Bool.not_true, Bool.false_eq_true, if_false, ha.loc, hfc, packInit_existing]
    rw [hbf]
    -- the spec side: the pack invariant along the same commands
    have hsp := spec_body_fold info (ic := ent.comps) (shr := ent.shared) hi.depsB s.marked (first :: rest) false
      { final := (w.arch pi).mask } s []
      (.alive ent ha.alive rfl (pinv_init_existing info ha.rel.1 (ha.vals hi) (ha.maskOk hi)))
      (by rw [hr.len]; exact (List.getElem?_eq_some_iff.mp ha.issued).1) hr.deps rfl (fun c hc => (hall c hc).2)
    rw [show ordOf iss first.entity = some k from ha.ord,
      List.map_congr_left (fun c hc => specCmdRef_some k c (hall c hc).2)]
    obtain ⟨hsp, hfr, hmk⟩ := hsp
    generalize (first :: rest).foldl (pst w.deps) { final := (w.arch pi).mask } = pf at *
    generalize markedBy w.deps { final := (w.arch pi).mask } (first :: rest) = mk at *
    generalize specFold info (s, []) ((first :: rest).map (specCmd k)) = Sr at *
    cases hsp with
    | dead hd hal hbal =>
      rw [packFinish_dead info _ _ _ _ _ _ _ hd, hd, bodyState_dead]
      exact existing_dead info hi hb hr ha mk hal hbal hfr hmk
    | alive entn haln hshn hpinv =>
      rw [hpinv.alive, bodyState_alive, packFinish_setMarked]
      exact existing_alive info hi hb hr ha pf mk haln hshn hpinv hfr hmk

end Mustache.Proofs.Refine
