import Mustache.Proofs.RefineEntity
import Mustache.Proofs.IdTableEvents
/-!
# Refinement: entities going away, unlocked: `destroyNow`, `destroy` (marking), `update()`

The model walks `marked` in the order of the packed values, the spec in the order of marking; both kill
exactly the marked entities that are still alive, and the callbacks agree as multisets.
-/
namespace Mustache.Proofs.Refine
open Mustache.Model Mustache.Spec
open Mustache.Proofs.IdTable (tabOf Ghost TInv)
open Mustache.Proofs.Rows

variable (info : CompId → CompInfo) {c : CW} {s : WS}

def wsKill (acc : WS × List SCb) (o : Nat) : WS × List SCb :=
  let (s', c) := acc.1.doDestroy info o
  (s', acc.2 ++ c)

def killEnts (ents : List (Option SEnt)) (a : List Nat) : List (Option SEnt) := a.foldl (fun e o => e.set o none) ents

def killCbs (s : WS) (o : Nat) : List SCb := (s.doDestroy info o).2

theorem set_none_of_dead {s : WS} {o : Nat} (h : s.alive o = none) : s.ents.set o none = s.ents := by
  by_cases hlt : o < s.ents.length
  · have : s.ents[o] = none := by
      rwa [WS.alive, List.getD_eq_getElem?_getD, List.getElem?_eq_getElem hlt] at h
    rw [← this, List.set_getElem_self]
  · exact List.set_eq_of_length_le (Nat.le_of_not_lt hlt)

theorem doDestroy_eq (s : WS) (o : Nat) :
    s.doDestroy info o = ({ s with ents := s.ents.set o none }, killCbs info s o) := by
  unfold killCbs WS.doDestroy
  cases ha : s.alive o with
  | some e => rfl
  | none => simp only [set_none_of_dead ha]

theorem killCbs_congr {s s' : WS} {o : Nat} (h : s'.alive o = s.alive o) : killCbs info s' o = killCbs info s o := by
  unfold killCbs WS.doDestroy
  rw [h]
  cases s.alive o <;> rfl

theorem alive_set_ne (s : WS) (o o' : Nat) (hne : o' ≠ o) :
    WS.alive { s with ents := s.ents.set o none } o' = s.alive o' := by
  unfold WS.alive
  simp only [List.getD_eq_getElem?_getD, List.getElem?_set_ne (Ne.symm hne)]

theorem wsKill_fold : ∀ (a : List Nat) (s : WS) (cbs0 : List SCb), a.Nodup →
    a.foldl (wsKill info) (s, cbs0) = ({ s with ents := killEnts s.ents a }, cbs0 ++ a.flatMap (killCbs info s))
  | [], s, cbs0, _ => by simp [killEnts]
  | o :: rest, s, cbs0, hn => by
    have hn' := List.nodup_cons.mp hn
    rw [List.foldl_cons]
    have h1 : wsKill info (s, cbs0) o = ({ s with ents := s.ents.set o none }, cbs0 ++ killCbs info s o) := by
      unfold wsKill; rw [doDestroy_eq]
    rw [h1, wsKill_fold rest _ _ hn'.2]
    refine Prod.ext ?_ ?_
    · simp only [killEnts, List.foldl_cons]
    · simp only [List.flatMap_cons, List.append_assoc]
      congr 2
      apply flatMap_congr'
      intro o' ho'
      exact killCbs_congr info (alive_set_ne s o o' (fun e => hn'.1 (e ▸ ho')))

theorem killEnts_get (ents : List (Option SEnt)) (a : List Nat) (i : Nat) :
    (killEnts ents a)[i]? = if i ∈ a then (ents[i]?).map (fun _ => none) else ents[i]? := by
  induction a generalizing ents with
  | nil => simp [killEnts]
  | cons o rest ih =>
    simp only [killEnts, List.foldl_cons] at ih ⊢
    rw [ih, List.getElem?_set]
    by_cases hio : o = i
    · subst hio
      by_cases hr : o ∈ rest <;> by_cases hlt : o < ents.length <;> simp [hr, hlt]
    · have : i ∈ o :: rest ↔ i ∈ rest := by simp [Ne.symm hio]
      by_cases hr : i ∈ rest <;> simp [hr, hio, this]

/-- only the alive members of the list matter -/
theorem killEnts_get_alive (s : WS) (a : List Nat) (i : Nat) :
    (killEnts s.ents a)[i]? =
      if i ∈ a ∧ (s.alive i).isSome = true then (s.ents[i]?).map (fun _ => none) else s.ents[i]? := by
  rw [killEnts_get]
  by_cases hm : i ∈ a
  · rw [if_pos hm]
    by_cases h : (s.alive i).isSome = true
    · rw [if_pos ⟨hm, h⟩]
    · rw [if_neg fun hh => h hh.2]
      rw [WS.alive, List.getD_eq_getElem?_getD] at h
      cases hg : s.ents[i]? with
      | none => rfl
      | some x => cases x with
        | none => rfl
        | some e => rw [hg] at h; exact absurd rfl h
  · rw [if_neg hm, if_neg fun hh => hm hh.1]

theorem killEnts_length (ents : List (Option SEnt)) (a : List Nat) : (killEnts ents a).length = ents.length := by
  induction a generalizing ents with
  | nil => rfl
  | cons o rest ih => simp only [killEnts, List.foldl_cons] at ih ⊢; rw [ih, List.length_set]

theorem alive_kill (s : WS) (L : List Nat) (o : Nat) :
    WS.alive { s with ents := killEnts s.ents L } o = if o ∈ L then none else s.alive o := by
  unfold WS.alive
  simp only [List.getD_eq_getElem?_getD, killEnts_get]
  by_cases h : o ∈ L
  · simp only [h, if_true]
    cases s.ents[o]? <;> rfl
  · simp only [h, if_false]

/-- two duplicate-free lists with the same ALIVE members kill the same entities and fire the same callbacks -/
theorem wsKill_fold_perm (s : WS) (a a' : List Nat) (ha : a.Nodup) (ha' : a'.Nodup)
    (hmem : ∀ o, (o ∈ a ∧ (s.alive o).isSome = true) ↔ (o ∈ a' ∧ (s.alive o).isSome = true)) (cbs0 : List SCb) :
    (a.foldl (wsKill info) (s, cbs0)).1 = (a'.foldl (wsKill info) (s, cbs0)).1 ∧
    ((a.foldl (wsKill info) (s, cbs0)).2).Perm ((a'.foldl (wsKill info) (s, cbs0)).2) := by
  rw [wsKill_fold info a s cbs0 ha, wsKill_fold info a' s cbs0 ha']
  constructor
  · simp only
    congr 1
    apply List.ext_getElem?
    intro i
    rw [killEnts_get_alive, killEnts_get_alive, ite_cond_congr (propext (hmem i))]
  · simp only
    apply List.Perm.append_left
    have hdead : ∀ o, ¬ (s.alive o).isSome = true → killCbs info s o = [] := by
      intro o ho
      unfold killCbs WS.doDestroy
      cases h : s.alive o with
      | none => rfl
      | some e => rw [h] at ho; simp at ho
    have hfil : ∀ l : List Nat, l.flatMap (killCbs info s) = (l.filter (fun o => (s.alive o).isSome)).flatMap (killCbs info s) := by
      intro l
      induction l with
      | nil => rfl
      | cons o rest ih =>
        by_cases ho : (s.alive o).isSome = true
        · simp only [List.flatMap_cons, List.filter_cons, ho, if_true, ih]
        · simp only [List.flatMap_cons, List.filter_cons, ho, Bool.false_eq_true, if_false, hdead o ho, List.nil_append, ih]
    rw [hfil a, hfil a']
    apply List.Perm.flatMap_right
    rw [List.perm_ext_iff_of_nodup (ha.sublist List.filter_sublist) (ha'.sublist List.filter_sublist)]
    intro o
    simp only [List.mem_filter]
    exact hmem o

theorem kill_rel (hi : Inv c) (hr : Rel c s) {w' : WM} {hs : List Handle} {L : List Nat}
    (hk : KeepsCtl c.w w') (hrows : RowsOK w') (hlive : LiveInv w')
    (hsel : ∀ o h, c.issued[o]? = some h → (o ∈ L ↔ h ∈ hs))
    (hval : ∀ h, w'.isValid h = true ↔ (c.w.isValid h = true ∧ h ∉ hs))
    (habs : ∀ h, h ∉ hs → absEnt w' h = absEnt c.w h) :
    Rel ⟨w', c.issued⟩ { s with ents := killEnts s.ents L } := by
  refine rel_of_ents hi hr hk hrows hlive (killEnts_length _ _) (fun o h ho => ?_) (fun h _ hv _ => ((hval h).mp hv).1)
  show optRel (WS.alive { s with ents := killEnts s.ents L } o) _
  rw [alive_kill]
  by_cases hoL : o ∈ L
  · rw [if_pos hoL, absEnt_invalid]
    · trivial
    · cases hv : w'.isValid h with
      | false => rfl
      | true => exact absurd ((hsel o h ho).mp hoL) ((hval h).mp hv).2
  · rw [if_neg hoL, habs h (fun hh => hoL ((hsel o h ho).mpr hh))]
    exact hr.ents o h ho

theorem release_marked (w : WM) (h : Handle) : (w.release h).marked = w.marked := by
  unfold WM.release
  split <;> rfl

theorem destroyNowU_marked (w : WM) (h : Handle) : (w.destroyNowU info h).1.marked = w.marked := by
  rw [destroyNowU_fst]
  split
  · rw [release_marked]
    cases (w.locOf h).arch with
    | none => rfl
    | some ai => exact (archRemove_sameTable info w ai (w.locOf h).idx []).marked
  · rfl

theorem destroyNowU_slots_length (w : WM) (h : Handle) : (w.destroyNowU info h).1.slots.length = w.slots.length := by
  have := congrArg (fun t : Tab => t.slots.length) (Mustache.Proofs.IdTable.destroyNowU_tab info w h)
  exact this.trans (Mustache.Proofs.IdTable.destroyNow_length _ _)

theorem destroyNowU_valid_refines (hi : Inv c) (hb : Bounds c) (hr : Rel c s) {e : Handle} {k : Nat}
    (hk : c.issued[k]? = some e) (hev : c.w.isValid e = true) :
    Inv ⟨(c.w.destroyNowU info e).1, c.issued⟩ ∧ Rel ⟨(c.w.destroyNowU info e).1, c.issued⟩ (s.setEnt k none) := by
  obtain ⟨w, iss⟩ := c
  have hev2 : w.isValid e = true := hev
  rcases hi.tinv with ⟨g, tinv, hiss, hpend⟩
  have hle : (tabOf w).slots.length ≤ 2^30 - 1 := Nat.le_of_lt hb.inRange
  have htinv' : TInv (tabOf (w.destroyNowU info e).1) (g.destroy e) := by
    rw [Mustache.Proofs.IdTable.destroyNowU_tab]
    exact Mustache.Proofs.IdTable.destroyNow_inv tinv hle e (fun _ => hb.noWrap e (List.mem_of_getElem? hk))
  rcases hi.live.live_in e hev2 with ⟨ai, i, hrow⟩
  have hs := destroyNowU_step info hi.rows e (located_of_row hi.rows hrow)
  have hctl := destroyNowU_ctl info w e
  have hkeep := hctl.keeps (destroyNowU_marked info w e)
  have hslen := destroyNowU_slots_length info w e
  have hlive' := liveInv_destroyNowU info hi.rows hi.live e (freeHeadNot_of_table (freeHeadFree_of_tinv tinv) hev2)
  have hinv' : Inv ⟨(w.destroyNowU info e).1, iss⟩ :=
    inv_of_keepsCtl (c := ⟨w, iss⟩) hi hkeep (fun _ h => h) ⟨g.destroy e, htinv', hiss, hpend⟩ hs.ok (hs.keys hi.keys)
      hlive' (hctl.poolInv hi.pool) (sharedPooled_of_keysSame hi.shared (keysSame_destroyNowU info w e) hctl.pool)
      (by rw [hslen]; exact Nat.le_trans hi.locsCover hs.llen)
  -- validity after the step, through the ghost
  have hval : ∀ h, (w.destroyNowU info e).1.isValid h = true ↔ (w.isValid h = true ∧ h ∉ [e]) := fun h => by
    rw [valid_iff_ghost htinv' (by rw [hslen]; exact hle) h, Mustache.Proofs.IdTable.mem_destroy,
      valid_iff_ghost tinv hle h, List.mem_singleton]
  refine ⟨hinv', kill_rel (c := ⟨w, iss⟩) (L := [k]) hi hr hkeep hs.ok hlive' (fun o h ho => ?_) hval (fun h hh => ?_)⟩
  · rw [List.mem_singleton, List.mem_singleton]
    constructor
    · rintro rfl; exact Option.some.inj (ho.symm.trans hk)
    · rintro rfl
      exact (List.getElem?_inj (List.getElem?_eq_some_iff.mp ho).1 (issued_nodup (c := ⟨w, iss⟩) hi)).mp (ho.trans hk.symm)
  · have hne : h ≠ e := fun he => hh (List.mem_singleton.mpr he)
    exact absEnt_others (c := ⟨w, iss⟩) hi hev hs.frame hkeep.pool
      (fun x hx => by rw [Bool.eq_iff_iff, hval x]; simp [hx]) hne

theorem destroyNowU_cbs {w : WM} {e : Handle} {pi i : Nat} {prow : Row} (hv : w.isValid e = true)
    (hloc : w.locOf e = ⟨some pi, i⟩) (hrow : (w.arch pi).rows[i]? = some prow) :
    (w.destroyNowU info e).2 =
      ((w.arch pi).mask.filter (fun c => (info c).callbacks && !([] : Mask).contains c)).map (Cb.remove · prow.ent) := by
  unfold WM.destroyNowU
  simp only [hv, Bool.not_true, Bool.false_eq_true, if_false, hloc]
  exact archRemove_cbs info w pi i [] prow hrow

/-- the spec's `destroyNow` of a handle read as an ordinal (nothing, when it has none) -/
def specKill (s : WS) : Option Nat → WS × List SCb
  | some k => s.doDestroy info k
  | none => (s, [])

theorem destroyNowU_refines (hi : Inv c) (hb : Bounds c) (hr : Rel c s) (e : Handle) :
    Inv ⟨(c.w.destroyNowU info e).1, c.issued⟩ ∧
    Rel ⟨(c.w.destroyNowU info e).1, c.issued⟩ (specKill info s (ordOf c.issued e)).1 ∧
    cbsAgree c.issued (c.w.destroyNowU info e).2 (specKill info s (ordOf c.issued e)).2 := by
  cases hv : c.w.isValid e with
  | false =>
    have hw : c.w.destroyNowU info e = (c.w, []) := by rw [WM.destroyNowU, if_pos (by simp [hv])]
    have hs : specKill info s (ordOf c.issued e) = (s, []) := by
      rcases isAlive_false (rel_dead hr hv) with ho | ⟨k, ho, hal⟩ <;> rw [ho]
      · rfl
      · simp only [specKill, WS.doDestroy, hal]
    rw [hw, hs]
    exact ⟨hi, hr, List.Perm.nil⟩
  | true =>
    rcases rel_alive hi hb hr hv with ⟨k, pi, i, prow, ent, ha⟩
    have hcore := destroyNowU_valid_refines info hi hb hr ha.issued hv
    have hs : specKill info s (ordOf c.issued e) = (s.setEnt k none, cbDiff info k (c.w.arch pi).mask []) := by
      rw [ha.ord]
      simp only [specKill, WS.doDestroy, ha.alive, ha.compSet hi]
    rw [hs]
    refine ⟨hcore.1, hcore.2, ?_⟩
    unfold cbsAgree
    rw [destroyNowU_cbs info hv ha.loc ha.row, ha.own, cbAbs_remove_map ha.ord, cbDiff_nil_right]

theorem destroyNow_unlocked_refines (hi : Inv c) (hb : Bounds c) (hr : Rel c s)
    (hl : c.w.isLocked = false) (t : Nat) (e : Handle) : StepRefines info c s (.destroyNow t e) := by
  have hw : c.w.step info (.destroyNow t e) = ((c.w.destroyNowU info e).1, .ok, (c.w.destroyNowU info e).2) := by
    show ((c.w.destroyNow info t e).1, Out.ok, (c.w.destroyNow info t e).2) = _
    rw [WM.destroyNow, if_neg (by simp [hl])]
  have hs : s.step info (.destroyNow t (ordOf c.issued e)) =
      ((specKill info s (ordOf c.issued e)).1, .ok, (specKill info s (ordOf c.issued e)).2) := by
    show (if s.lockDepth > 0 then _ else _) = _
    rw [if_neg (unlocked_spec hr hl)]
    cases ordOf c.issued e <;> rfl
  have h := destroyNowU_refines info hi hb hr e
  exact StepRefines.intro info hw hs h.1 h.2.1 ⟨trivial, h.2.2⟩

theorem mark_inv {w : WM} {iss : List Handle} (hi : Inv ⟨w, iss⟩) {e : Handle} (hk : Known ⟨w, iss⟩ e)
    (hrg : HRange w.worldId e) (hnp : e ∉ createHandles w.buffers) :
    Inv ⟨{ w with marked := insertSorted w.marked e }, iss⟩ := by
  have hmem := mem_insertSorted (l := w.marked) (h := e) hi.markedRange hrg
  refine inv_set_marked hi w.deps _ hi.depsB (fun x hx => ?_) (fun x hx => ?_) (sorted_insertSorted e hi.markedSorted)
  · rcases (hmem x).mp hx with rfl | hx'
    · exact ⟨hk, hnp⟩
    · exact hi.markedKnown x hx'
  · rcases (hmem x).mp hx with rfl | hx'
    · exact hrg
    · exact hi.markedRange x hx'

/-- the ordinal joins the spec's marked list whether or not it is (still) alive: a dead ordinal there is not
observable -/
theorem mark_rel {w : WM} {iss : List Handle} {s : WS} (hi : Inv ⟨w, iss⟩) (hr : Rel ⟨w, iss⟩ s) {e : Handle} {k : Nat}
    (hk : iss[k]? = some e) (hrg : HRange w.worldId e) (hnp : e ∉ createHandles w.buffers) :
    Rel ⟨{ w with marked := insertSorted w.marked e }, iss⟩ { s with marked := insertNat s.marked k } := by
  have hmem := mem_insertSorted (l := w.marked) (h := e) hi.markedRange hrg
  have hord : ordOf iss e = some k := ordOf_unique (issued_nodup (c := ⟨w, iss⟩) hi) hk
  have hav : (s.alive k).isSome = w.isValid e := hr.alive_isSome hi.live hi.rows hk
  exact
  { hr with
    markedNodup := nodup_insertNat hr.markedNodup k
    markedLt := fun o hom => by
      rcases (mem_insertNat _ _ _).mp hom with rfl | h
      · exact hr.len ▸ (List.getElem?_eq_some_iff.mp hk).1
      · exact hr.markedLt o h
    markedOld := fun o hom h hh => by
      rcases (mem_insertNat _ _ _).mp hom with rfl | hm
      · rw [Option.some.inj ((show iss[o]? = some h from hh).symm.trans hk)]
        exact hnp
      · exact hr.markedOld o hm h hh
    marked := fun o => by
      show (o ∈ insertNat s.marked k ∧ (s.alive o).isSome = true) ↔ _
      rw [mem_insertNat]
      constructor
      · rintro ⟨rfl | hm, ha⟩
        · exact ⟨e, (hmem e).mpr (Or.inl rfl), hav ▸ ha, hord⟩
        · rcases (hr.marked o).mp ⟨hm, ha⟩ with ⟨h, hm', hv, hoo⟩
          exact ⟨h, (hmem h).mpr (Or.inr hm'), hv, hoo⟩
      · rintro ⟨h, hm, hv, hoo⟩
        rcases (hmem h).mp hm with rfl | hm'
        · cases hord.symm.trans (show ordOf iss h = some o from hoo)
          exact ⟨Or.inl rfl, hav.trans hv⟩
        · have := (hr.marked o).mpr ⟨h, hm', hv, hoo⟩
          exact ⟨Or.inr this.1, this.2⟩ }

theorem destroy_unlocked_refines (hi : Inv c) (hb : Bounds c) (hr : Rel c s)
    (hl : c.w.isLocked = false) (t : Nat) (e : Handle) : StepRefines info c s (.destroy t e) := by
  obtain ⟨w, iss⟩ := c
  have hl2 : w.isLocked = false := hl
  have hw0 : w.step info (.destroy t e) = (w.destroy t e, .ok, []) := rfl
  have hs0 : s.step info (.destroy t (ordOf iss e)) = (match ordOf iss e with
      | some k => (if (s.alive k).isSome then { s with marked := insertNat s.marked k } else s, .ok, [])
      | none => (s, .ok, [])) := by
    show (if s.lockDepth > 0 then _ else _) = _
    rw [if_neg (unlocked_spec hr hl)]
    rfl
  cases hve : w.isValid e with
  | false =>
    -- a handle that is not alive is not queued
    refine noop_refines (out := .ok) (sout := .ok) info hi hr rfl ?_ ?_ rfl trivial
    · rw [hw0, WM.destroy, if_neg (by simp [hl2]), if_neg (by simp [hve])]
    · show s.step info (.destroy t (ordOf iss e)) = _
      rw [hs0]
      rcases isAlive_false (rel_dead (c := ⟨w, iss⟩) hr hve) with ho | ⟨k, ho, hal⟩ <;> rw [ho]
      simp [hal]
  | true =>
    rcases rel_alive hi hb hr hve with ⟨k, pi, i, prow, ent, ha⟩
    have hnp : e ∉ createHandles w.buffers := by
      rw [createHandles_of_empty (hi.bufEmpty (unlocked_depth hl2))]; simp
    have hrg : HRange w.worldId e := valid_range (c := ⟨w, iss⟩) hb hve
    have hw : w.step info (.destroy t e) = ({ w with marked := insertSorted w.marked e }, .ok, []) := by
      rw [hw0, WM.destroy, if_neg (by simp [hl2]), if_pos hve]
    have hs : s.step info (.destroy t (ordOf iss e)) = ({ s with marked := insertNat s.marked k }, .ok, []) := by
      rw [hs0, ha.ord]
      simp [ha.alive]
    exact StepRefines.intro info hw hs (mark_inv hi (Or.inl (valid_issued (c := ⟨w, iss⟩) hi hb hve)) hrg hnp)
      (mark_rel hi hr ha.issued hrg hnp) (agree_ok_nil _ _ rfl)

def wmKill (acc : WM × List Cb) (h : Handle) : WM × List Cb :=
  let (w', c) := acc.1.destroyNowU info h
  (w', acc.2 ++ c)

theorem wmKill_fold_refines (iss : List Handle) : ∀ (l : List Handle) (w : WM) (s : WS) (cbs : List Cb) (scbs : List SCb),
    Inv ⟨w, iss⟩ → Bounds ⟨w, iss⟩ → Rel ⟨w, iss⟩ s → cbsAgree iss cbs scbs →
    Inv ⟨(l.foldl (wmKill info) (w, cbs)).1, iss⟩ ∧
    Rel ⟨(l.foldl (wmKill info) (w, cbs)).1, iss⟩ ((l.filterMap (ordOf iss)).foldl (wsKill info) (s, scbs)).1 ∧
    cbsAgree iss (l.foldl (wmKill info) (w, cbs)).2 ((l.filterMap (ordOf iss)).foldl (wsKill info) (s, scbs)).2
  | [], _, _, _, _, hi, _, hr, hc => ⟨hi, hr, hc⟩
  | h :: rest, w, s, cbs, scbs, hi, hb, hr, hc => by
    have h1 := destroyNowU_refines info hi hb hr h
    have hb1 : Bounds ⟨(w.destroyNowU info h).1, iss⟩ :=
      ⟨by show (w.destroyNowU info h).1.slots.length < _; rw [destroyNowU_slots_length]; exact hb.inRange, hb.noWrap⟩
    have ih := wmKill_fold_refines iss rest _ _ _ _ h1.1 hb1 h1.2.1 (cbsAgree_append hc h1.2.2)
    rw [List.filterMap_cons]
    cases ho : ordOf iss h with
    | none =>
      simp only [ho, specKill, List.append_nil] at ih
      exact ih
    | some k =>
      rw [ho] at ih
      exact ih

theorem update_unlocked_refines (hi : Inv c) (hb : Bounds c) (hr : Rel c s)
    (hl : c.w.isLocked = false) : StepRefines info c s .update := by
  obtain ⟨w, iss⟩ := c
  have hA := wmKill_fold_refines info iss w.marked w s [] [] hi hb hr List.Perm.nil
  -- the spec walks its own list: same alive members
  have hnd' : (w.marked.filterMap (ordOf iss)).Nodup := by
    unfold List.Nodup
    refine hi.markedSorted.filterMap _ fun a a' hlt b hb' b' hb'' e => ?_
    subst e
    cases (ordOf_some hb').symm.trans (ordOf_some hb'')
    exact Nat.lt_irrefl _ hlt
  have hmem : ∀ o, (o ∈ s.marked ∧ (s.alive o).isSome = true) ↔
      (o ∈ w.marked.filterMap (ordOf iss) ∧ (s.alive o).isSome = true) := by
    intro o
    have hval : ∀ h, ordOf iss h = some o → (w.isValid h = true ↔ (s.alive o).isSome = true) := fun h ho => by
      rw [hr.alive_isSome hi.live hi.rows (ordOf_some ho)]
    rw [hr.marked o]
    constructor
    · rintro ⟨h, hm, hv, ho⟩
      exact ⟨List.mem_filterMap.mpr ⟨h, hm, ho⟩, (hval h ho).mp hv⟩
    · rintro ⟨hm, ha⟩
      rcases List.mem_filterMap.mp hm with ⟨h, hm', ho⟩
      exact ⟨h, hm', (hval h ho).mpr ha, ho⟩
  have hP := wsKill_fold_perm info s s.marked (w.marked.filterMap (ordOf iss)) hr.markedNodup hnd' hmem []
  have hw : w.step info .update =
      ({ (w.marked.foldl (wmKill info) (w, [])).1 with marked := [] }, .ok, (w.marked.foldl (wmKill info) (w, [])).2) := by
    show ((w.update info).1, resOut (w.update info).2.1, (w.update info).2.2) = _
    rw [WM.update, if_neg (by simp [show w.isLocked = false from hl])]
    rfl
  have hs : s.step info .update =
      ({ (s.marked.foldl (wsKill info) (s, [])).1 with marked := [] }, .ok, (s.marked.foldl (wsKill info) (s, [])).2) := by
    show (if s.lockDepth > 0 then _ else _) = _
    rw [if_neg (unlocked_spec hr hl)]
    rfl
  rw [hP.1] at hs
  refine StepRefines.intro info hw hs ?_ ?_ ⟨trivial, hA.2.2.trans (hP.2.symm.map some)⟩
  · exact inv_set_marked hA.1 _ [] hA.1.depsB (fun _ h => nomatch h) (fun _ h => nomatch h) List.Pairwise.nil
  · exact
    { hA.2.1 with
      marked := fun o => ⟨fun h => (nomatch h.1), fun ⟨_, h, _⟩ => (nomatch h)⟩
      markedLt := fun o hm => nomatch hm
      markedOld := fun o hm => nomatch hm
      markedNodup := List.nodup_nil }

end Mustache.Proofs.Refine
