import Mustache.Proofs.DispatcherLive

/-! A progress measure that strictly decreases on every non-spin action while the external thread
is inside `wait` / inline run / join. -/
namespace Mustache.Dispatcher

def pcW : Pc → Nat
  | .idle => 1
  | .sleeping => 0
  | .woken => 1
  | .running _ _ => 3
  | .relock _ => 2
  | .exited => 0

def modeW : Mode → Nat
  | .api => 0
  | .inline => 0
  | .waitLoop _ => 2
  | .spin _ => 1
  | .sdFlag => 0
  | .sdCleared => 0
  | .joining => 1
  | .destroyed => 0

def pendingCount (s : State) : Nat := ((List.range (s.nq + 1)).map (fun q => (s.jobs q).length)).sum

/-- 4 per pending task, 3 per running task, 2 per finished-but-not-yet-relocked, 1 per awake idle thread,
plus the phase of the external thread -/
def progressMeasure (s : State) : Nat := 4 * pendingCount s + (s.pcs.map pcW).sum + modeW s.mode

/-- the external thread is blocked inside a library call -/
def Mode.isBlocked : Mode → Bool
  | .inline => true
  | .waitLoop _ => true
  | .spin _ => true
  | .joining => true
  | _ => false

theorem sum_range_upd (f g : Nat → Nat) (q m : Nat) (hq : q < m) (hfg : ∀ i, i ≠ q → g i = f i) :
    ((List.range m).map g).sum + f q = ((List.range m).map f).sum + g q := by
  induction m with
  | zero => exact absurd hq (Nat.not_lt_zero q)
  | succ m ih =>
    rw [List.range_succ, List.map_append, List.map_append, List.sum_append, List.sum_append]
    simp only [List.map_cons, List.map_nil, List.sum_cons, List.sum_nil, Nat.add_zero]
    by_cases hqm : q = m
    · subst hqm
      have : (List.range q).map g = (List.range q).map f := by
        apply List.map_congr_left
        intro i hi
        simp at hi
        exact hfg i (Nat.ne_of_lt hi)
      rw [this]; omega
    · have := ih (Nat.lt_of_le_of_ne (Nat.le_of_lt_succ hq) hqm)
      have hm := hfg m (fun e => hqm e.symm)
      omega

theorem pendingCount_upd {s s' : State} {q : Nat} {r : List Nat} (hq : q ≤ s.nq) (hn : s'.nq = s.nq)
    (hj : s'.jobs = upd s.jobs q r) : pendingCount s' + (s.jobs q).length = pendingCount s + r.length := by
  have := sum_range_upd (fun q => (s.jobs q).length) (fun i => (upd s.jobs q r i).length) q (s.nq + 1) (Nat.lt_succ_of_le hq)
    (fun i hi => congrArg List.length (upd_ne s.jobs r hi))
  simpa [pendingCount, hn, hj] using this

theorem measure_doPop {s : State} {th q t : Nat} {r : List Nat} {p : Pc} (hj : s.jobs q = t :: r) (hq : q ≤ s.nq)
    (hp : s.pcs[th]? = some p) : progressMeasure (doPop s th q t r) + 4 + pcW p = progressMeasure s + 3 := by
  have h1 := sum_map_set_of pcW s.pcs th (Pc.running t q) p hp
  have h2 := pendingCount_upd (s' := doPop s th q t r) hq rfl rfl
  rw [hj, List.length_cons] at h2
  have e : pcW (Pc.running t q) = 3 := rfl
  simp only [progressMeasure, doPop] at h1 h2 ⊢
  omega

theorem measure_scanBody {s : State} {th : Nat} {p : Pc} (hp : s.pcs[th]? = some p) (hw : pcW p = 1) :
    progressMeasure (scanBody s th) < progressMeasure s := by
  rcases scanBody_cases s th with ⟨_, he⟩ | ⟨_, _, he⟩ | ⟨_, q, t, r, _, hj, _, hq, he⟩
  · rw [he]
    have h1 := sum_map_set_of pcW s.pcs th Pc.exited p hp
    have e : pcW Pc.exited = 0 := rfl
    simp only [progressMeasure, pendingCount] at h1 ⊢
    omega
  · rw [he]
    have h1 := sum_map_set_of pcW s.pcs th Pc.sleeping p hp
    have e : pcW Pc.sleeping = 0 := rfl
    simp only [progressMeasure, pendingCount] at h1 ⊢
    omega
  · rw [he]
    have := measure_doPop (th := th) hj hq hp
    omega

theorem bounded_progress_inv {s s' : State} {a : Action} (hi : Inv s) (hb : s.mode.isBlocked = true)
    (hsp : a.isSpin = false) (hs : step s a = some s') : progressMeasure s' < progressMeasure s := by
  cases step_iff.mp hs
  case scan hp => exact measure_scanBody hp rfl
  -- the measure does not read `tw`
  case rescan hp => exact measure_scanBody (s := { s with tw := s.tw - 1 }) hp rfl
  case waitPop hm h0 _ _ hj =>
    have := measure_doPop hj (hi.b.wait_q _ (Or.inl hm)).1 h0
    simp only [pcW] at this
    omega
  case taskEnd th _ q hp =>
    have h1 := sum_map_set_of pcW s.pcs th (Pc.relock q) _ hp
    simp only [progressMeasure, pendingCount, pcW] at h1 ⊢
    omega
  case relock th _ hp =>
    have h1 := sum_map_set_of pcW s.pcs th Pc.idle _ hp
    have h2 : modeW (if th = 0 ∧ s.mode = .inline then .api else s.mode) ≤ modeW s.mode := by
      split
      · exact Nat.zero_le _
      · exact Nat.le_refl _
    simp only [progressMeasure, pendingCount, pcW] at h1 ⊢
    omega
  case waitBlocked | spinRetry | wake => cases hsp
  case waitEmpty hm _ _ | spinExit hm _ _ | sdJoin hm _ =>
    unfold progressMeasure
    rw [hm]
    exact Nat.add_lt_add_left (Nat.lt_succ_self _) _
  -- the remaining actions belong to the caller or to the destructor before it blocks
  case createQueue _ hm | setSingle _ hm | submit hm _ _ | submitInline hm _ | waitBegin hm _ | sdFlag hm | sdClear hm |
      sdNotify hm =>
    rw [hm] at hb; cases hb

/-- a busy-wait iteration leaves the measure as it is (a spurious wake-up adds 1) -/
theorem measure_eq_of_spin {s s' : State} {a : Action} (hs : step s a = some s') (hsp : a.isSpin = true)
    (hw : ∀ th, a ≠ .wake th) : progressMeasure s' = progressMeasure s := by
  cases step_iff.mp hs
  case waitBlocked | spinRetry => rfl
  case wake th _ => exact absurd rfl (hw th)
  all_goals cases hsp

end Mustache.Dispatcher
