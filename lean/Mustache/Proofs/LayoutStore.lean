import Mustache.Model.Layout
/-! Helper lemmas for C10: population bookkeeping of the storage — every live slot is backed by a chunk. -/
namespace Mustache.Proofs.LayoutStore
open Mustache.Model.Layout

def SInv (cap chunkSize : Nat) (s : Store) : Prop :=
  s.cap = cap ∧ s.chunkSize = chunkSize ∧ s.size ≤ cap * s.nchunks

/-- the `while` loop of `reserve` only adds chunks, and with enough fuel it adds enough of them: each iteration
brings `cap ≥ 1` more slots, so `fuel` iterations cover a shortfall of `fuel` -/
theorem reserveFuel_spec (f : Nat) (s : Store) (n : Nat) (hc : 0 < s.cap) (hz : 0 < s.chunkSize)
    (hf : n ≤ s.cap * s.nchunks + f) :
    ∃ m, s.nchunks ≤ m ∧ n ≤ s.cap * m ∧ reserveFuel f s n = { s with nchunks := m } := by
  induction f generalizing s with
  | zero => exact ⟨s.nchunks, Nat.le_refl _, hf, rfl⟩
  | succ f ih =>
    unfold reserveFuel
    split
    · obtain ⟨m, hm, hn, e⟩ := ih { s with nchunks := s.nchunks + 1 } hc hz
        (Nat.le_trans hf (by rw [Nat.mul_succ, Nat.add_assoc, Nat.add_comm f]
                             exact Nat.add_le_add_left (Nat.add_le_add_right hc f) _))
      exact ⟨m, Nat.le_of_succ_le hm, hn, e⟩
    · rename_i h
      exact ⟨s.nchunks, Nat.le_refl _, Nat.le_of_not_lt (fun h' => h ⟨hz, h'⟩), rfl⟩

theorem reserve_spec (s : Store) (n : Nat) (hc : 0 < s.cap) (hz : 0 < s.chunkSize) :
    ∃ m, s.nchunks ≤ m ∧ n ≤ s.cap * m ∧ s.reserve n = { s with nchunks := m } :=
  reserveFuel_spec n s n hc hz (Nat.le_add_left _ _)

theorem step_inv {cap chunkSize : Nat} (hc : 0 < cap) (hz : 0 < chunkSize) (s : Store) (op : SOp)
    (h : SInv cap chunkSize s) : SInv cap chunkSize (s.step op) := by
  obtain ⟨rfl, rfl, h⟩ := h
  cases op with
  | emplace pos =>
    obtain ⟨m, hm, hn, e⟩ := reserve_spec s (pos + 1) hc hz
    dsimp only [Store.step, SInv]
    rw [e]
    refine ⟨rfl, rfl, ?_⟩
    split
    · exact hn
    · exact Nat.le_trans h (Nat.mul_le_mul_left _ hm)
  | decr => exact ⟨rfl, rfl, Nat.le_trans (Nat.sub_le _ _) h⟩
  | clear free => exact ⟨rfl, rfl, Nat.zero_le _⟩

theorem run_inv {cap chunkSize : Nat} (hc : 0 < cap) (hz : 0 < chunkSize) (s : Store) (ops : List SOp)
    (h : SInv cap chunkSize s) : SInv cap chunkSize (s.run ops) :=
  List.foldlRecOn ops Store.step h (fun s hs op _ => step_inv hc hz s op hs)

end Mustache.Proofs.LayoutStore
