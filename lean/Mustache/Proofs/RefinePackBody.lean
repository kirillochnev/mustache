import Mustache.Proofs.RefineGhost
/-!
# Refinement, the flush: the command fold of `applyCommandPack` on the model side, in closed form

Along the commands of a pack (all on one entity `e`, no creation) the model state changes in two ways only:
`destroy` inserts `e` into `marked`, the first `destroyNow` destroys `e` (after which nothing happens). The two
commute, so the state after the fold is known from the two flags "dead" and "marked".
-/
namespace Mustache.Proofs.Refine
open Mustache.Model Mustache.Spec
open Mustache.Proofs.Rows

variable (info : CompId → CompInfo)

theorem insertSorted_idem (l : List Handle) (h : Handle) : insertSorted (insertSorted l h) h = insertSorted l h := by
  induction l with
  | nil => simp [insertSorted]
  | cons a t ih =>
    by_cases h1 : h.value < a.value
    · simp only [insertSorted, h1, if_true, Nat.lt_irrefl, if_false]
    · by_cases h2 : h.value = a.value
      · simp only [insertSorted, h2, if_false, if_true, Nat.lt_irrefl]
      · simp only [insertSorted, h1, h2, if_false, ih]

theorem kill_setMarked (e : Handle) (isCreate : Bool) (w : WM) (M : List Handle) :
    kill info e isCreate { w with marked := M } =
      ({ (kill info e isCreate w).1 with marked := M }, (kill info e isCreate w).2) := by
  have hctl := kill_ctl info e isCreate w
  rw [← setCtl_self w.lockDepth w.buffers M rfl rfl, setCtl_kill, setCtl_self _ _ _ hctl.lockDepth hctl.buffers]

/-- the state the fold of the pack commands reaches: killed or not, marked or not -/
def bodyState (e : Handle) (isCreate : Bool) (w : WM) (dead mk : Bool) : WM × List Cb :=
  ({ (if dead then kill info e isCreate w else (w, [])).1 with marked := if mk then insertSorted w.marked e else w.marked },
   (if dead then kill info e isCreate w else (w, [])).2)

theorem bodyState_dead (e : Handle) (isCreate : Bool) (w : WM) (mk : Bool) :
    bodyState info e isCreate w true mk =
      ({ (kill info e isCreate w).1 with marked := if mk then insertSorted w.marked e else w.marked },
        (kill info e isCreate w).2) := rfl

theorem bodyState_alive (e : Handle) (isCreate : Bool) (w : WM) (mk : Bool) :
    bodyState info e isCreate w false mk = ({ w with marked := if mk then insertSorted w.marked e else w.marked }, []) := rfl

theorem bodyState_init (e : Handle) (isCreate : Bool) (w : WM) : bodyState info e isCreate w false false = (w, []) := rfl

theorem bodyState_deps (e : Handle) (isCreate : Bool) (w : WM) (dead mk : Bool) :
    (bodyState info e isCreate w dead mk).1.deps = w.deps := by
  cases dead with
  | true => exact (kill_ctl info e isCreate w).deps
  | false => rfl

theorem bodyState_step (e : Handle) (isCreate : Bool) (w : WM) (dead mk : Bool) (c : Cmd) (hent : c.entity = e) :
    ((cmdWorld info e isCreate dead (bodyState info e isCreate w dead mk).1 c).1,
      (bodyState info e isCreate w dead mk).2 ++ (cmdWorld info e isCreate dead (bodyState info e isCreate w dead mk).1 c).2) =
    bodyState info e isCreate w (dead || IdTable.isKill c) (mk || (isDestroyCmd c && !dead)) := by
  cases dead with
  | true => cases c <;> simp [cmdWorld, IdTable.isKill]
  | false =>
    cases c with
    | destroyNow e' =>
      simp only [cmdWorld, bodyState, Bool.false_eq_true, if_false, kill_setMarked, List.nil_append, Bool.false_or,
        IdTable.isKill, if_true, isDestroyCmd, Bool.false_and, Bool.or_false]
    | destroy h =>
      have hh : h = e := hent
      subst hh
      cases mk <;> simp [cmdWorld, bodyState, IdTable.isKill, isDestroyCmd, insertSorted_idem]
    | create e' m sh => simp [cmdWorld, IdTable.isKill, isDestroyCmd]
    | remove e' c' => simp [cmdWorld, IdTable.isKill, isDestroyCmd]
    | assign e' c' v => simp [cmdWorld, IdTable.isKill, isDestroyCmd]

theorem bodyFold (e : Handle) (isCreate : Bool) (w : WM) :
    ∀ (body : List Cmd) (mk : Bool) (p : PackSt), (∀ c ∈ body, c.entity = e) →
      body.foldl (packStep info e isCreate)
          ((bodyState info e isCreate w p.dead mk).1, p, (bodyState info e isCreate w p.dead mk).2) =
        ((bodyState info e isCreate w (body.foldl (pst w.deps) p).dead (mk || markedBy w.deps p body)).1,
          body.foldl (pst w.deps) p,
          (bodyState info e isCreate w (body.foldl (pst w.deps) p).dead (mk || markedBy w.deps p body)).2)
  | [], mk, p, _ => by rw [markedBy, Bool.or_false]; rfl
  | c :: rest, mk, p, hall => by
    have hstep := bodyState_step info e isCreate w p.dead mk c (hall c (by simp))
    rw [← pst_dead_eq w.deps p c] at hstep
    simp only [List.foldl_cons, packStep_eq, bodyState_deps, markedBy, ← Bool.or_assoc]
    rw [(Prod.mk.inj hstep).1, (Prod.mk.inj hstep).2]
    exact bodyFold e isCreate w rest _ (pst w.deps p c) (fun c' hc' => hall c' (by simp [hc']))

end Mustache.Proofs.Refine
