import Mustache.Model.IdTable
/-!
# Id table: free chain, ghost state, invariant `TInv`, validity ⇔ membership in the live set

`Ghost` is history-only bookkeeping (which handles were returned, which creations have taken effect
and were not destroyed, which reservations are still waiting for their slot); `TInv t g` relates it to
the table `t`. Preservation per operation is in `IdTableRelease.lean` / `IdTableCreate.lean`.
-/
namespace Mustache.Proofs.IdTable
open Mustache.Model

/-- the free chain: starting at `n`, following `idf`, visiting exactly `fs` -/
inductive Chain (slots : List Slot) : Nat → List Nat → Prop
  | nil (n) : Chain slots n []
  | cons (n s rest) : slots[n]? = some s → Chain slots s.idf rest → Chain slots n (n :: rest)

theorem getElem?_lt {α} {l : List α} {i : Nat} {x : α} (h : l[i]? = some x) : i < l.length :=
  (List.getElem?_eq_some_iff.mp h).1

theorem foldl_keeps {α β γ : Type} (f : α → β → α) (r : α → γ) (hf : ∀ a x, r (f a x) = r a) (l : List β) (a : α) :
    r (l.foldl f a) = r a := by
  induction l generalizing a with
  | nil => rfl
  | cons x l ih => exact (ih _).trans (hf a x)

theorem Chain.set_notin {slots : List Slot} {n : Nat} {fs : List Nat} {i : Nat} {v : Slot}
    (hc : Chain slots n fs) (hi : i ∉ fs) : Chain (slots.set i v) n fs := by
  induction hc with
  | nil n => exact Chain.nil n
  | cons n s rest hs _ ih =>
    have hne : i ≠ n := by intro h; apply hi; simp [h]
    have hrest : i ∉ rest := by intro h; apply hi; simp [h]
    refine Chain.cons n s rest ?_ (ih hrest)
    rw [List.getElem?_set_ne hne]; exact hs

theorem Chain.append {slots : List Slot} {n : Nat} {fs : List Nat} (xs : List Slot)
    (hc : Chain slots n fs) : Chain (slots ++ xs) n fs := by
  induction hc with
  | nil n => exact Chain.nil n
  | cons n s rest hs _ ih =>
    refine Chain.cons n s rest ?_ ih
    rw [List.getElem?_append_left (getElem?_lt hs)]; exact hs

theorem Chain.head_eq {slots : List Slot} {n a : Nat} {rest : List Nat}
    (hc : Chain slots n (a :: rest)) : a = n := by
  cases hc; rfl

structure Ghost where
  /-- handles whose creation has taken effect and that were not destroyed since -/
  live : List Handle
  /-- every handle returned by a creation call, newest first -/
  issued : List Handle
  /-- handles returned by a creation under lock whose slot is not installed yet -/
  pending : List Handle

def Ghost.init : Ghost := ⟨[], [], []⟩
def Ghost.create (g : Ghost) (h : Handle) : Ghost := { g with live := h :: g.live, issued := h :: g.issued }
def Ghost.destroy (g : Ghost) (h : Handle) : Ghost := { g with live := g.live.filter (· ≠ h) }
def Ghost.reserve (g : Ghost) (h : Handle) : Ghost := { g with issued := h :: g.issued, pending := h :: g.pending }
def Ghost.install (g : Ghost) (h : Handle) : Ghost :=
  { g with live := h :: g.live, pending := g.pending.filter (· ≠ h) }

/-- versions strictly increase per id in issue order (the list is newest first) -/
def VersionsFresh (l : List Handle) : Prop := l.Pairwise (fun a b => a.id = b.id → b.ver < a.ver)

structure TInv (t : Tab) (g : Ghost) : Prop where
  /-- the free chain: `empty` long, duplicate-free, exactly the table ids that are neither live nor a
      reserved gap; a free slot never stores its own id -/
  chain : ∃ fs : List Nat, Chain t.slots t.next fs ∧ fs.Nodup ∧ fs.length = t.empty ∧
            (∀ i, i ∈ fs ↔ (i < t.slots.length ∧ (∀ h ∈ g.live, h.id ≠ i) ∧ ∀ p ∈ g.pending, p.id ≠ i)) ∧
            (∀ i ∈ fs, ∀ s, t.slots[i]? = some s → s.idf ≠ i)
  live_slot : ∀ h ∈ g.live, t.slots[h.id]? = some ⟨h.id, h.ver⟩
  live_nodup_id : ∀ h₁ ∈ g.live, ∀ h₂ ∈ g.live, h₁.id = h₂.id → h₁ = h₂
  live_issued : ∀ h ∈ g.live, h ∈ g.issued
  world : ∀ h ∈ g.issued, h.world = t.worldId
  issued_slot : ∀ h ∈ g.issued, h ∉ g.pending → ∃ s, t.slots[h.id]? = some s ∧ h.ver ≤ s.ver
  dead_lt : ∀ h ∈ g.issued, h ∉ g.live → h ∉ g.pending → ∀ s, t.slots[h.id]? = some s → h.ver < s.ver
  fresh : VersionsFresh g.issued
  pend_issued : ∀ p ∈ g.pending, p ∈ g.issued
  pend_ver : ∀ p ∈ g.pending, p.ver = 0
  pend_gap : ∀ p ∈ g.pending, ∀ s, t.slots[p.id]? = some s → s = Slot.gap
  pend_lt : ∀ p ∈ g.pending, p.id < t.nextEntityId
  pend_unique : ∀ p ∈ g.pending, ∀ h ∈ g.issued, h.id = p.id → h = p
  pend_not_live : ∀ p ∈ g.pending, p ∉ g.live
  gap_cover : ∀ i, t.slots.length ≤ i → i < t.nextEntityId → ∃ p ∈ g.pending, p.id = i
  locked_len : 0 < t.lockDepth → t.slots.length ≤ t.nextEntityId

theorem init_inv (wid : Nat) : TInv { worldId := wid } Ghost.init where
  chain := ⟨[], Chain.nil _, List.nodup_nil, rfl,
    fun i => ⟨fun h => absurd h List.not_mem_nil, fun h => absurd h.1 (Nat.not_lt_zero i)⟩, List.forall_mem_nil _⟩
  live_slot := List.forall_mem_nil _
  live_nodup_id := List.forall_mem_nil _
  live_issued := List.forall_mem_nil _
  world := List.forall_mem_nil _
  issued_slot := List.forall_mem_nil _
  dead_lt := List.forall_mem_nil _
  fresh := List.Pairwise.nil
  pend_issued := List.forall_mem_nil _
  pend_ver := List.forall_mem_nil _
  pend_gap := List.forall_mem_nil _
  pend_lt := List.forall_mem_nil _
  pend_unique := List.forall_mem_nil _
  pend_not_live := List.forall_mem_nil _
  gap_cover i _ h := absurd h (Nat.not_lt_zero i)
  locked_len h := absurd h (Nat.lt_irrefl 0)

theorem handle_ext {a b : Handle} (h1 : a.id = b.id) (h2 : a.ver = b.ver) (h3 : a.world = b.world) : a = b := by
  cases a; cases b; simp_all

theorem valid_iff (t : Tab) (h : Handle) :
    t.valid h = true ↔ h ≠ Handle.null ∧ h.world = t.worldId ∧ t.slots[h.id]? = some ⟨h.id, h.ver⟩ := by
  unfold Tab.valid Handle.isNull
  cases hs : t.slots[h.id]? with
  | none => simp
  | some s =>
    cases s with
    | mk i v =>
      simp only [Bool.and_eq_true, Bool.not_eq_true', beq_eq_false_iff_ne, ne_eq, beq_iff_eq, Option.some.injEq,
        Slot.mk.injEq]
      constructor
      · rintro ⟨⟨a, b⟩, c, d⟩; exact ⟨a, b, d, c⟩
      · rintro ⟨a, b, d, c⟩; exact ⟨⟨a, b⟩, c, d⟩

theorem live_ids_lt {t : Tab} {g : Ghost} (inv : TInv t g) {h : Handle} (hl : h ∈ g.live) :
    h.id < t.slots.length := getElem?_lt (inv.live_slot h hl)

theorem live_not_pending {t : Tab} {g : Ghost} (inv : TInv t g) {h : Handle} (hl : h ∈ g.live) :
    h ∉ g.pending := fun hp => inv.pend_not_live h hp hl

theorem live_pending_id_ne {t : Tab} {g : Ghost} (inv : TInv t g) {h p : Handle} (hl : h ∈ g.live)
    (hp : p ∈ g.pending) : h.id ≠ p.id := by
  intro e
  have := inv.pend_unique p hp h (inv.live_issued h hl) e
  subst this
  exact inv.pend_not_live h hp hl

theorem id_cases {t : Tab} {g : Ghost} (fs : List Nat)
    (hmem : ∀ i, i ∈ fs ↔ (i < t.slots.length ∧ (∀ h ∈ g.live, h.id ≠ i) ∧ ∀ p ∈ g.pending, p.id ≠ i))
    (i : Nat) (hi : i < t.slots.length) :
    (∃ h ∈ g.live, h.id = i) ∨ (∃ p ∈ g.pending, p.id = i) ∨ i ∈ fs := by
  by_cases h1 : ∃ h ∈ g.live, h.id = i
  · exact Or.inl h1
  · by_cases h2 : ∃ p ∈ g.pending, p.id = i
    · exact Or.inr (Or.inl h2)
    · refine Or.inr (Or.inr ((hmem i).mpr ⟨hi, ?_, ?_⟩))
      · intro h hh e; exact h1 ⟨h, hh, e⟩
      · intro p hp e; exact h2 ⟨p, hp, e⟩

/-- **validity is membership in the live set, for ANY handle** (any bit pattern, issued or not),
as long as the table has not reached the null id `2^30-1` -/
theorem valid_iff_live_any {t : Tab} {g : Ghost} (inv : TInv t g) (hr : t.slots.length ≤ 2^30 - 1)
    (h : Handle) : t.valid h = true ↔ h ∈ g.live := by
  rw [valid_iff]
  constructor
  · rintro ⟨_, hw, hs⟩
    obtain ⟨fs, _, _, _, hmem, hidf⟩ := inv.chain
    rcases id_cases fs hmem h.id (getElem?_lt hs) with ⟨l, hl, e⟩ | ⟨p, hp, e⟩ | hf
    · -- the live handle of this id: its slot holds its version, and it is a handle of this world
      have h1 := inv.live_slot l hl
      rw [e, hs] at h1
      have : l = h := handle_ext e (Slot.mk.inj (Option.some.inj h1)).2.symm
        ((inv.world l (inv.live_issued l hl)).trans hw.symm)
      exact this ▸ hl
    · -- a reserved gap holds the null id, which is beyond the table
      have e1 : h.id = 2^30 - 1 := (Slot.mk.inj (inv.pend_gap p hp _ ((congrArg (t.slots[·]?) e).trans hs))).1
      exact absurd (e1 ▸ Nat.lt_of_lt_of_le (getElem?_lt hs) hr) (Nat.lt_irrefl _)
    · exact absurd rfl (hidf h.id hf _ hs)
  · intro hl
    exact ⟨fun e => absurd (Nat.lt_of_lt_of_le (live_ids_lt inv hl) hr) (e ▸ Nat.lt_irrefl _),
      inv.world h (inv.live_issued h hl), inv.live_slot h hl⟩

theorem pending_invalid {t : Tab} {g : Ghost} (inv : TInv t g) {p : Handle} (hp : p ∈ g.pending) :
    t.valid p = false := by
  cases hv : t.valid p with
  | false => rfl
  | true =>
    rcases (valid_iff t p).mp hv with ⟨_, _, hs⟩
    have h1 := inv.pend_gap p hp _ hs
    have h2 := inv.pend_ver p hp
    simp only [Slot.gap, Slot.mk.injEq] at h1
    omega

/-- validity of an ISSUED handle without the range hypothesis (uses that its version never wrapped) -/
theorem valid_iff_live {t : Tab} {g : Ghost} (inv : TInv t g) (h : Handle) (hi : h ∈ g.issued)
    (hb : h.ver + 1 < 2^24) : t.valid h = true ↔ h ∈ g.live := by
  constructor
  · intro hv
    by_cases hp : h ∈ g.pending
    · rw [pending_invalid inv hp] at hv; exact absurd hv (by simp)
    · rcases (valid_iff t h).mp hv with ⟨_, _, hs⟩
      apply Classical.byContradiction
      intro hnl
      have := inv.dead_lt h hi hnl hp _ hs
      simp at this
  · intro hl
    rw [valid_iff]
    refine ⟨?_, inv.world h hi, inv.live_slot h hl⟩
    intro e
    rw [e] at hb
    simp [Handle.null] at hb

def NewFor (g : Ghost) (h : Handle) : Prop := ∀ b ∈ g.issued, b.id = h.id → b.ver < h.ver

theorem NewFor.not_issued {g : Ghost} {h : Handle} (hn : NewFor g h) : h ∉ g.issued := by
  intro hi
  have := hn h hi rfl
  omega

theorem VersionsFresh.cons {g : Ghost} {h : Handle} (hf : VersionsFresh g.issued) (hn : NewFor g h) :
    VersionsFresh (h :: g.issued) := by
  unfold VersionsFresh
  rw [List.pairwise_cons]
  exact ⟨fun b hb e => hn b hb e.symm, hf⟩

theorem VersionsFresh.nodup {l : List Handle} (hf : VersionsFresh l) : l.Nodup := by
  unfold VersionsFresh at hf
  refine hf.imp ?_
  intro a b hab e
  subst e
  have := hab rfl
  omega

end Mustache.Proofs.IdTable
