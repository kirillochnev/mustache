import Mustache.Model.Versions
/-!
# The block list built by `filterArchetype` covers exactly the matching version chunks

`mem_blocks_iff`: for a positive chunk size and a non-empty archetype, a row index lies in one of the
blocks iff it is below the population and its version chunk passed the check.
-/
namespace Mustache.Versions

theorem mem_blockIdx {bs : List (Nat × Nat)} {i : Nat} :
    i ∈ blockIdx bs ↔ ∃ p ∈ bs, p.1 ≤ i ∧ i < p.2 := by
  unfold blockIdx
  simp only [List.mem_flatMap, List.mem_range'_1]
  refine exists_congr fun p => and_congr_right fun _ => and_congr_right fun h1 => ?_
  rcases Nat.le_total p.1 p.2 with h | h
  · rw [Nat.add_sub_cancel' h]
  · rw [Nat.sub_eq_zero_of_le h, Nat.add_zero]
    exact ⟨fun h' => absurd h1 (Nat.not_le.mpr h'),
      fun h' => absurd (Nat.le_trans h h1) (Nat.not_le.mpr h')⟩

/-- rows covered by a loop state `(is_prev_match, block.begin, block.end, blocks)`: those of the blocks added so
far and of the open block -/
def LoopCov : Bool × Nat × Nat × List (Nat × Nat) → Nat → Prop
  | (prev, b, e, acc), i => (∃ p ∈ acc, p.1 ≤ i ∧ i < p.2) ∨ (prev = true ∧ b ≤ i ∧ i < e)

/-- a loop state before chunk `k`: an open block ends where chunk `k` begins; the blocks added so far end at
least one chunk earlier (so only the open block can reach beyond the population) -/
def LoopOk (cs k : Nat) : Bool × Nat × Nat × List (Nat × Nat) → Prop
  | (prev, b, e, acc) => (prev = true → e = k * cs ∧ b ≤ k * cs) ∧ ∀ p ∈ acc, p.2 + cs ≤ k * cs

/-- a matching chunk `[o, e')` extends the open block (which ends at `o`), or opens one -/
theorem loopCov_match {prev : Bool} {b e o e' : Nat} (hp : prev = true → e = o ∧ b ≤ o) (he : o ≤ e')
    (acc : List (Nat × Nat)) (i : Nat) :
    LoopCov (true, if prev = true then b else o, e', acc) i ↔ LoopCov (prev, b, e, acc) i ∨ (o ≤ i ∧ i < e') := by
  dsimp only [LoopCov]
  rw [or_assoc]
  refine or_congr_right ?_
  cases prev with
  | false => simp
  | true =>
    obtain ⟨rfl, hb⟩ := hp rfl
    simp only [if_true, true_and]
    constructor
    · rintro ⟨h1, h2⟩
      by_cases h : i < e
      · exact Or.inl ⟨h1, h⟩
      · exact Or.inr ⟨Nat.le_of_not_lt h, h2⟩
    · rintro (⟨h1, h2⟩ | ⟨h1, h2⟩)
      · exact ⟨h1, Nat.lt_of_lt_of_le h2 he⟩
      · exact ⟨Nat.le_trans hb h1, h2⟩

/-- `addBlock` of the open block (when there is one and it is not empty) keeps the covered rows -/
theorem cover_addBlock (prev : Bool) (b e : Nat) (acc : List (Nat × Nat)) (i : Nat) :
    (∃ p ∈ (if prev = true ∧ b < e then acc ++ [(b, e)] else acc), p.1 ≤ i ∧ i < p.2) ↔
      LoopCov (prev, b, e, acc) i := by
  dsimp only [LoopCov]
  split
  · next h =>
    simp only [List.mem_append, List.mem_singleton, or_and_right, exists_or, exists_eq_left, h.1, true_and]
  · next h =>
    exact ⟨Or.inl, fun h' => h'.elim id fun h' => absurd ⟨h'.1, Nat.lt_of_le_of_lt h'.2.1 h'.2.2⟩ h⟩

/-- a non-matching chunk closes the open block: nothing is covered that was not covered before -/
theorem loopCov_close (prev : Bool) (b e : Nat) (acc : List (Nat × Nat)) (i : Nat) :
    LoopCov (false, b, e, if prev = true ∧ b < e then acc ++ [(b, e)] else acc) i ↔
      LoopCov (prev, b, e, acc) i := by
  rw [← cover_addBlock prev]
  exact ⟨fun h => h.elim id fun h => (nomatch h.1), Or.inl⟩

theorem chunks_succ (cs : Nat) (m : Nat → Bool) {k N : Nat} (hN : (k + 1) * cs ≤ N) (i : Nat) :
    (k * cs ≤ i ∧ i < N ∧ m (i / cs) = true) ↔
      (m k = true ∧ k * cs ≤ i ∧ i < (k + 1) * cs) ∨
        ((k + 1) * cs ≤ i ∧ i < N ∧ m (i / cs) = true) := by
  have hk : k * cs ≤ (k + 1) * cs := Nat.mul_le_mul_right cs (Nat.le_succ k)
  constructor
  · rintro ⟨ha, hb, hc⟩
    by_cases hlt : i < (k + 1) * cs
    · exact Or.inl ⟨Nat.div_eq_of_lt_le ha hlt ▸ hc, ha, hlt⟩
    · exact Or.inr ⟨Nat.le_of_not_lt hlt, hb, hc⟩
  · rintro (⟨hc, ha, hb⟩ | ⟨ha, hb, hc⟩)
    · exact ⟨ha, Nat.lt_of_lt_of_le hb hN, (Nat.div_eq_of_lt_le ha hb).symm ▸ hc⟩
    · exact ⟨Nat.le_trans hk ha, hb, hc⟩

theorem blkLoop_spec (cs : Nat) (m : Nat → Bool) :
    ∀ (n k : Nat) (prev : Bool) (b e : Nat) (acc : List (Nat × Nat)), LoopOk cs k (prev, b, e, acc) →
      LoopOk cs (k + n) (blkLoop cs m n k prev b e acc) ∧
      ∀ i, LoopCov (blkLoop cs m n k prev b e acc) i ↔
        LoopCov (prev, b, e, acc) i ∨ (k * cs ≤ i ∧ i < (k + n) * cs ∧ m (i / cs) = true) := by
  intro n
  induction n with
  | zero =>
    intro k prev b e acc hok
    exact ⟨hok, fun i => ⟨Or.inl, fun h => h.elim id fun h => absurd h.2.1 (Nat.not_lt.mpr h.1)⟩⟩
  | succ n ih =>
    intro k prev b e acc ⟨hp, hacc⟩
    have hk : k * cs ≤ (k + 1) * cs := Nat.mul_le_mul_right cs (Nat.le_succ k)
    have hkn : k + 1 + n = k + (n + 1) := by rw [Nat.add_right_comm, Nat.add_assoc]
    have hN : (k + 1) * cs ≤ (k + (n + 1)) * cs := Nat.mul_le_mul_right cs (hkn ▸ Nat.le_add_right ..)
    unfold blkLoop
    by_cases hm : m k = true
    · rw [if_pos hm]
      have hb : (if prev = true then b else k * cs) ≤ (k + 1) * cs := by
        split
        · exact Nat.le_trans (hp ‹_›).2 hk
        · exact hk
      obtain ⟨r1, r2⟩ := ih (k + 1) true _ ((k + 1) * cs) acc
        ⟨fun _ => ⟨rfl, hb⟩, fun p hpm => Nat.le_trans (hacc p hpm) hk⟩
      refine ⟨hkn ▸ r1, fun i => ?_⟩
      rw [r2 i, hkn, loopCov_match hp hk, chunks_succ cs m hN, or_assoc]
      simp only [hm, true_and]
    · rw [if_neg hm]
      obtain ⟨r1, r2⟩ := ih (k + 1) false b e (if prev = true ∧ b < e then acc ++ [(b, e)] else acc)
        ⟨fun h => (nomatch h), fun p hpm => by
          split at hpm
          · next hc =>
            rcases List.mem_append.mp hpm with hpm | hpm
            · exact Nat.le_trans (hacc p hpm) hk
            · cases List.mem_singleton.mp hpm
              exact (hp hc.1).1 ▸ Nat.le_of_eq (Nat.succ_mul k cs).symm
          · exact Nat.le_trans (hacc p hpm) hk⟩
      refine ⟨hkn ▸ r1, fun i => ?_⟩
      rw [r2 i, hkn, loopCov_close, chunks_succ cs m hN]
      simp only [hm, Bool.false_eq_true, false_and, false_or]

theorem mem_blocks_iff {cs size : Nat} (hcs : 0 < cs) (hsz : 0 < size) (m : Nat → Bool) (i : Nat) :
    i ∈ blockIdx (blocks cs size m) ↔ i < size ∧ m (i / cs) = true := by
  rw [mem_blockIdx]
  unfold blocks
  have spec := blkLoop_spec cs m ((size - 1) / cs + 1) 0 false 0 0 []
    ⟨fun h => (nomatch h), fun p hp => nomatch hp⟩
  generalize blkLoop cs m ((size - 1) / cs + 1) 0 false 0 0 [] = r at spec ⊢
  obtain ⟨⟨-, h2⟩, h3⟩ := spec
  obtain ⟨prev', b', e', acc'⟩ := r
  simp only [Nat.zero_add, Nat.zero_mul, Nat.zero_le, true_and] at h2 h3
  -- the loop visits the chunks up to the one of the last row
  have hN1 : size ≤ ((size - 1) / cs + 1) * cs :=
    Nat.le_of_pred_lt (Nat.mul_comm cs _ ▸ Nat.lt_mul_div_succ _ hcs)
  -- only the open block can reach beyond the population and is clipped
  have hacc : ∀ p ∈ acc', p.2 < size := fun p hp =>
    Nat.lt_of_le_of_lt (Nat.le_trans (Nat.le_of_add_le_add_right (Nat.succ_mul .. ▸ h2 p hp))
      (Nat.div_mul_le_self ..)) (Nat.sub_one_lt (Nat.ne_of_gt hsz))
  have hclip : LoopCov (prev', b', min size e', acc') i ↔ LoopCov (prev', b', e', acc') i ∧ i < size := by
    dsimp only [LoopCov]
    rw [Nat.lt_min, or_and_right]
    exact or_congr (iff_self_and.mpr fun ⟨p, hp, hx⟩ => Nat.lt_trans hx.2 (hacc p hp))
      ⟨fun ⟨h1, h2, h3, h4⟩ => ⟨⟨h1, h2, h4⟩, h3⟩,
        fun ⟨⟨h1, h2, h4⟩, h3⟩ => ⟨h1, h2, h3, h4⟩⟩
  rw [cover_addBlock, hclip, h3 i]
  constructor
  · rintro ⟨(⟨_, hp, _⟩ | ⟨hf, _⟩) | ⟨_, hm⟩, hlt⟩
    · cases hp
    · cases hf
    · exact ⟨hlt, hm⟩
  · rintro ⟨hlt, hm⟩
    exact ⟨Or.inr ⟨Nat.lt_of_lt_of_le hlt hN1, hm⟩, hlt⟩

end Mustache.Versions
