import Mustache.Model.Systems
import Mustache.Proofs.SystemsSpec
/-!
`reorderSystems` (model `reorder`) against the specification: the computed order is a permutation,
respects every constraint, is priority-greedy; it fails exactly on cyclic constraint relations.

Everything about positions of the computed order follows from one fact about the placing loop
(`placeLoop_suffix`): every suffix of its output is its output on the entries still unplaced.
-/
namespace Mustache.Systems

abbrev Entry := Node × List Name

theorem keyLe_iff (a b : Node) :
    keyLe a b = true ↔ a.gprio < b.gprio ∨ (a.gprio = b.gprio ∧ a.prio ≤ b.prio) := by
  simp only [keyLe, Bool.or_eq_true, Bool.and_eq_true, decide_eq_true_eq]

theorem keyLe_refl (a : Node) : keyLe a a = true :=
  (keyLe_iff a a).mpr (Or.inr ⟨rfl, Int.le_refl _⟩)

theorem keyLe_trans {a b c : Node} (h1 : keyLe a b = true) (h2 : keyLe b c = true) :
    keyLe a c = true := by
  rw [keyLe_iff] at *
  rcases h1 with h1 | ⟨h1, h1'⟩ <;> rcases h2 with h2 | ⟨h2, h2'⟩
  · exact .inl (Int.lt_trans h1 h2)
  · exact .inl (h2 ▸ h1)
  · exact .inl (h1 ▸ h2)
  · exact .inr ⟨h1.trans h2, Int.le_trans h1' h2'⟩

theorem keyLe_total (a b : Node) : keyLe a b = true ∨ keyLe b a = true := by
  rw [keyLe_iff, keyLe_iff]
  rcases Int.lt_trichotomy a.gprio b.gprio with h | h | h
  · exact .inl (.inl h)
  · exact (Int.le_total a.prio b.prio).imp (fun h' => .inr ⟨h, h'⟩) (fun h' => .inr ⟨h.symm, h'⟩)
  · exact .inr (.inl h)

theorem pick_some {unp : List Name} {rem : List Entry} {p : Entry} {rest : List Entry}
    (h : pick unp rem = some (p, rest)) :
    ∃ l1 l2, rem = l1 ++ p :: l2 ∧ rest = l1 ++ l2 ∧ canPlace unp p = true ∧
      ∀ q ∈ l1, canPlace unp q = false := by
  fun_induction pick unp rem generalizing p rest <;> cases h
  case case2 x xs hx => exact ⟨[], xs, rfl, rfl, hx, List.forall_mem_nil _⟩
  case case4 x xs hx _ _ hp ih =>
    obtain ⟨l1, l2, rfl, rfl, hc, hall⟩ := ih hp
    exact ⟨x :: l1, l2, rfl, rfl, hc, List.forall_mem_cons.mpr ⟨Bool.eq_false_iff.mpr hx, hall⟩⟩

theorem pick_none {unp : List Name} {rem : List Entry} (h : pick unp rem = none) :
    ∀ q ∈ rem, canPlace unp q = false := by
  fun_induction pick unp rem <;> cases h
  case case1 => exact List.forall_mem_nil _
  case case3 x xs hx hp ih => exact List.forall_mem_cons.mpr ⟨Bool.eq_false_iff.mpr hx, ih hp⟩

theorem canPlace_eq_false_iff (rem : List Entry) (p : Entry) :
    canPlace (rem.map (·.1.name)) p = false ↔ ∃ q ∈ rem, q.1.name ∈ p.2 := by
  simp only [canPlace, List.all_eq_false, Bool.not_eq_true', Bool.not_eq_false, List.contains_iff_mem,
    List.mem_map]
  exact ⟨fun ⟨_, hd, q, hq, e⟩ => ⟨q, hq, e ▸ hd⟩, fun ⟨q, hq, hd⟩ => ⟨_, hd, q, hq, rfl⟩⟩

theorem canPlace_iff (rem : List Entry) (p : Entry) :
    canPlace (rem.map (·.1.name)) p = true ↔ ∀ q ∈ rem, q.1.name ∉ p.2 := by
  rw [← Bool.not_eq_false, canPlace_eq_false_iff]
  exact ⟨fun h q hq hm => h ⟨q, hq, hm⟩, fun h ⟨q, hq, hm⟩ => h q hq hm⟩

theorem placeLoop_cons {fuel : Nat} {rem : List Entry} {c : Node} {post : List Node}
    (h : placeLoop fuel rem = some (c :: post)) :
    ∃ fuel' l1 p l2, rem = l1 ++ p :: l2 ∧ p.1 = c ∧ placeLoop fuel' (l1 ++ l2) = some post ∧
      canPlace (rem.map (·.1.name)) p = true ∧ ∀ q ∈ l1, canPlace (rem.map (·.1.name)) q = false := by
  revert h
  fun_cases placeLoop fuel rem <;> intro h
  case case5 fuel _ _ _ _ hp _ hl =>
    cases h
    obtain ⟨l1, l2, h1, rfl, hc, hall⟩ := pick_some hp
    exact ⟨fuel, l1, _, l2, h1, rfl, hl, hc, hall⟩
  all_goals cases h

theorem placeLoop_perm {fuel : Nat} {rem : List Entry} {o : List Node}
    (h : placeLoop fuel rem = some o) : o.Perm (rem.map (·.1)) := by
  fun_induction placeLoop fuel rem generalizing o <;> cases h
  case case1 => exact .refl _
  case case5 hp _ hl ih =>
    obtain ⟨l1, l2, h1, rfl, _, _⟩ := pick_some hp
    rw [h1, List.map_append, List.map_cons]
    exact ((ih hl).trans (List.map_append ▸ .refl _)).cons _ |>.trans List.perm_middle.symm

/-- The loop invariant: every suffix of the output is the output of the loop on the entries still unplaced,
which come in their original sequence and include every entry whose system is not in the prefix. -/
theorem placeLoop_suffix (pre : List Node) : ∀ {fuel : Nat} {rem : List Entry} {post : List Node},
    placeLoop fuel rem = some (pre ++ post) →
    ∃ fuel' R, R.Sublist rem ∧ (∀ e ∈ rem, e ∈ R ∨ e.1 ∈ pre) ∧ placeLoop fuel' R = some post := by
  induction pre with
  | nil => exact fun {fuel rem _} h => ⟨fuel, rem, .refl _, fun _ he => .inl he, h⟩
  | cons y ys ih =>
    intro _ _ _ h
    obtain ⟨_, l1, p, l2, rfl, rfl, h', _, _⟩ := placeLoop_cons h
    obtain ⟨f, R, hsub, hcov, hR⟩ := ih h'
    refine ⟨f, R, hsub.trans (.append (.refl _) (List.sublist_cons_self ..)), fun e he => ?_, hR⟩
    rcases List.mem_cons.mp (List.perm_middle.mem_iff.mp he) with rfl | he
    · exact .inr (List.mem_cons_self ..)
    · exact (hcov e he).imp_right (List.mem_cons_of_mem _)

/-- the dependency lists of the entries describe `mustPrecede` among the entries -/
def DepsOk (rem : List Entry) : Prop :=
  ∀ p ∈ rem, ∀ q ∈ rem, (q.1.name ∈ p.2 ↔ mustPrecede q.1 p.1 = true)

theorem placeLoop_respects {fuel : Nat} {rem : List Entry} {pre post : List Node} {a : Node} (hd : DepsOk rem)
    (h : placeLoop fuel rem = some (pre ++ a :: post)) :
    ∀ q ∈ rem, mustPrecede q.1 a = true → q.1 ∈ pre := by
  intro q hq hm
  obtain ⟨_, R, hsub, hcov, hR⟩ := placeLoop_suffix pre h
  obtain ⟨_, l1, p, l2, rfl, rfl, _, hc, _⟩ := placeLoop_cons hR
  -- were `q` still unplaced, `p`, which waits for it, could not have been placed
  refine (hcov q hq).resolve_left fun hqR => (canPlace_iff _ p).mp hc q hqR ?_
  exact (hd p (hsub.subset (List.mem_append_right _ (List.mem_cons_self ..))) q hq).mpr hm

theorem placeLoop_priority {fuel : Nat} {rem : List Entry} {pre post : List Node} {c : Node} (hd : DepsOk rem)
    (hnd : (rem.map (·.1)).Nodup) (hsorted : rem.Pairwise (fun a b => keyGe a b = true))
    (h : placeLoop fuel rem = some (pre ++ c :: post)) :
    ∀ q ∈ rem, q.1 ∉ pre → (∀ q' ∈ rem, mustPrecede q'.1 q.1 = true → q'.1 ∈ pre) → keyLe q.1 c = true := by
  intro q hq hqpre havail
  obtain ⟨_, R, hsub, hcov, hR⟩ := placeLoop_suffix pre h
  -- the systems of the unplaced entries are those of the suffix, hence not in the prefix
  have hdisj : ∀ e ∈ R, e.1 ∉ pre := fun e he hpre =>
    (List.nodup_append.mp ((placeLoop_perm h).nodup_iff.mpr hnd)).2.2 _ hpre _
      ((placeLoop_perm hR).mem_iff.mpr (List.mem_map_of_mem he)) rfl
  obtain ⟨_, l1, p, l2, rfl, rfl, _, _, hl1⟩ := placeLoop_cons hR
  -- `q` is unplaced and placeable, so it is not among the entries skipped before `p`: it is `p` or
  -- comes later in the sorted list
  have hqc : canPlace ((l1 ++ p :: l2).map (·.1.name)) q = true := (canPlace_iff _ q).mpr fun q' hq' hmem =>
    hdisj q' hq' (havail q' (hsub.subset hq') ((hd q hq q' (hsub.subset hq')).mp hmem))
  rcases List.mem_append.mp ((hcov q hq).resolve_right hqpre) with h1 | h2
  · rw [hl1 q h1] at hqc; cases hqc
  · rcases List.mem_cons.mp h2 with rfl | h2
    · exact keyLe_refl _
    · exact (List.pairwise_cons.mp (List.pairwise_append.mp (hsorted.sublist hsub)).2.1).1 q h2

/-- With enough fuel the loop fails only by getting stuck: among some of the entries, each waits for another. -/
theorem placeLoop_none {fuel : Nat} {rem : List Entry} (hlen : rem.length ≤ fuel)
    (h : placeLoop fuel rem = none) :
    ∃ R : List Entry, R ≠ [] ∧ (∀ x ∈ R, x ∈ rem) ∧ ∀ p ∈ R, ∃ q ∈ R, q.1.name ∈ p.2 := by
  fun_induction placeLoop fuel rem
  case case1 => cases h
  case case2 => cases hlen
  case case3 x xs hp =>
    exact ⟨x :: xs, List.cons_ne_nil _ _, fun _ hx => hx, fun p hpm => (canPlace_eq_false_iff _ p).mp (pick_none hp p hpm)⟩
  case case4 fuel x xs _ _ hp hl ih =>
    obtain ⟨l1, l2, hsplit, rfl, _, _⟩ := pick_some hp
    have hlen' : (l1 ++ l2).length ≤ fuel := by
      rw [hsplit, List.length_append, List.length_cons] at hlen
      rw [List.length_append]
      exact Nat.le_of_succ_le_succ hlen
    obtain ⟨R, hne, hsub, hR⟩ := ih hlen' hl
    exact ⟨R, hne, fun z hz => hsplit ▸
      (List.Sublist.append (.refl l1) (List.sublist_cons_self ..)).subset (hsub z hz), hR⟩
  case case5 => cases h

theorem eq_of_name_eq {ns : List Node} (hnd : (ns.map (·.name)).Nodup) {a b : Node}
    (ha : a ∈ ns) (hb : b ∈ ns) (h : a.name = b.name) : a = b :=
  have hp := List.pairwise_map.mp hnd
  List.Pairwise.forall_of_forall_of_flip (R := fun a b : Node => a.name = b.name → a = b)
    (fun _ _ _ => rfl) (hp.imp fun hne e => absurd e hne) (hp.imp fun hne e => absurd e.symm hne) ha hb h

theorem nodup_of_names {ns : List Node} (hnd : (ns.map (·.name)).Nodup) : ns.Nodup :=
  (List.pairwise_map.mp hnd).imp fun hne e => hne (congrArg _ e)

theorem mem_effAfter_iff {ns : List Node} (hnd : (ns.map (·.name)).Nodup) {b n : Node} (hb : b ∈ ns) :
    b.name ∈ effAfter ns n ↔ mustPrecede b n = true := by
  simp only [effAfter, mustPrecede, List.mem_append, List.mem_map, List.mem_filter, Bool.or_eq_true,
    List.contains_iff_mem]
  refine or_congr_right ⟨fun ⟨p, ⟨hp, hpb⟩, hname⟩ => ?_, fun h => ⟨b, ⟨hb, h⟩, rfl⟩⟩
  exact eq_of_name_eq hnd hp hb hname ▸ hpb

theorem insertDesc_perm (x : Entry) : ∀ l : List Entry, (insertDesc x l).Perm (x :: l) := by
  intro l
  induction l with
  | nil => exact List.Perm.refl _
  | cons y ys ih =>
    rw [insertDesc]
    split
    · exact List.Perm.refl _
    · exact (List.Perm.cons y ih).trans (List.Perm.swap x y ys)

theorem sortDesc_perm : ∀ l : List Entry, (sortDesc l).Perm l := by
  intro l
  induction l with
  | nil => exact List.Perm.refl _
  | cons x xs ih => exact (insertDesc_perm x _).trans (List.Perm.cons x ih)

theorem insertDesc_sorted (x : Entry) : ∀ l : List Entry, l.Pairwise (fun a b => keyGe a b = true) →
    (insertDesc x l).Pairwise (fun a b => keyGe a b = true) := by
  intro l
  induction l with
  | nil => exact fun _ => List.pairwise_singleton _ x
  | cons y ys ih =>
    intro h
    have hy := List.pairwise_cons.mp h
    rw [insertDesc]
    split
    · rename_i hxy
      refine List.pairwise_cons.mpr ⟨fun z hz => ?_, h⟩
      rcases List.mem_cons.mp hz with rfl | hz
      · exact hxy
      · exact keyLe_trans (hy.1 z hz) hxy
    · rename_i hxy
      refine List.pairwise_cons.mpr ⟨fun z hz => ?_, ih hy.2⟩
      rcases List.mem_cons.mp ((insertDesc_perm x ys).mem_iff.mp hz) with rfl | hz
      · exact (keyLe_total y.1 z.1).resolve_left hxy
      · exact hy.1 z hz

theorem sortDesc_sorted : ∀ l : List Entry, (sortDesc l).Pairwise (fun a b => keyGe a b = true) := by
  intro l
  induction l with
  | nil => exact List.Pairwise.nil
  | cons x xs ih => exact insertDesc_sorted x _ ih

/-- the sorted, folded copy `reorderSystems` consumes -/
def sortedCopy (ns : List Node) : List Entry := sortDesc (foldBefore ns)

theorem mem_sortedCopy {ns : List Node} {e : Entry} :
    e ∈ sortedCopy ns ↔ e.1 ∈ ns ∧ e.2 = effAfter ns e.1 := by
  rw [sortedCopy, (sortDesc_perm _).mem_iff, foldBefore, List.mem_map]
  exact ⟨fun ⟨n, hn, he⟩ => he ▸ ⟨hn, rfl⟩, fun ⟨h1, h2⟩ => ⟨e.1, h1, Prod.ext rfl h2.symm⟩⟩

theorem sortedCopy_fst (ns : List Node) : ((sortedCopy ns).map (·.1)).Perm ns := by
  have h := (sortDesc_perm (foldBefore ns)).map (·.1)
  have h2 : (foldBefore ns).map (·.1) = ns := by
    simp [foldBefore, List.map_map, Function.comp_def]
  rwa [h2] at h

theorem sortedCopy_depsOk {ns : List Node} (hnd : (ns.map (·.name)).Nodup) :
    DepsOk (sortedCopy ns) := by
  intro p hp q hq
  rw [(mem_sortedCopy.mp hp).2]
  exact mem_effAfter_iff hnd (mem_sortedCopy.mp hq).1

theorem reorder_perm' {ns o : List Node} (h : reorder ns = some o) : o.Perm ns :=
  (placeLoop_perm h).trans (sortedCopy_fst ns)

theorem reorder_valid {ns o : List Node} (hnd : (ns.map (·.name)).Nodup)
    (h : reorder ns = some o) : ValidOrder ns o := by
  have hd := sortedCopy_depsOk hnd
  refine ⟨reorder_perm' h, fun pre a post hs b hb hm => ?_, fun pre c post hs m ⟨hm1, hm2, hm3⟩ => ?_⟩
  · exact placeLoop_respects hd (hs ▸ h) (b, effAfter ns b) (mem_sortedCopy.mpr ⟨hb, rfl⟩) hm
  · exact placeLoop_priority hd ((sortedCopy_fst ns).nodup_iff.mpr (nodup_of_names hnd)) (sortDesc_sorted _)
      (hs ▸ h) (m, effAfter ns m) (mem_sortedCopy.mpr ⟨hm1, rfl⟩) hm2
      (fun q' hq' hmq => hm3 q'.1 (mem_sortedCopy.mp hq').1 hmq)

theorem reorder_none_cyclic {ns : List Node} (hnd : (ns.map (·.name)).Nodup)
    (h : reorder ns = none) : Cyclic ns := by
  have hlen : (sortedCopy ns).length ≤ ns.length :=
    Nat.le_of_eq (List.length_map .. ▸ (sortedCopy_fst ns).length_eq)
  obtain ⟨R, hne, hsub, hR⟩ := placeLoop_none hlen h
  have hpred : ∀ y ∈ R, ∃ x ∈ R, (fun (x y : Entry) => mustPrecede x.1 y.1 = true) x y := fun y hy =>
    let ⟨x, hx, hxy⟩ := hR y hy
    ⟨x, hx, (sortedCopy_depsOk hnd y (hsub y hy) x (hsub x hx)).mp hxy⟩
  obtain ⟨a, ha⟩ := exists_cycle R _ hne hpred
  exact ⟨a.1, ha.map (·.1) (fun e he => (mem_sortedCopy.mp (hsub e he)).1) (fun _ _ h => h)⟩

theorem reorder_cyclic_none {ns : List Node} (hnd : (ns.map (·.name)).Nodup)
    (hc : Cyclic ns) : reorder ns = none := by
  cases h : reorder ns with
  | none => rfl
  | some o =>
    have hp := reorder_perm' h
    exact absurd hc (not_cyclic_of_respects hp (hp.nodup_iff.mpr (nodup_of_names hnd))
      (reorder_valid hnd h).respects)

end Mustache.Systems
